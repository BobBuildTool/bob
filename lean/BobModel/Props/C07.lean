import BobModel.Proofs.C07Cook
import BobModel.Proofs.C07Log
import BobModel.Proofs.C07Bid
import BobModel.Proofs.C07NoBuild
import BobModel.Proofs.C07Fuel
import BobModel.Generated.ConstsC07
/-
C07 — Binary artifacts are reused exactly when they are the right ones.

Models: `Model/Digest.lean` (`buildId`: the bytes `StepIR.getDigestCoro(…, fingerprint, platform, relaxTools=True)`
hashes; shared with C02/C03) and `Model/Download.lean` (`_downloadPackage`, `dissectPackageInputState`, download
modes, `_cookPackageStep`, the package branch of `_cookStep`, Build-Id cache, live-build-id predictions,
`__handleChangedBuildId` and the restart loop).

`H` / `E.H` are hash function parameters; collision freedom and digest length appear as hypotheses (`NoColl`, `HashLen` from
`Proofs/C02Inj.lean`; `Function.Injective`, `BInj`, `BidSound` from `C07Loc`).  The other notions of the statements are defined in
the proof modules: `ToolsFramed`, `bidSem` in `C07Bid`; `NoAlias`, `VidOK`, `Inv` in `C07Cook`; `Honest`, `ArchOK` in `C07Loc`;
`shallowP`, `Acyc` in `C07NoBuild`; `VerifiedLog` in `C07Log`.
-/
namespace C07
open Download

/-- initial depths of `LocalBuilder.__init__`, the (download depth, forced depth) table of `__setDownloadMode` for
every mode and both answers of `archive.canDownload()`, and the byte strings `getPlatformTag` is composed of (no NUL
byte: the tag can be split off the 20 zero bytes that follow it in the digest) -/
theorem consts_as_modelled :
    Consts.C07.downloadDepthInit = ({} : DlCfg).depth ∧ Consts.C07.downloadDepthForceInit = ({} : DlCfg).depthForce ∧
    Consts.C07.uploadDepthInit = ({} : Cfg).uploadDepth ∧
    (∀ t ∈ Consts.C07.platformTagParts, 0 ∉ t) ∧
    (∀ row ∈ Consts.C07.modeTable,
      (Mode.ofString row.1).map (fun m => setDownloadMode m row.2.1) = some { depth := row.2.2.1, depthForce := row.2.2.2.1 } ∧
      row.2.2.2.2 = (row.1 == "packages")) := by
  decide +kernel

section bid
open Digest

/-- the Build-Id is a function of the meaning only: platform tag, script, strong tools (provider id, path,
libraries), strong variables, argument ids, fingerprint and host parts of the arguments.  Nothing else - no
workspace path, no weak variable, nothing of a weakly used tool but its name - can influence it: two workspaces at
different locations with the same recipes, sources and fingerprint compute the same Build-Ids. -/
theorem bid_pure (H : Bytes → Bytes) (p : Bytes) (d₁ d₂ : StepDesc) (hk : ToolsFramed d₁ d₂) (hs : bidSem d₁ = bidSem d₂)
    (hn : d₁.tools.length = d₂.tools.length) (he : d₁.env.length = d₂.env.length) (ha : d₁.args.length = d₂.args.length)
    (hh : semHost d₁ = semHost d₂) : buildId H p d₁ = buildId H p d₂ := by
  unfold buildId
  rw [encRecipeG_of_sem p d₁ d₂ hk hs, encHost_eq_hostOfSem, encHost_eq_hostOfSem, hh]

/-- full statement of injectivity (not asserted: false of model and code, see `bid_injective_goal_false`) -/
def bid_injective_goal : Prop :=
  ∀ (H : Bytes → Bytes) (p₁ p₂ : Bytes) (d₁ d₂ : StepDesc), HashLen H → WF d₁ → WF d₂ →
    (0 : UInt8) ∉ p₁ → (0 : UInt8) ∉ p₂ → HostFramed d₁ d₂ →
    NoColl H (encRecipeG p₁ true d₁) (encRecipeG p₂ true d₂) → NoColl H (encHost d₁) (encHost d₂) →
    buildId H p₁ d₁ = buildId H p₂ d₂ → p₁ = p₂ ∧ bidSem d₁ = bidSem d₂ ∧ semHost d₁ = semHost d₂

/-- **equal Build-Ids ⇒ equal platform tag, script, strong tools (provider Build-Id, path, libraries), strong
variables, argument Build-Ids, fingerprint**, when the same tools are used weakly on both sides (`ToolsFramed`:
`relaxTools` hashes the bare name of a weak tool without a delimiter) and the host contributions sit at the same
positions (`HostFramed`, the undelimited host part known from C02). -/
theorem bid_injective_partial (H : Bytes → Bytes) (hl : HashLen H) (p₁ p₂ : Bytes) (d₁ d₂ : StepDesc)
    (w₁ : WF d₁) (w₂ : WF d₂) (hp₁ : (0 : UInt8) ∉ p₁) (hp₂ : (0 : UInt8) ∉ p₂)
    (ht : ToolsFramed d₁ d₂) (hf : HostFramed d₁ d₂)
    (c₁ : NoColl H (encRecipeG p₁ true d₁) (encRecipeG p₂ true d₂)) (c₂ : NoColl H (encHost d₁) (encHost d₂))
    (h : buildId H p₁ d₁ = buildId H p₂ d₂) : p₁ = p₂ ∧ bidSem d₁ = bidSem d₂ ∧ semHost d₁ = semHost d₂ := by
  have ⟨e1, e2⟩ := digest_inj hl c₁ c₂ h
  have ⟨e0, e1⟩ := encRecipeG_relaxed_inj p₁ p₂ d₁ d₂ w₁ w₂ hp₁ hp₂ ht e1
  exact ⟨e0, e1, semHost_eq_of_framed hf e2⟩

/-- a strongly used tool whose provider id is `AAAA…` versus a weakly used tool whose *name* spells the same bytes -/
def weakWitness₁ : StepDesc :=
  { script := none, tools := [⟨['t'], List.replicate 20 65, [], [], false⟩], env := [], args := [], hostPrefix := [] }
def weakWitness₂ : StepDesc :=
  { script := none, tools := [⟨List.replicate 20 'A' ++ List.replicate 8 (Char.ofNat 0), List.replicate 20 1, [], [], true⟩],
    env := [], args := [], hostPrefix := [] }

theorem weakWitness_same_encoding :
    encRecipeG [] true weakWitness₁ = encRecipeG [] true weakWitness₂ ∧ encHost weakWitness₁ = encHost weakWitness₂ ∧
    bidSem weakWitness₁ ≠ bidSem weakWitness₂ := by
  decide +kernel

/-- without `ToolsFramed` the statement is false for *every* hash function: the undelimited name of a weakly used
tool can spell the record of a strongly used one (needs a tool name with NUL characters and a provider id that is
valid UTF-8 - an artefact of the encoding, no practical collision) -/
theorem bid_injective_goal_false : ¬ bid_injective_goal := by
  intro goal
  have e := weakWitness_same_encoding
  have := goal (fun _ => List.replicate 20 0) [] [] weakWitness₁ weakWitness₂ (fun _ => List.length_replicate)
    (by decide) (by decide) List.not_mem_nil List.not_mem_nil ⟨rfl, rfl⟩ (fun _ => e.1) (fun _ => e.2.1)
    (by unfold buildId; rw [e.1, e.2.1])
  exact e.2.2 this.2.1

/-- **any difference in platform, script, strong tools, strong variables, argument ids or fingerprint yields a
different Build-Id** (contrapositive of `bid_injective_partial`) -/
theorem bid_sensitive (H : Bytes → Bytes) (hl : HashLen H) (p₁ p₂ : Bytes) (d₁ d₂ : StepDesc)
    (w₁ : WF d₁) (w₂ : WF d₂) (hp₁ : (0 : UInt8) ∉ p₁) (hp₂ : (0 : UInt8) ∉ p₂)
    (ht : ToolsFramed d₁ d₂) (hf : HostFramed d₁ d₂)
    (c₁ : NoColl H (encRecipeG p₁ true d₁) (encRecipeG p₂ true d₂)) (c₂ : NoColl H (encHost d₁) (encHost d₂))
    (hne : p₁ ≠ p₂ ∨ bidSem d₁ ≠ bidSem d₂ ∨ semHost d₁ ≠ semHost d₂) : buildId H p₁ d₁ ≠ buildId H p₂ d₂ := by
  intro h
  have ⟨a, b, c⟩ := bid_injective_partial H hl p₁ p₂ d₁ d₂ w₁ w₂ hp₁ hp₂ ht hf c₁ c₂ h
  exact hne.elim (· a) (·.elim (· b) (· c))

/-- … and of everything that consumes it: one changed argument Build-Id (recipe or host half) changes the Build-Id
of the consuming step, all other inputs being equal.  The induction over the dependency graph that carries a change
to every step above is done for Variant-Ids only (`C02.vid_propagates`). -/
theorem bid_propagates_arg (H : Bytes → Bytes) (hl : HashLen H) (p : Bytes) (hp : (0 : UInt8) ∉ p) (d : StepDesc)
    (pre post : List Bytes) (a a' : Bytes)
    (w : WF { d with args := pre ++ a :: post }) (w' : WF { d with args := pre ++ a' :: post })
    (hlen : (sliceHost a).length = (sliceHost a').length)
    (c₁ : NoColl H (encRecipeG p true { d with args := pre ++ a :: post }) (encRecipeG p true { d with args := pre ++ a' :: post }))
    (c₂ : NoColl H (encHost { d with args := pre ++ a :: post }) (encHost { d with args := pre ++ a' :: post }))
    (hne : a ≠ a') :
    buildId H p { d with args := pre ++ a :: post } ≠ buildId H p { d with args := pre ++ a' :: post } := by
  intro h
  have ⟨e1, e2⟩ := digest_inj hl c₁ c₂ h
  exact hne (arg_eq_of_enc (congrArg BidSem.args (encRecipeG_relaxed_inj p p _ _ w w' hp hp rfl e1).2) e2)

/-- the hypotheses of `bid_injective_partial` are satisfiable by two different descriptions with a weakly used tool,
a fingerprint and a hash that separates them -/
example : ∃ (H : Bytes → Bytes) (d₁ d₂ : StepDesc), HashLen H ∧ ToolsFramed d₁ d₂ ∧ HostFramed d₁ d₂ ∧ d₁ ≠ d₂ ∧
    NoColl H (encRecipeG [119] true d₁) (encRecipeG [119] true d₂) ∧ NoColl H (encHost d₁) (encHost d₂) ∧
    buildId H [119] d₁ ≠ buildId H [119] d₂ := by
  refine ⟨fun b => ((b.drop 21).take 20) ++ List.replicate (20 - ((b.drop 21).take 20).length) 0,
    { script := some ['a'], tools := [⟨['w'], [], [], [], true⟩], env := [], args := [], hostPrefix := List.replicate 20 7 },
    { script := some ['b'], tools := [⟨['w'], [1], ['x'], [], true⟩], env := [], args := [], hostPrefix := List.replicate 20 7 },
    ?_, ?_, ?_, ?_, ?_, ?_, ?_⟩
  · intro b
    simp only [List.length_append, List.length_take, List.length_drop, List.length_replicate]
    omega
  · unfold ToolsFramed; decide +kernel
  · exact ⟨rfl, rfl⟩
  · decide +kernel
  · intro h; revert h; decide +kernel
  · intro _; rfl
  · decide +kernel

end bid

/-- **equal Build-Ids, equal results**: with an injective digest and deterministic scripts two packages (of any two
project states) with the same Build-Id have the same from-scratch result, so an honest artifact found under the
Build-Id of a package *is* the result of building it locally -/
theorem equal_bid_equal_result (E : Env) (hB : BInj E) (t t' : Pkg) (h : tb E t = tb E t') : value E t = value E t' :=
  bidSound_of_inj E hB t t' h

mutual
/-- a project moved to another location: every workspace path mapped by `f` -/
def relocate (f : Path → Path) : Pkg → Pkg
  | .mk i ds => .mk { i with path := f i.path } (relocateL f ds)
def relocateL (f : Path → Path) : List Pkg → List Pkg
  | [] => []
  | d :: ds => relocate f d :: relocateL f ds
end

/-- **Build-Ids and results are location free**: identical recipes, sources and fingerprint at different locations
give identical Build-Ids (and identical from-scratch results) -/
theorem bid_location_free (E : Env) (f : Path → Path) (t : Pkg) :
    tb E (relocate f t) = tb E t ∧ value E (relocate f t) = value E t :=
  Pkg.rec (motive_1 := fun t => tb E (relocate f t) = tb E t ∧ value E (relocate f t) = value E t)
    (motive_2 := fun ds => tbs E (relocateL f ds) = tbs E ds ∧ values E (relocateL f ds) = values E ds)
    (fun i ds ih => by simp only [relocate, tb, value, ih.1, ih.2, and_self])
    ⟨rfl, rfl⟩
    (fun d ds hd hds => by simp only [relocateL, tbs, values, hd.1, hd.2, hds.1, hds.2, and_self])
    t

/-- **whatever the archive contains** - honest artifacts of any project states (`Honest`: the result of a local build
of a package with that Build-Id plus its audit trail) and corrupt ones (`Corrupt`: extraction fails, no audit trail,
recorded result hash ≠ content hash) - **and whatever the workspaces were used for before** (`Inv`: any state
reachable by earlier invocations on arbitrary project states), for every download mode, depth, `--force`, upload
setting: two invocations that succeed end with the same content in the target package, namely the result of a
purely local from-scratch build.  (One of the two may be the build without archive.)  No prediction is involved
(`pred = none`); see `misprediction_restart` for predictions. -/
theorem honest_archive (E : Env) (ρ : Vid → RSig) (hB : BidSound E) (hH : Function.Injective E.H) (t : Pkg)
    (hNA : NoAlias (nodes t)) (hV : VidOK ρ (nodes t)) (hnp : ∀ u ∈ nodes t, u.info.pred = none)
    (cfg cfg' : Cfg) (s s' : St) (a a' : Archive) (hI : Inv E ρ s) (hI' : Inv E ρ s') (hA : ArchOK E a) (hA' : ArchOK E a')
    (r r' : Run) (h : cook E cfg t s a = .ok r) (h' : cook E cfg' t s' a' = .ok r') :
    r.st.disk t.path = some (value E t) ∧ r'.st.disk t.path = r.st.disk t.path := by
  have e : ∀ F, eff F t = t := fun F => eff_id F t (fun u hu => Or.inr (Or.inl (hnp u hu)))
  have h1 := (cook_spec hB hH cfg t hNA hV s a hI hA).2.2 r h
  have h2 := (cook_spec hB hH cfg' t hNA hV s' a' hI' hA').2.2 r' h'
  rw [e] at h1 h2
  exact ⟨h1, by rw [h1, h2]⟩

/-- the workspace state stays trustworthy and the archive honest after *every* invocation, also one that ends in a
`BuildError` (corrupt artifact, forced download failed): the next invocation of the edit history starts from a state
that satisfies the hypotheses of `honest_archive` again; in particular every artifact that is uploaded is honest -/
theorem invariant_preserved (E : Env) (ρ : Vid → RSig) (hB : BidSound E) (hH : Function.Injective E.H) (t : Pkg)
    (hNA : NoAlias (nodes t)) (hV : VidOK ρ (nodes t)) (cfg : Cfg) (s : St) (a : Archive) (hI : Inv E ρ s) (hA : ArchOK E a) :
    Inv E ρ (cook E cfg t s a).run.st ∧ ArchOK E (cook E cfg t s a).run.arch :=
  ⟨(cook_spec hB hH cfg t hNA hV s a hI hA).1, (cook_spec hB hH cfg t hNA hV s a hI hA).2.1⟩

/-- a fresh workspace and an empty archive satisfy the hypotheses -/
theorem fresh_ok (E : Env) (ρ : Vid → RSig) : Inv E ρ St.init ∧ ArchOK E (fun _ => none) :=
  ⟨fun _ => invLoc_of_inp_none E ρ _ rfl, fun _ _ h => by cases h⟩

/-- an environment in which results spell out what they were made of -/
def exE : Env :=
  { H := id, semB := fun rs s cs => rs ++ "|" ++ s ++ "|" ++ String.join cs, semP := fun _ c => c,
    B := fun rs s bs => rs ++ "|" ++ s ++ "|" ++ String.join bs, junk := "junk" }

theorem exE_value_eq_tb (t : Pkg) : value exE t = tb exE t :=
  Pkg.rec (motive_1 := fun t => value exE t = tb exE t) (motive_2 := fun ds => values exE ds = tbs exE ds)
    (fun i ds ih => by simp only [value, tb, exE] at ih ⊢; rw [ih])
    rfl
    (fun d ds hd hds => by simp only [values, tbs, hd, hds])
    t

def exLib : Pkg := .mk ⟨"dist/lib", "v-lib", "r-lib", "src1", none, false, none⟩ []
def exRoot : Pkg := .mk ⟨"dist/root", "v-root", "r-root", "srcR", none, false, none⟩ [exLib]
def exRho : Vid → RSig := fun v => if v = "v-lib" then "r-lib" else "r-root"

/-- the hypotheses of `honest_archive` are satisfiable: an environment with sound Build-Ids and an injective hash, a
two package project, and an archive that holds the honest artifact of the library and a corrupt one for the root -/
example : BidSound exE ∧ Function.Injective exE.H ∧ NoAlias (nodes exRoot) ∧ VidOK exRho (nodes exRoot) ∧
    (∀ u ∈ nodes exRoot, u.info.pred = none) ∧
    ArchOK exE (fun b => if b = tb exE exLib then some (.good (value exE exLib) (some (exE.H (value exE exLib))))
                          else if b = tb exE exRoot then some (.good "garbage" (some "wrong")) else none) := by
  refine ⟨fun t t' h => by rw [exE_value_eq_tb, exE_value_eq_tb]; exact h, fun _ _ h => h, noAlias_pair (by decide),
    forall_mem_pair (by decide) (by decide), forall_mem_pair rfl rfl, ?_⟩
  · intro b x hx
    dsimp only at hx
    by_cases hb : b = tb exE exLib
    · rw [if_pos hb] at hx
      exact Or.inl ⟨exLib, hb.symm, (Option.some.inj hx).symm⟩
    · rw [if_neg hb] at hx
      by_cases hb' : b = tb exE exRoot
      · rw [if_pos hb'] at hx
        exact Or.inr (Option.some.inj hx ▸ (by decide : "wrong" ≠ exE.H "garbage"))
      · rw [if_neg hb'] at hx
        cases hx

/-- **`inputs[p] = downloaded b` is written only in a state where the audit trail of `p` is present and records the
hash of what is in the workspace** (`VerifiedLog`), in every invocation: any project, start state, archive (honest or
not), configuration, predictions, restarts -/
theorem accepted_download_verified (E : Env) (cfg : Cfg) (t : Pkg) (s : St) (a : Archive) :
    VerifiedLog E (s, a) (cook E cfg t s a).run.log ∧
    ((cook E cfg t s a).run.st, (cook E cfg t s a).run.arch) = applyOps E (s, a) (cook E cfg t s a).run.log := by
  have : RunOK E s a (cook E cfg t s a).run := rounds_runok cfg t (size t + 1) _ ⟨rfl, trivial⟩
  exact ⟨this.2, this.1⟩

/-- the same for one call of `_downloadPackage` from an arbitrary state, in terms of its micro-operation list: the
operation is preceded by a successful extraction whose audit hash equals the content hash -/
theorem accepted_download_verified_call (E : Env) (cfg : Cfg) (depth : Nat) (i : PInfo) (b : BuildId) (l : Loc)
    (x : Option Artifact) : VLoc E l (dlOps E cfg depth i b l x).1 :=
  dlOps_verified E cfg depth i b l x

/-- a corrupt artifact is never accepted: the call ends in a `BuildError` and writes no input state -/
theorem corrupt_rejected (E : Env) (cfg : Cfg) (depth : Nat) (i : PInfo) (b : BuildId) (y : Artifact)
    (hy : Corrupt E y) (hc : cfg.canDownload = true) :
    (dlFetchOps E cfg depth i b (fetch cfg (some y))).2 = .error ∧
    ∀ op ∈ (dlFetchOps E cfg depth i b (fetch cfg (some y))).1, ∀ inp, op ≠ .setInputs i.path inp := by
  rw [fetch_some hc]
  rcases y with ⟨c, _ | h⟩ | _
  · exact ⟨rfl, List.forall_mem_singleton.mpr fun _ e => nomatch e⟩
  · rw [dlFetchOps_bad hy]
    exact ⟨rfl, List.forall_mem_cons.mpr ⟨(fun _ e => nomatch e),
      forall_mem_pair (P := fun op => ∀ inp, op ≠ Op.setInputs i.path inp) (fun _ e => nomatch e) (fun _ e => nomatch e)⟩⟩
  · exact ⟨rfl, List.forall_mem_singleton.mpr fun _ e => nomatch e⟩

/-- **a changed Build-Id prunes first**: if the workspace was built, downloaded or shared under another Build-Id
(or the recorded state is unreadable) and a download may be tried, `_downloadPackage` invalidates the state, empties
the workspace, removes the audit trail and resets the state *before* anything else; afterwards the workspace is
recorded as downloaded under the *new* id or not at all -/
theorem stale_download_pruned (E : Env) (cfg : Cfg) (depth : Nat) (i : PInfo) (b : BuildId) (l : Loc)
    (x : Option Artifact) (ht : tryDownload cfg.dl depth i = true)
    (hold : (dissect l.inp).oldBid ≠ .none) (hne : (dissect l.inp).oldBid ≠ .bid b) :
    (∃ rest, (dlOps E cfg depth i b l x).1 =
      (if l.disk.isNone then [Op.mkDir i.path] else []) ++
      [.reset i.path none, .emptyDir i.path, .rmAudit i.path, .reset i.path (some i.vid)] ++ rest) ∧
    (((dlOps E cfg depth i b l x).1.foldl (locOp E) l).inp = none ∨
     ((dlOps E cfg depth i b l x).1.foldl (locOp E) l).inp = some (.downloaded b)) := by
  have hp : dlPrune cfg b (dissect l.inp) = true := by
    unfold dlPrune
    cases ho : (dissect l.inp).oldBid with
    | none => exact absurd ho hold
    | other => simp
    | bid b' =>
      have : b' ≠ b := fun e => hne (by rw [ho, e])
      simp [this]
  rw [dlOps_prune ht hp]
  refine ⟨⟨_, rfl⟩, ?_⟩
  -- the prune block leaves no recorded state; only a verified download records one
  rw [List.foldl_append, List.foldl_append, foldl_mkOps]
  rcases fetch cfg x with _ | ⟨c, _ | h⟩ | _
  · exact Or.inl rfl
  · exact Or.inl rfl
  · by_cases hc : h = E.H c
    · subst hc
      rw [dlFetchOps_good]
      exact Or.inr rfl
    · rw [dlFetchOps_bad hc]
      exact Or.inl rfl
  · exact Or.inl rfl

/-- … and what was downloaded is never taken for built: `_cookPackageStep` on a workspace recorded as downloaded
(under whatever id) runs the package again on an emptied workspace -/
theorem downloaded_never_skipped (E : Env) (cfg : Cfg) (i : PInfo) (b b' : BuildId) (depC : List Content) (tok : Nat)
    (l : Loc) (h : l.inp = some (.downloaded b')) : (pkgOps E cfg i b depC tok l).2 = true := by
  simp [pkgOps, h, dissect]

/-- **wrong live-build-id predictions are recovered.**
(a) `__handleChangedBuildId` records the real source id, drops every derived Build-Id and forgets the executed
package steps (it does *not* forget which downloads were tried: `_clearDownloadTried` assigns an unused attribute);
(b) whatever the predictions were, however many restarts it took and whatever was fetched under wrong ids meanwhile:
a successful invocation leaves the workspace state trustworthy and the archive honest (nothing was uploaded under an
id it does not belong to), the target holds exactly the result of a local build of the project state the *final*
Build-Ids describe, and if no wrong prediction is left undetected that is the real project state. -/
theorem misprediction_restart (E : Env) (ρ : Vid → RSig) (hB : BidSound E) (hH : Function.Injective E.H) (t : Pkg)
    (hNA : NoAlias (nodes t)) (hV : VidOK ρ (nodes t)) (cfg : Cfg) (s : St) (a : Archive) (hI : Inv E ρ s) (hA : ArchOK E a) :
    (∀ (i : PInfo) (m : Mem), (handleChangedBuildId i m).fixed i.path = true ∧ (handleChangedBuildId i m).bids = (fun _ => none) ∧
      (handleChangedBuildId i m).wasRun = (fun _ => none) ∧ (handleChangedBuildId i m).tried = m.tried) ∧
    (∀ (i : PInfo) (r r5 : Run), checkSrc i r = some r5 → srcNow r.mem i ≠ i.src ∧ srcNow r5.mem i = i.src) ∧
    (∀ r', cook E cfg t s a = .ok r' →
      Inv E ρ r'.st ∧ ArchOK E r'.arch ∧ r'.st.disk t.path = some (value E (eff r'.mem.fixed t)) ∧
      (PredOK r'.mem.fixed t → r'.st.disk t.path = some (value E t))) := by
  refine ⟨?_, ?_, ?_⟩
  · intro i m
    simp [handleChangedBuildId, clearDownloadTried, upd_same]
  · intro i r r5 h
    rcases checkSrc_cases i r with ⟨_, e⟩ | ⟨hc, e⟩ <;> rw [e] at h <;> cases h
    exact ⟨hc, by simp [srcNow, handleChangedBuildId, clearDownloadTried, upd_same]⟩
  · intro r' h
    have hs := cook_spec hB hH cfg t hNA hV s a hI hA
    rw [h] at hs
    refine ⟨hs.1, hs.2.1, hs.2.2 r' rfl, ?_⟩
    intro hp
    have := hs.2.2 r' rfl
    rw [eff_id _ t hp] at this
    exact this

/-- **the restart loop terminates**: every restart makes the real source id of one more package known, so an
invocation ends after at most (number of packages + 1) rounds in success or in a `BuildError`, never in a restart -/
theorem restart_terminates (E : Env) (cfg : Cfg) (t : Pkg) (s : St) (a : Archive) :
    (∃ r, cook E cfg t s a = .ok r) ∨ (∃ r, cook E cfg t s a = .abort r) := by
  cases h : cook E cfg t s a with
  | ok r => exact Or.inl ⟨r, rfl⟩
  | abort r => exact Or.inr ⟨r, rfl⟩
  | restart r => exact absurd h (cook_no_restart E cfg t s a r)

/-- what the upload of a freshly built package leaves in the archive under its Build-Id: an extractable artifact
whose audit trail records the hash of its content (an artifact that is already there is never overwritten) -/
theorem uploaded_artifact_consistent (E : Env) (s : St) (a : Archive) (p : Path) (b : BuildId) (c : Content)
    (haud : s.audit p = some (E.H c)) (hd : s.disk p = some c)
    (hcons : ∀ x, a b = some x → ∃ c', x = .good c' (some (E.H c'))) :
    ∃ c', (applyOp E (s, a) (.upload p b)).2 b = some (.good c' (some (E.H c'))) := by
  rcases applyOp_upload E s a p b with ⟨h, e⟩ | ⟨au, h1, _, e⟩ <;> rw [e]
  · obtain ⟨x, hb⟩ := h.resolve_left (fun h => nomatch haud.symm.trans h)
    obtain ⟨c', hc'⟩ := hcons x hb
    exact ⟨c', hb.trans (congrArg some hc')⟩
  · exact ⟨c, by rw [hd, ← Option.some.inj (haud.symm.trans h1)]; exact upd_same⟩

theorem nodes_relocate (f : Path → Path) (t : Pkg) : nodes (relocate f t) = (nodes t).map (relocate f) :=
  Pkg.rec (motive_1 := fun t => nodes (relocate f t) = (nodes t).map (relocate f))
    (motive_2 := fun ds => nodesL (relocateL f ds) = (nodesL ds).map (relocate f))
    (fun i ds ih => by simp only [relocate, nodes, List.map_cons, ih])
    rfl
    (fun d ds hd hds => by simp only [relocateL, nodesL, List.map_append, hd, hds])
    t

/-- **an uploaded artifact is downloaded** (one call of `_downloadPackage`): where a download may be tried
(`tryDownload`: at or below the download depth, or matched by `packages=` / a layer mode), the archive can be read,
the workspace is fresh or download-only and the archive holds an extractable artifact with a matching audit trail
under the Build-Id, the call reports a download and executes nothing -/
theorem uploaded_is_downloaded (E : Env) (cfg : Cfg) (depth : Nat) (i : PInfo) (b : BuildId) (l : Loc) (c : Content)
    (ht : tryDownload cfg.dl depth i = true) (hc : cfg.canDownload = true) (hl : DLOnly l) :
    (dlOps E cfg depth i b l (some (.good c (some (E.H c))))).2 = .downloaded ∧
    (∀ op ∈ (dlOps E cfg depth i b l (some (.good c (some (E.H c))))).1, ∀ p c', op ≠ .runPackage p c') := by
  refine ⟨dl_succeeds E cfg depth i b l c ht hc hl, ?_⟩
  intro op hop p c' e
  have := dlOps_norun E cfg depth i b l _ op hop
  rw [e] at this
  simp [Op.isRun] at this

/-- **upload, then download without building - for every download mode and depth.**
`t0` is the project state the uploader cooked at its location; the downloader has the same recipes, sources and
fingerprints at another location (`relocate f t0`: same Build-Ids by `bid_location_free`), a workspace that is fresh or
was only used for downloads, and an archive that holds, for every package, what the uploader's local build put there
under its Build-Id (`Full`; every uploaded artifact is of this form and honest, see `invariant_preserved`).  Then for
every configuration that can read the archive the invocation succeeds, and the only package scripts it executes
belong to packages *above* the download depth (`shallowP`: those for which no download may be tried, and only as
far down as a package that may be downloaded).  The target holds the result of the uploader's local build and the
archive is unchanged. -/
theorem upload_then_download_no_build (E : Env) (ρ : Vid → RSig) (hB : BidSound E) (hH : Function.Injective E.H)
    (f : Path → Path) (t0 : Pkg) (cfg : Cfg) (s : St) (a : Archive)
    (hNA : NoAlias (nodes (relocate f t0))) (hV : VidOK ρ (nodes (relocate f t0))) (hAc : Acyc (nodes (relocate f t0)))
    (hnp : ∀ u ∈ nodes t0, u.info.pred = none) (hI : Inv E ρ s) (hA : ArchOK E a) (hc : cfg.canDownload = true)
    (hfull : Full E a (nodes t0))
    (hdl : ∀ u ∈ nodes (relocate f t0), DLOnly (s.loc u.path)) :
    ∃ r', cook E cfg (relocate f t0) s a = .ok r' ∧
      (∀ p c, Op.runPackage p c ∈ r'.log → p ∈ shallowP cfg.dl 0 (relocate f t0)) ∧
      r'.st.disk (relocate f t0).path = some (value E t0) ∧ r'.arch = a := by
  have hloc := bid_location_free E f t0
  have hnp' : ∀ u ∈ nodes (relocate f t0), u.info.pred = none := by
    intro u hu
    rw [nodes_relocate] at hu
    obtain ⟨v, hv, rfl⟩ := List.mem_map.mp hu
    have := hnp v hv
    cases v with
    | mk i ds => simpa [relocate, Pkg.info] using this
  have hfull' : Full E a (nodes (relocate f t0)) := by
    intro u hu
    rw [nodes_relocate] at hu
    obtain ⟨v, hv, rfl⟩ := List.mem_map.mp hu
    rw [(bid_location_free E f v).1]
    exact hfull v hv
  generalize relocate f t0 = t at hNA hV hAc hnp' hdl hloc hfull' ⊢
  have hG0 := G_init (N := nodes t) s a hI hA
  have hA0 : Acc (nodes t) [] { st := s, arch := a, mem := Mem.init, log := [] } := by
    intro u hu _ _
    exact ⟨rfl, hdl u hu⟩
  obtain ⟨r', hr', harch, hruns⟩ := nb_all hB hH hNA hV hAc hnp' cfg hc t 0 _ []
    (fun u hu => hu) hG0 hA0 (fun _ _ h => by cases h) hfull'
  have hcook : cook E cfg t s a = .ok r' := by
    unfold cook
    simp only [cookRounds, hr']
  refine ⟨r', hcook, ?_, ?_, harch⟩
  · intro p c hm
    rcases hruns p c hm with h | h
    · cases h
    · exact h
  · have := (cook_spec hB hH cfg t hNA hV s a hI hA).2.2 r' hcook
    rw [eff_id _ t (fun u hu => Or.inr (Or.inl (hnp' u hu))), hloc.2] at this
    exact this

/-- the download depth 0 (modes `yes`, `forced`, `forced-fallback`): no package script at all is executed -/
theorem upload_then_download_nothing_built (E : Env) (ρ : Vid → RSig) (hB : BidSound E) (hH : Function.Injective E.H)
    (f : Path → Path) (t0 : Pkg) (cfg : Cfg) (s : St) (a : Archive)
    (hNA : NoAlias (nodes (relocate f t0))) (hV : VidOK ρ (nodes (relocate f t0))) (hAc : Acyc (nodes (relocate f t0)))
    (hnp : ∀ u ∈ nodes t0, u.info.pred = none) (hI : Inv E ρ s) (hA : ArchOK E a) (hc : cfg.canDownload = true)
    (hfull : Full E a (nodes t0)) (hdl : ∀ u ∈ nodes (relocate f t0), DLOnly (s.loc u.path))
    (hd : tryDownload cfg.dl 0 (relocate f t0).info = true) :
    ∃ r', cook E cfg (relocate f t0) s a = .ok r' ∧ (∀ p c, Op.runPackage p c ∉ r'.log) := by
  obtain ⟨r', h1, h2, _, _⟩ := upload_then_download_no_build E ρ hB hH f t0 cfg s a hNA hV hAc hnp hI hA hc hfull hdl
  refine ⟨r', h1, ?_⟩
  intro p c hm
  have := h2 p c hm
  cases ht : relocate f t0 with
  | mk i ds =>
    rw [ht] at this hd
    simp [shallowP, Pkg.info] at this hd
    rw [hd] at this
    simp at this

/-- the hypotheses about the downloader's side are satisfiable: the example project at another location, a fresh
workspace, the archive the example environment's local builds fill -/
example : NoAlias (nodes (relocate (fun p => "/other/" ++ p) exRoot)) ∧
    Acyc (nodes (relocate (fun p => "/other/" ++ p) exRoot)) ∧
    Full exE (fun b => if b = tb exE exLib then some (.good (value exE exLib) (some (exE.H (value exE exLib))))
                       else if b = tb exE exRoot then some (.good (value exE exRoot) (some (exE.H (value exE exRoot)))) else none)
      (nodes exRoot) ∧
    (∀ u ∈ nodes (relocate (fun p => "/other/" ++ p) exRoot), DLOnly (St.init.loc u.path)) := by
  refine ⟨noAlias_pair (by decide), (acyc_iff _).mpr (forall_mem_pair ?_ ?_), forall_mem_pair ?_ ?_,
    fun u _ => Or.inl ⟨rfl, rfl⟩⟩
  · exact List.forall_mem_singleton.mpr (by decide)
  · exact fun _ h => nomatch h
  · exact ⟨value exE exRoot, (if_neg (by decide : tb exE exRoot ≠ tb exE exLib)).trans (if_pos rfl)⟩
  · exact ⟨value exE exLib, if_pos rfl⟩

end C07
