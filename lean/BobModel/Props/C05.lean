import BobModel.Props.C01
import BobModel.Proofs.C05Log
import BobModel.Proofs.C05Emit
import BobModel.Proofs.C05Rerun
/-
C05 — failed or killed builds never poison the workspace: property theorems about the builder model
(Model/Builder.lean).  Definitions and lemmas live in Proofs/C01*.lean and Proofs/C05*.lean: `Truthful`, `Loc`
in `C01Base`, `NoClaim` in `C01Truthful`, `AllWF` in `C01Cook`, `TreeWF`, `SemHyp`, `reach` in `C01Done`.

An aborted run is `invoke E cfg t fuel st` with too little `fuel`: the micro-operation list of the
invocation is cut after `fuel` operations.  A script is two micro-operations, the cut between them
leaves the arbitrary content `E.junk` in the workspace; a failing script (`E.sem … = .fail c`)
leaves its partial output `c` and aborts the run.  `E` (hash, script semantics, junk) is universally
quantified everywhere.
-/
namespace C05
open Builder

/-- the cook functions of the current source perform their state updates and workspace operations in
the order the model was transcribed from -/
theorem source_order_matches :
    Consts.C01.buildCalls = expectedBuildCalls ∧ Consts.C01.prepareCalls = expectedPrepareCalls ∧
    Consts.C01.packageCalls = expectedPackageCalls ∧ Consts.C01.checkoutCalls = expectedCheckoutCalls :=
  C01.source_order_matches

/-- the source order of `_cookBuildStep` / `_preparePackageStep` invalidates the stored state before
a prune empties the workspace (constants regenerated from the current source) -/
theorem prune_invalidates_first :
    Consts.C01.buildPruneInvalidatesFirst = true ∧ Consts.C01.packagePruneInvalidatesFirst = true :=
  C01.prune_invalidates_first

/-- **Truthful at every cut**: after every prefix of the micro-operations of every invocation
(any project, any flags, any cut point `fuel`, any junk content, any failing script) Bob's state
never claims more than the disk holds. -/
theorem truthful_at_every_cut (E : Env) (dev : Bool) (Γ : Path → List (Dir × Digest)) (cfg : Cfg) (t : Step)
    (hinj : Function.Injective E.H) (hdev : cfg.cleanBuild = false → dev = true) (hwf : AllWF Γ t)
    (st : St) (h : Truthful E dev Γ st) (fuel : Nat) :
    Truthful E dev Γ (invoke E cfg t fuel st).st :=
  C01.cook_preserves_truthful E dev Γ cfg t hinj hdev hwf st h fuel

theorem runAny_truthful (E : Env) (dev : Bool) (Γ : Path → List (Dir × Digest)) (hinj : Function.Injective E.H)
    (hist : List (Cfg × Step × Nat × Content))
    (hall : ∀ x ∈ hist, (x.1.cleanBuild = false → dev = true) ∧ AllWF Γ x.2.1)
    (st : St) (h : Truthful E dev Γ st) : Truthful E dev Γ (runAny E hist st) :=
  h.runAny prune_invalidates_first hinj hist hall

/-- **aborted builds never poison the workspace**: after any history of invocations of well-formed
project states with one SCM layout `Γ` per checkout path (as for `C01.incremental_eq_clean`) - any
number of them failing or killed at any cut with any junk left behind - a
successful invocation produces, for every reachable step of its project (in particular every
package result), exactly the content of a from-scratch build in an empty workspace. -/
theorem abort_then_cook_eq_clean (E : Env) (dev : Bool) (Γ : Path → List (Dir × Digest))
    (hinj : Function.Injective E.H) (hist : List (Cfg × Step × Nat × Content))
    (hall : ∀ x ∈ hist, (x.1.cleanBuild = false → dev = true) ∧ AllWF Γ x.2.1)
    (cfg : Cfg) (T : Step) (fuel : Nat) (rA : Run)
    (hdev : cfg.cleanBuild = false → dev = true) (hsem : SemHyp E dev T) (hwf : TreeWF Γ T)
    (hnd : cfg.noDeps = false) (hco : cfg.checkoutOnly = false)
    (hA : invoke E cfg T fuel (runAny E hist St.init) = .ok () rA)
    (cfgB : Cfg) (fuelB : Nat) (rB : Run) (hdevB : cfgB.cleanBuild = false → dev = true)
    (hndB : cfgB.noDeps = false) (hcoB : cfgB.checkoutOnly = false)
    (hB : invoke E cfgB T fuelB St.init = .ok () rB) :
    ∀ u ∈ reach T, rA.st.disk u.path = rB.st.disk u.path ∧ rA.st.disk u.path = some (value E u) := by
  have ht := runAny_truthful E dev Γ hinj hist hall St.init (truthful_init E dev Γ)
  have dA := (C01.cook_result_is_dataflow E dev Γ cfg T hinj hdev hsem hwf hnd hco _ ht fuel rA hA).2
  have dB := (C01.cook_result_is_dataflow E dev Γ cfgB T hinj hdevB hsem hwf hndB hcoB St.init (truthful_init E dev Γ)
    fuelB rB hB).2
  intro u hu
  exact ⟨by rw [dA u hu, dB u hu], dA u hu⟩

/-- **no claim while a workspace is being modified**: whenever an invocation stops - killed, out
of fuel, or because a script failed - right after the begin or the end of a step script in workspace
`p` (i.e. while the script runs, after it failed, or before its result is recorded), the stored
state claims nothing about `p`: the input hashes are gone (build and package steps) or the directory
state lacks the variant-id key (checkout).  Holds for every project, state, flag set and
environment: it is a property of the source order alone. -/
theorem cut_in_script_unclaimed (E : Env) (cfg : Cfg) (T : Step) (fuel : Nat) (st : St) (p : Path)
    (hlast : (invoke E cfg T fuel st).log.getLast? = some (.scriptBegin p) ∨
      ∃ ok, (invoke E cfg T fuel st).log.getLast? = some (.scriptEnd p ok)) :
    NoClaim (invoke E cfg T fuel st).st p := by
  exact wp_res (P := fun st log => ∀ p, (log.getLast? = some (.scriptBegin p) ∨
      ∃ ok, log.getLast? = some (.scriptEnd p ok)) → NoClaim st p)
    (logsafe_cook (E := E) cfg cfg.checkoutOnly T { st := st, mem := Mem.init, fuel := fuel, log := [] }
      (by intro q hq; simp [lastOp] at hq)) p hlast

/-- **an unclaimed workspace is never treated as up to date**: if the stored state claims nothing
about the workspace of a step (which is what every cut inside its script leaves behind,
`cut_in_script_unclaimed`), then cooking that step - for every project state, flag set and
environment - starts its script again whenever the cook function returns normally: the skip tests
of `_cookBuildStep`, `_preparePackageStep` + `_cookPackageStep` and `_cookCheckoutStep` all fail. -/
theorem unclaimed_step_is_rerun (E : Env) (cfg : Cfg) (i : Info) (pre ds : List Step) (r : Run)
    (hc : NoClaim r.st i.path) :
    wp (cookBuild E cfg i ds) (fun _ r' => Op.scriptBegin i.path ∈ r'.log) (fun _ => True) r ∧
    wp (cookCheckout E cfg i ds) (fun _ r' => Op.scriptBegin i.path ∈ r'.log) (fun _ => True) r ∧
    wp (preparePackage i ds) (fun _ r' => r'.st.inputs i.path = none) (fun _ => True) r ∧
    (r.st.inputs i.path = none →
      wp (cookPackage E cfg i pre ds) (fun _ r' => Op.scriptBegin i.path ∈ r'.log) (fun _ => True) r) :=
  ⟨cookBuild_emits cfg i ds r hc, cookCheckout_emits cfg i ds r hc, preparePackage_unclaimed i ds r hc,
    fun hi => cookPackage_emits cfg i pre ds r hi⟩

/-- the log-level reading of "Bob never treats a step as up to date whose workspace was left
incomplete": after a cut inside the script of `p`, the next successful invocation of a project that
contains a step at `p` starts that script again.  As stated - for EVERY flag set `cfg'` of the second
invocation - this is false of the model and of the implementation (`no_false_uptodate_refuted`): an
invocation with `--checkout-only` (or `--no-deps`) that does not request the step at `p` at all
succeeds without touching it.  Proved with the hypothesis that the second invocation requests all
steps (`cfg'.noDeps = false`; `cfg'.checkoutOnly = true` only if the step at `p` is a checkout step):
`no_false_uptodate_partial`. -/
def no_false_uptodate_goal : Prop :=
  ∀ (E : Env) (dev : Bool) (Γ : Path → List (Dir × Digest)) (cfg cfg' : Cfg) (T T' : Step) (fuel fuel' : Nat) (st : St)
    (p : Path) (r' : Run),
    Function.Injective E.H → Truthful E dev Γ st → AllWF Γ T → TreeWF Γ T' →
    (invoke E cfg T fuel st).log.getLast? = some (.scriptBegin p) →
    (∃ u ∈ reach T', u.path = p) →
    invoke E cfg' T' fuel' (invoke E cfg T fuel st).st = .ok () r' →
    Op.scriptBegin p ∈ r'.log

open C01.Example in
theorem ex_bLib_reach (w s : String) : ∃ u ∈ reach (pApp w s), u.path = "build/lib" := by
  refine ⟨bLib, ?_, by simp [Step.path, Step.info, bLib, mkInfo]⟩
  have h := self_mem_reach bLib
  simp [reach, reachL, pApp, bApp, pLib, h]

open C01.Example in
/-- `bob dev app` of the example project, killed after 25 micro-operations: the build script of
`build/lib` is running -/
theorem ex_cut_in_build :
    (invoke exE devCfg (pApp "w" "s") 25 St.init).log.getLast? = some (.scriptBegin "build/lib") := by
  decide +kernel

open C01.Example in
/-- the goal is false for arbitrary flags of the second invocation.  Witness (example project of
`Props/C01.lean`, develop mode): `bob dev app` killed while the build script of `build/lib` runs
(cut after 25 micro-operations), then `bob dev --checkout-only app`: it succeeds and - correctly -
does not run the build step.  The same happens with `--no-deps` for a step of another package. -/
theorem no_false_uptodate_refuted : ¬ no_false_uptodate_goal := by
  intro h
  have hok : (invoke exE { checkoutOnly := true } (pApp "w" "s") 1000
      (invoke exE devCfg (pApp "w" "s") 25 St.init).st).isOk = true := by
    decide +kernel
  have hno : Op.scriptBegin "build/lib" ∉ (invoke exE { checkoutOnly := true } (pApp "w" "s") 1000
      (invoke exE devCfg (pApp "w" "s") 25 St.init).st).log := by
    decide +kernel
  cases hB : invoke exE { checkoutOnly := true } (pApp "w" "s") 1000 (invoke exE devCfg (pApp "w" "s") 25 St.init).st with
  | abort r => rw [hB] at hok; cases hok
  | ok a rB =>
    rw [hB] at hno
    apply hno
    exact h exE true exΓ devCfg { checkoutOnly := true } (pApp "w" "s") (pApp "w" "s") 25 1000 St.init "build/lib" rB
      ex_inj (truthful_init _ _ _) (ex_wf _ _).wf (ex_wf _ _) ex_cut_in_build
      (ex_bLib_reach _ _) hB

/-- **an unclaimed workspace is cooked again**, through the depth-first driver: from ANY state that
claims nothing about workspace `p`, a successful invocation that requests the step at `p` (no
`--no-deps`; `--checkout-only` only if the step at `p` is a checkout step) of any project that reaches
a step at `p` starts the script of `p`.  No hypothesis on the environment, the scripts, the state or
the first project; of `TreeWF Γ T'` only `pathInj` and `StepWF.acyc` are used (`rerun_of_unclaimed`). -/
theorem unclaimed_workspace_is_rerun (E : Env) (Γ : Path → List (Dir × Digest)) (cfg' : Cfg) (T' : Step) (fuel' : Nat)
    (st : St) (p : Path) (r' : Run) (hwf : TreeWF Γ T') (hnd : cfg'.noDeps = false)
    (hnc : NoClaim st p)
    (hp : ∃ u ∈ reach T', u.path = p ∧ (cfg'.checkoutOnly = true → u.kind = .checkout))
    (h : invoke E cfg' T' fuel' st = .ok () r') :
    Op.scriptBegin p ∈ r'.log := by
  obtain ⟨u, hu, hpu, hco⟩ := hp
  exact rerun_of_unclaimed hwf.pathInj (fun u hu => (hwf.wf u hu).acyc) hnd st hnc fuel' r' h u hu hpu hco

/-- **no false up-to-date** (`no_false_uptodate_goal` with the added hypothesis that the second
invocation requests the step at `p`: `cfg'.noDeps = false`, and `cfg'.checkoutOnly = true` only if
the step at `p` is a checkout step): after a cut - kill, fuel, failing script - right after the begin
or the end of the script of workspace `p`, the next successful invocation of any project containing
a step at `p` starts that script again.  The hypotheses `Function.Injective E.H`, `Truthful`,
`AllWF Γ T` of the goal are not needed. -/
theorem no_false_uptodate_partial (E : Env) (Γ : Path → List (Dir × Digest)) (cfg cfg' : Cfg) (T T' : Step)
    (fuel fuel' : Nat) (st : St) (p : Path) (r' : Run) (hwf : TreeWF Γ T')
    (hnd : cfg'.noDeps = false)
    (hlast : (invoke E cfg T fuel st).log.getLast? = some (.scriptBegin p) ∨
      ∃ ok, (invoke E cfg T fuel st).log.getLast? = some (.scriptEnd p ok))
    (hp : ∃ u ∈ reach T', u.path = p ∧ (cfg'.checkoutOnly = true → u.kind = .checkout))
    (h : invoke E cfg' T' fuel' (invoke E cfg T fuel st).st = .ok () r') :
    Op.scriptBegin p ∈ r'.log :=
  unclaimed_workspace_is_rerun E Γ cfg' T' fuel' _ p r' hwf hnd
    (cut_in_script_unclaimed E cfg T fuel st p hlast) hp h

open C01.Example in
/-- the hypotheses of `no_false_uptodate_partial` are satisfiable: the example project, killed while
the build script of `build/lib` runs, then built again -/
example : ∃ rB, invoke exE devCfg (pApp "w" "s") 1000 (invoke exE devCfg (pApp "w" "s") 25 St.init).st = .ok () rB ∧
    Op.scriptBegin "build/lib" ∈ rB.log := by
  have hok : (invoke exE devCfg (pApp "w" "s") 1000 (invoke exE devCfg (pApp "w" "s") 25 St.init).st).isOk = true := by
    decide +kernel
  cases hB : invoke exE devCfg (pApp "w" "s") 1000 (invoke exE devCfg (pApp "w" "s") 25 St.init).st with
  | abort r => rw [hB] at hok; cases hok
  | ok a rB =>
    exact ⟨rB, rfl, no_false_uptodate_partial exE exΓ devCfg devCfg (pApp "w" "s") (pApp "w" "s") 25 1000 St.init
      "build/lib" rB (ex_wf _ _) rfl (Or.inl ex_cut_in_build)
      (by obtain ⟨u, hu, hpu⟩ := ex_bLib_reach "w" "s"; exact ⟨u, hu, hpu, fun h => by cases h⟩) hB⟩

end C05
