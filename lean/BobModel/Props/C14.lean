import BobModel.Proofs.C14Enc
import BobModel.Proofs.C14Closure
import BobModel.Proofs.C14Validate
import BobModel.Proofs.C14Term
import BobModel.Proofs.C14Recipes
/-
C14 — audit trails are complete and truthful: property theorems about the model of pym/bob/audit.py
(`Model/Audit.lean`).  The specification predicates are defined in the proof modules: `ClosedAll`, `KeysOk`, `Sub`, `bid`
in `C14Closure`; `Reach`, `Closed`, `Path`, `Hit`, `Broken` in `C14Validate`; `Labelled`, `rbiFuel` and the example trail
`exAudit` in `C14Term`; `layersOf` in `C14Recipes`; `canon` is in the model file.

The hash is a parameter `H`; collision freedom appears only as the hypothesis `Function.Injective H` of
`artifactId_injective`, which no hash with values of one length meets (C02 and C11 state it for the inputs that occur).
"Truthful" (variant-id, result-hash, ... equal the real ids of the step) is not a statement about
audit.py and is decided by the real-build oracle of harness/props/c14.py (clause C of the design).
-/
namespace C14
open Audit Audit.Audit Consts.C14

/-- the seven tag bytes of the encoding are pairwise distinct (on the constants regenerated from the source) -/
theorem digest_tags_distinct :
    [tagMap, tagStr, tagList, tagInt, tagBool, tagBytes, tagNone].Nodup ∧
    ∀ t ∈ [tagMap, tagStr, tagList, tagInt, tagBool, tagBytes, tagNone], t < 256 := by decide

/-- **the digest encoding is injective** on the values `struct.pack` accepts, up to what `canon` forgets:
the insertion order of dict entries and — because the source tests `int` before `bool` — the difference
between `True/False` and `1/0`. -/
theorem digestData_injective (a b : Data) (ha : fits a = true) (hb : fits b = true)
    (h : digest a = digest b) : canon a = canon b := by
  rw [digest_eq_enc_canon, digest_eq_enc_canon] at h
  exact enc_inj (fits_canon ha) (fits_canon hb) h

/-- the same with the error branch of `digestData` (`struct.error`) explicit -/
theorem digestData_injective_opt (a b : Data) (x : Bytes) (ha : digest? a = some x) (hb : digest? b = some x) :
    canon a = canon b := by
  unfold digest? at ha hb
  split at ha <;> split at hb <;> simp at ha hb
  rename_i fa fb
  exact digestData_injective a b fa fb (ha.trans hb.symm)

/-- conversely the digest depends on nothing but the canonical content -/
theorem digestData_content_only (a b : Data) (h : canon a = canon b) : digest a = digest b := by
  rw [digest_eq_enc_canon, digest_eq_enc_canon, h]

/-- what `canon` forgets about a dict is exactly the insertion order: dicts with the same entries (distinct
keys, as in every Python dict) have the same digest -/
theorem digest_dict_order_independent (kvs kvs' : List (Str × Data)) (hn : (kvs.map Prod.fst).Nodup)
    (hn' : (kvs'.map Prod.fst).Nodup) (h : ∀ p, p ∈ kvs ↔ p ∈ kvs') : digest (.map kvs) = digest (.map kvs') :=
  digestData_content_only _ _ (canon_map_perm hn (perm_of_mem_iff hn hn' h))

/-- the conflation that the source has, stated: `True` and `1` get the same digest exactly when the source
tests `int` first -/
theorem bool_int_conflation (b : Bool) :
    digest (.bool b) = digest (.int (if b then 1 else 0)) ↔ intBeforeBool = true := by
  simp only [digest]
  cases hib : intBeforeBool with
  | true => simp
  | false =>
    simp only [Bool.false_eq_true, if_false, iff_false]
    cases b <;> simp [encInt, tagInt, tagBool]

/-- the id that `getId` computes for a record whose id is not cached depends only on the record content -/
theorem artifactId_content_only (H : Bytes → Id) (a b : Artifact) (ha : a.cachedId = none) (hb : b.cachedId = none)
    (h : canon a.record = canon b.record) : a.getId H = b.getId H := by
  simp only [Artifact.getId, ha, hb]
  rw [digestData_content_only _ _ h]

/-- with a collision free hash, records with different content get different ids -/
theorem artifactId_injective (H : Bytes → Id) (hH : Function.Injective H) (a b : Artifact)
    (ha : a.cachedId = none) (hb : b.cachedId = none)
    (fa : fits a.record = true) (fb : fits b.record = true)
    (h : a.getId H = b.getId H) : canon a.record = canon b.record := by
  simp only [Artifact.getId, ha, hb] at h
  exact digestData_injective _ _ fa fb (hH h)

/-- every mutation of a record drops the cached id, so the next `getId` digests the new content -/
theorem mutation_invalidates_id (a : Artifact) (i : Id) (n k v : Str) :
    (a.addArg i).cachedId = none ∧ (a.addTool n i).cachedId = none ∧ (a.setSandbox i).cachedId = none ∧
    (a.addDefine k v).cachedId = none ∧ (a.addMetaEnv k v).cachedId = none ∧ (a.addAuditFile k v).cachedId = none ∧
    (a.setEnv v).cachedId = none :=
  ⟨rfl, rfl, rfl, rfl, rfl, rfl, rfl⟩

example : fits (.map [("b".toList, .bool true), ("a".toList, .list [.int (-1), .null])]) = true := by decide +kernel

example : canon (.map [(['b'], .bool true), (['a'], .int 2)])
    = canon (.map [(['a'], .int 2), (['b'], .int 1)]) := by
  simp [canon, canonKVs, sortKV, insertKV, strLe, intBeforeBool]

theorem closure_created (fields : List (Str × Data)) : ClosedAll (create fields) :=
  closedAll_create fields

/-- **closure is preserved** by `addArg`, `addTool`, `setSandbox` of closed trails -/
theorem closure_preserved (H : Bytes → Id) (self other : Audit.Audit) (n : Str)
    (hs : ClosedAll self) (ho : ClosedAll other) :
    ClosedAll (addArg H self other) ∧ ClosedAll (addTool H self n other) ∧ ClosedAll (setSandbox H self other) :=
  ⟨closedAll_addDep .arg hs ho, closedAll_addDep (.tool n) hs ho, closedAll_addDep .sandbox hs ho⟩

/-- saving and re-loading a trail keeps it closed when its keys are the ids of its records -/
theorem closure_saveLoad (H : Bytes → Id) (a : Audit.Audit) (hk : KeysOk H a) (hc : ClosedAll a) :
    ClosedAll (saveLoad H a) :=
  closedAll_saveLoad hk hc

/-- **completeness over any build DAG**: the reference set of the trail of a step is exactly the set of ids
of its transitive dependencies -/
theorem references_eq_transitive_deps (H : Bytes → Id) (b : Build) (i : Id) :
    i ∈ refKeys (trail H b).references ↔ ∃ s, Sub s b ∧ i = bid H s :=
  ⟨(trailInv H b).keys_sound i, fun ⟨s, hs, e⟩ => e ▸ (trailInv H b).keys_complete s hs⟩

/-- ... and every stored record is the (dumped) record of a transitive dependency, stored under its id;
keys are unique -/
theorem references_are_dependency_records (H : Bytes → Id) (b : Build) :
    (∀ p ∈ (trail H b).references, ∃ s, Sub s b ∧ p = (bid H s, (trail H s).artifact.dump H)) ∧
    (refKeys (trail H b).references).Nodup :=
  ⟨(trailInv H b).values, (trailInv H b).nodup⟩

/-- for every transitive dependency the trail contains a record under that dependency's id, and `getId` of the record
is that id (the record is stored dumped, so this is its cached id; `references_are_dependency_records` says which
record it is) -/
theorem transitive_dependency_recorded (H : Bytes → Id) (b s : Build) (hs : Sub s b) :
    ∃ r, lookupRef (trail H b).references (bid H s) = some r ∧ r.getId H = bid H s := by
  have h := trailInv H b
  cases hl : lookupRef (trail H b).references (bid H s) with
  | none => exact absurd (h.keys_complete s hs) (lookupRef_eq_none_iff.1 hl)
  | some r => exact ⟨r, rfl, h.keysOk _ (lookupRef_mem hl)⟩

/-- the trail of every step of every build DAG is closed and passes the validator -/
theorem trail_closed (H : Bytes → Id) (b : Build) : ClosedAll (trail H b) ∧ validate (trail H b) = .ok :=
  ⟨(trailInv H b).closed, closed_validate_ok (closedAll_closed (trailInv H b).closed)⟩

/-- the artifact of a trail refers to direct dependencies only -/
theorem trail_direct_references (H : Bytes → Id) (f : List (Str × Data)) (deps : List (DepKind × Build)) (i : Id)
    (hi : i ∈ (trail H (.node f deps)).artifact.getReferences) : ∃ k d, (k, d) ∈ deps ∧ i = bid H d := by
  rw [trail] at hi
  exact (mem_getReferences_trailDeps hi).resolve_left fun h => by cases h

example : Sub (.node [] []) (.node [] [(.tool "cc".toList, .node [] [(.arg, .node [] [])])]) :=
  Sub.trans (List.mem_singleton.2 rfl) (Sub.direct (List.mem_singleton.2 rfl))

/-- **the debug validator accepts exactly the closed trails** (the fuel of the model's loop suffices) -/
theorem validate_iff_closed (a : Audit.Audit) : validate a = .ok ↔ Closed a :=
  ⟨validate_ok_closed, closed_validate_ok⟩

/-- the id named in "Incomplete audit: missing ..." is reachable and has no record -/
theorem validate_missing_spec (a : Audit.Audit) (i : Id) (h : validate a = .missing i) :
    Reach a i ∧ lookupRef a.references i = none :=
  validateLoop_missing _ _ _ i (fun _ hx => Reach.base hx) h

/-- the loop of `__validate` terminates (each id is popped at most twice) -/
theorem validate_terminates (a : Audit.Audit) : validate a ≠ .outOfFuel :=
  validate_ne_outOfFuel a

/-- what the add operations maintain implies what the validator checks -/
theorem closedAll_implies_closed (a : Audit.Audit) (h : ClosedAll a) : Closed a :=
  closedAll_closed h

/-- **partial correctness of the traversal**: when it returns, it returns exactly the build-ids of the
first stop-label (`dist`) records on the reference paths from the artifact -/
theorem referencedBuildIds_spec (fuel : Nat) (a : Audit.Audit) (ids : List Id)
    (h : getReferencedBuildIds fuel a = .ok ids) :
    ∀ b, b ∈ ids ↔ Hit a.references a.artifact.getReferences b := by
  unfold getReferencedBuildIds at h
  cases hr : rbiLoop a.references fuel a.artifact.getReferences [] with
  | ok res =>
    simp only [hr, RResult.ok.injEq] at h
    subst h
    intro b
    rw [mem_sortIds, rbiLoop_ok _ _ _ _ hr b]
    simp
  | keyError => simp [hr] at h
  | outOfFuel => simp [hr] at h

/-- a KeyError is raised only at a frontier record that is missing, has no step label, or is a stop record
without a decodable build-id -/
theorem referencedBuildIds_keyError (fuel : Nat) (a : Audit.Audit)
    (h : getReferencedBuildIds fuel a = .keyError) : Broken a.references a.artifact.getReferences := by
  unfold getReferencedBuildIds at h
  cases hr : rbiLoop a.references fuel a.artifact.getReferences [] with
  | ok res => simp [hr] at h
  | keyError => exact rbiLoop_keyError _ _ _ hr
  | outOfFuel => simp [hr] at h

/-- **termination of the traversal on acyclic reference graphs** (full statement, proved right below).  The
source keeps no `done` set: an id is popped once per reference path leading to it, and on a cyclic graph —
only constructible by editing a file, ids being content hashes — the loop does not terminate. -/
def referencedBuildIds_terminates_goal : Prop :=
  ∀ a : Audit.Audit, (∃ rank : Id → Nat, ∀ j c i, lookupRef a.references j = some c → i ∈ c.getReferences → rank i < rank j) →
    ∃ fuel, getReferencedBuildIds fuel a ≠ .outOfFuel

/-- the goal holds: the weight of the worklist (`cost i` = number of nodes of the unfolding of the graph below
`i`) drops by at least one per iteration -/
theorem referencedBuildIds_terminates : referencedBuildIds_terminates_goal := by
  rintro a ⟨rank, hr⟩
  exact ⟨rbiFuel a rank, getReferencedBuildIds_fuel hr (Nat.le_refl _)⟩

/-- the same with the fuel explicit: `rbiFuel` (the size of the unfolding below the artifact's references) and
every larger fuel suffice -/
theorem referencedBuildIds_terminates_fuel (a : Audit.Audit) (rank : Id → Nat)
    (hr : ∀ j c i, lookupRef a.references j = some c → i ∈ c.getReferences → rank i < rank j)
    (fuel : Nat) (hf : rbiFuel a rank ≤ fuel) : getReferencedBuildIds fuel a ≠ .outOfFuel :=
  getReferencedBuildIds_fuel hr hf

/-- no KeyError on a closed trail (what `validate` accepts) whose records carry a step label and whose stop
records carry a build-id -/
theorem referencedBuildIds_no_keyError (fuel : Nat) (a : Audit.Audit) (hc : Closed a) (hl : Labelled a) :
    getReferencedBuildIds fuel a ≠ .keyError :=
  fun h => not_broken_of_closed_labelled hc hl (referencedBuildIds_keyError fuel a h)

/-- **total correctness of the traversal**: on an acyclic, closed, labelled trail `getReferencedBuildIds`
returns — for `rbiFuel` and every larger fuel — exactly the build-ids of the first stop-label records on the
reference paths from the artifact -/
theorem referencedBuildIds_total (a : Audit.Audit)
    (hacyc : ∃ rank : Id → Nat, ∀ j c i, lookupRef a.references j = some c → i ∈ c.getReferences → rank i < rank j)
    (hc : Closed a) (hl : Labelled a) :
    ∃ F, ∀ fuel, F ≤ fuel → ∃ ids, getReferencedBuildIds fuel a = .ok ids ∧
      ∀ b, b ∈ ids ↔ Hit a.references a.artifact.getReferences b := by
  obtain ⟨rank, hr⟩ := hacyc
  refine ⟨rbiFuel a rank, fun fuel hf => ?_⟩
  cases hres : getReferencedBuildIds fuel a with
  | ok ids => exact ⟨ids, rfl, referencedBuildIds_spec fuel a ids hres⟩
  | keyError => exact absurd hres (referencedBuildIds_no_keyError fuel a hc hl)
  | outOfFuel => exact absurd hres (getReferencedBuildIds_fuel hr hf)

/-- the same from what the implementation itself checks: an acyclic trail that the debug validator accepts
(`validate a = .ok`) and whose records are labelled yields the transitive build-id set -/
theorem referencedBuildIds_total_of_validate (a : Audit.Audit)
    (hacyc : ∃ rank : Id → Nat, ∀ j c i, lookupRef a.references j = some c → i ∈ c.getReferences → rank i < rank j)
    (hv : validate a = .ok) (hl : Labelled a) :
    ∃ fuel ids, getReferencedBuildIds fuel a = .ok ids ∧ ∀ b, b ∈ ids ↔ Hit a.references a.artifact.getReferences b := by
  obtain ⟨F, h⟩ := referencedBuildIds_total a hacyc ((validate_iff_closed a).1 hv) hl
  obtain ⟨ids, h1, h2⟩ := h F (Nat.le_refl _)
  exact ⟨F, ids, h1, h2⟩

/-- non-vacuity: a three-record DAG trail (`pkg → [3, 1]`, `1 → [2]`, `2 → [3]`, `3` the `dist` record) is
acyclic, closed and labelled; id `3` is popped twice, so four iterations are needed for three records, and
`rbiFuel` is exactly that -/
example : (∃ rank : Id → Nat, ∀ j c i, lookupRef exAudit.references j = some c → i ∈ c.getReferences → rank i < rank j) ∧
    Closed exAudit ∧ Labelled exAudit ∧ rbiFuel exAudit exRank = 4 ∧
    getReferencedBuildIds 4 exAudit = .ok [[0xab]] ∧ getReferencedBuildIds 3 exAudit = .outOfFuel :=
  ⟨⟨exRank, exAudit_acyclic⟩, (validate_iff_closed _).1 (by decide +kernel), exAudit_labelled, by decide +kernel,
    by decide +kernel, by decide +kernel⟩

/-- **`setRecipesAudit` records exactly what it is given**: afterwards the `recipes` entry is the audit stored
under the empty name (absent when that is missing or `None`), the `layers` entry is the dict of all other
entries in their order (`None` kept; absent when there is none), every other entry of the record is
untouched, and the cached id is dropped so that the next `getId` digests the new content -/
theorem setRecipesAudit_spec (a : Audit.Audit) (ra : List (Str × Option Data)) :
    dictGet (setRecipesAudit a ra).artifact.other "recipes".toList = (dictGet ra []).bind id ∧
    dictGet (setRecipesAudit a ra).artifact.other "layers".toList =
      (if (layersOf ra).isEmpty then none else some (.map (layersOf ra))) ∧
    (∀ k, k ≠ "recipes".toList → k ≠ "layers".toList →
      dictGet (setRecipesAudit a ra).artifact.other k = dictGet a.artifact.other k) ∧
    (setRecipesAudit a ra).artifact.cachedId = none :=
  have hne : "recipes".toList ≠ "layers".toList := by simp -index only [String.toList_ofList]; decide
  ⟨(setRecipesAudit_get a ra _).trans ((if_neg hne).trans (if_pos rfl)), (setRecipesAudit_get a ra _).trans (if_pos rfl),
    fun k h1 h2 => (setRecipesAudit_get a ra k).trans ((if_neg h2).trans (if_neg h1)), rfl⟩

/-- it touches neither the dependencies nor the reference map: closure is preserved -/
theorem setRecipesAudit_closure (a : Audit.Audit) (ra : List (Str × Option Data)) :
    (setRecipesAudit a ra).references = a.references ∧
    (setRecipesAudit a ra).artifact.getReferences = a.artifact.getReferences ∧
    (ClosedAll a → ClosedAll (setRecipesAudit a ra)) :=
  ⟨setRecipesAudit_references a ra, setRecipesAudit_getReferences a ra, id⟩

example : dictGet (setRecipesAudit (create []) [("l1".toList, some (.str ['x'])), ([], some (.int 1)), ("l2".toList, none)]).artifact.other
    "layers".toList = some (.map [("l1".toList, .str ['x']), ("l2".toList, .null)]) := by
  rw [(setRecipesAudit_spec _ _).2.1]; rfl

/-- **the `--debug audit` validation on load is vacuous** (the code as it is: `Audit.load` calls
`__validate()` before it assigns `__artifact`/`__references`, and `fromFile`/`fromByteStream` call `load` on a
fresh object): no tree whatsoever is rejected as incomplete -/
theorem loadDebug_fresh_accepts_all (H : Bytes → Id) (fields : List (Str × Data)) (tree : Audit.Audit) :
    loadDebug H (create fields) tree = .ok (load H tree) :=
  loadDebug_create H fields tree

/-- ... in particular a trail with a dangling reference, which `validate` itself rejects -/
example : ∃ tree : Audit.Audit, validate (load (fun b => b) tree) = .missing [1] ∧
    loadDebug (fun b => b) (create []) tree = .ok (load (fun b => b) tree) :=
  ⟨{ artifact := exRec "package" [[1]], references := [] }, by decide +kernel, loadDebug_create _ _ _⟩

end C14
