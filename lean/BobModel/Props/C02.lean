import BobModel.Proofs.C02Inj
import BobModel.Proofs.C02Scripts
import BobModel.Proofs.C02Env
/-
C02 — Variant-Id separates exactly what a step executes and consumes.

Theorems about the models `Model/Digest.lean` (DigestHasher, CoreStep.getDigest, StepIR.getDigestCoro),
`Model/Scripts.lean` (joinScripts, mergeScripts) and `Model/PrepareTail.lean` (weak/strong split).
`H` is the hash function; `HashLen H` says its values have 20 bytes, `NoColl H a b` that it does not collide
on the two byte strings that are compared (collision freedom of SHA-1 *on the inputs that occur*; a global
injectivity hypothesis would be unsatisfiable for a fixed-length hash).  `HashLen` and `NoColl` are defined in
`Proofs/C02Inj.lean`, `Atomic` in `Proofs/C02Scripts.lean`.
-/
namespace C02
open Digest

/-- **code-point counted UTF-8 is self-delimiting.** Bob writes `len(str)` (code points), not the byte length,
in front of the UTF-8 bytes; the pair still determines the string and where it ends. -/
theorem utf8_charcount_decodable (s s' : Str) (r r' : Bytes) (hs : s.length < 2 ^ 32) (hs' : s'.length < 2 ^ 32)
    (h : le4 s.length ++ utf8 s ++ r = le4 s'.length ++ utf8 s' ++ r') : s = s' ∧ r = r' :=
  encStr_pf hs hs' h

example : le4 1 ++ utf8 ['ä'] = [1, 0, 0, 0, 195, 164] := by decide

/-- **no two different executions share a pre-image**: equal recipe encodings imply the same script, the same
tool values in name order (provider recipe slice, path, every library path), the same strong variables and
values, the same sequence of valid argument recipe slices. -/
theorem encRecipe_injective (d₁ d₂ : StepDesc) (w₁ : WF d₁) (w₂ : WF d₂)
    (h : encRecipe d₁ = encRecipe d₂) : semRecipe d₁ = semRecipe d₂ := by
  rw [encRecipe_eq_encOfSem, encRecipe_eq_encOfSem] at h
  exact encOfSem_inj (semWF_of_WF w₁) (semWF_of_WF w₂) h

/-- the constants the encoder was extracted with are the modelled ones: the sequence of counters (script length,
tool count, (path, libs), lib length, env count, (key, value), argument count) are little-endian 32-bit
integers, the pad has the width of a digest slice, "no script" is the count zero -/
theorem consts_as_modelled :
    Consts.C02.fmts = ["<I", "<I", "<II", "<I", "<I", "<II", "<I"] ∧ Consts.C02.intWidth = 4 ∧
    Consts.C02.pad.length = Consts.C02.sliceLen ∧ Consts.C02.sliceLen = Consts.C02.hostFrom ∧
    Consts.C02.emptyScript.map UInt8.ofNat = le4 0 := by
  decide

/-- the id is a function of the meaning only: whatever is not in `semRecipe`/`semHost` (tool names beyond
their order, association list order, weak variables, paths, time, …) cannot influence it; in particular
reverting an edit restores the id. No hypothesis on `H`. -/
theorem vid_pure (H : Bytes → Bytes) (d₁ d₂ : StepDesc)
    (hr : semRecipe d₁ = semRecipe d₂) (hh : semHost d₁ = semHost d₂) : variantId H d₁ = variantId H d₂ := by
  unfold variantId
  rw [encRecipe_eq_encOfSem, encRecipe_eq_encOfSem, encHost_eq_hostOfSem, encHost_eq_hostOfSem, hr, hh]

/-- full statement of "equal ids iff equal meaning" (not asserted: it is false of model and code, see
`vid_iff_sem_goal_false`) -/
def vid_iff_sem_goal : Prop :=
  ∀ (H : Bytes → Bytes) (d₁ d₂ : StepDesc), HashLen H → WF d₁ → WF d₂ →
    NoColl H (encRecipe d₁) (encRecipe d₂) → NoColl H (encHost d₁) (encHost d₂) →
    (variantId H d₁ = variantId H d₂ ↔ semRecipe d₁ = semRecipe d₂ ∧ semHost d₁ = semHost d₂)

/-- **equal ids iff equal meaning**, under `HostFramed`: the host contributions sit at the same positions
(the host part is an undelimited concatenation of 0/20/40 byte slices). -/
theorem vid_iff_sem_partial (H : Bytes → Bytes) (d₁ d₂ : StepDesc) (hl : HashLen H) (w₁ : WF d₁) (w₂ : WF d₂)
    (hf : HostFramed d₁ d₂)
    (c₁ : NoColl H (encRecipe d₁) (encRecipe d₂)) (c₂ : NoColl H (encHost d₁) (encHost d₂)) :
    variantId H d₁ = variantId H d₂ ↔ semRecipe d₁ = semRecipe d₂ ∧ semHost d₁ = semHost d₂ := by
  constructor
  · intro h
    have ⟨e1, e2⟩ := digest_inj hl c₁ c₂ h
    exact ⟨encRecipe_injective d₁ d₂ w₁ w₂ e1, semHost_eq_of_framed hf e2⟩
  · rintro ⟨a, b⟩
    exact vid_pure H d₁ d₂ a b

/-- the witness of F-C02-1: arguments (A with host slice h, B) versus (A, B with host slice h) -/
def hostWitness₁ : StepDesc :=
  { script := none, tools := [], env := [],
    args := [List.replicate 20 1 ++ List.replicate 20 7, List.replicate 20 2], hostPrefix := [] }
def hostWitness₂ : StepDesc :=
  { script := none, tools := [], env := [],
    args := [List.replicate 20 1, List.replicate 20 2 ++ List.replicate 20 7], hostPrefix := [] }

theorem hostWitness_same_encoding :
    encRecipe hostWitness₁ = encRecipe hostWitness₂ ∧ encHost hostWitness₁ = encHost hostWitness₂ ∧
    semHost hostWitness₁ ≠ semHost hostWitness₂ := by
  decide +kernel

/-- **F-C02-1 decided**: without the framing hypothesis the statement is false — two argument lists whose
fingerprint contribution sits at different positions get the same id for *every* hash function.
(Replayed on real recipes by the oracle; see known finding F-C02-1.) -/
theorem vid_iff_sem_goal_false : ¬ vid_iff_sem_goal := by
  intro goal
  have e := hostWitness_same_encoding
  have := (goal (fun _ => List.replicate 20 0) hostWitness₁ hostWitness₂ (fun _ => List.length_replicate)
    (by decide) (by decide) (fun _ => e.1) (fun _ => e.2.1)).mp (by unfold variantId; rw [e.1, e.2.1])
  exact e.2.2 this.2

/-- the hypotheses of `vid_iff_sem_partial` are satisfiable by two different framed descriptions and a
hash that separates them -/
example : ∃ (H : Bytes → Bytes) (d₁ d₂ : StepDesc), HashLen H ∧ HostFramed d₁ d₂ ∧ d₁ ≠ d₂ ∧
    NoColl H (encRecipe d₁) (encRecipe d₂) ∧ NoColl H (encHost d₁) (encHost d₂) ∧
    variantId H d₁ ≠ variantId H d₂ := by
  refine ⟨fun b => ((b.drop 20).take 20) ++ List.replicate (20 - ((b.drop 20).take 20).length) 0,
    { script := some ['a'], tools := [], env := [], args := [], hostPrefix := [] },
    { script := some ['b'], tools := [], env := [], args := [], hostPrefix := [] }, ?_, ?_, ?_, ?_, ?_, ?_⟩
  · intro b
    simp only [List.length_append, List.length_take, List.length_drop, List.length_replicate]
    omega
  · exact ⟨rfl, rfl⟩
  · decide
  · intro h; revert h; decide
  · intro _; rfl
  · decide

/-- **F-C02-3 in the model**: only the recipe half of a tool provider's id is hashed; whatever else changes in
the provider ids (their host / fingerprint halves) leaves the Variant-Id of the user unchanged, for every `H`.
(`semRecipe` therefore lists tools by the recipe half of their provider; replayed on real recipes by the oracle.) -/
theorem tool_host_not_in_vid (H : Bytes → Bytes) (d : StepDesc) (g : Tool → Bytes)
    (hg : ∀ t, sliceRecipes (g t) = sliceRecipes t.prov) :
    variantId H { d with tools := d.tools.map fun t => { t with prov := g t } } = variantId H d := by
  apply vid_pure
  · simp only [semRecipe]
    rw [sortBy_map toolLe toolLe (fun t => { t with prov := g t }) (fun a b => rfl)]
    simp [List.map_map, Function.comp_def, hg]
  · rfl

/-- **a changed dependency changes every dependent id** (induction over the step graph).
Two graphs that differ only in node `j`, each with consistently stored ids: if the recipe half of `j`'s id
differs, so does the recipe half of every step that reaches `j` through valid arguments and tools. -/
theorem vid_propagates (H : Bytes → Bytes) (hl : HashLen H) (g g' : Nat → Node) (ids ids' : Nat → Bytes)
    (hc : Consistent H g ids) (hc' : Consistent H g' ids')
    (wf : ∀ i, WF ((g i).desc ids)) (wf' : ∀ i, WF ((g' i).desc ids'))
    (hH : ∀ i, NoColl H (encRecipe ((g i).desc ids)) (encRecipe ((g' i).desc ids')))
    (j : Nat) (same : ∀ i, i ≠ j → g i = g' i)
    (hj : sliceRecipes (ids j) ≠ sliceRecipes (ids' j)) :
    ∀ i, Reach g j i → sliceRecipes (ids i) ≠ sliceRecipes (ids' i) := by
  intro i hr
  induction hr with
  | refl => exact hj
  | @step k i _ dep ih =>
    by_cases hij : i = j
    · rw [hij]; exact hj
    · intro heq
      rw [hc i, hc' i, sliceRecipes_variantId hl, sliceRecipes_variantId hl] at heq
      have hs := encRecipe_injective _ _ (wf i) (wf' i) (hH i heq)
      rw [← same i hij] at hs
      exact ih (slice_eq_of_semRecipe_desc hs dep)

/-- one changed argument changes the *whole* id (recipe or host half), all other inputs being equal -/
theorem vid_propagates_arg (H : Bytes → Bytes) (hl : HashLen H) (d : StepDesc) (pre post : List Bytes) (a a' : Bytes)
    (w : WF { d with args := pre ++ a :: post }) (w' : WF { d with args := pre ++ a' :: post })
    (c₁ : NoColl H (encRecipe { d with args := pre ++ a :: post }) (encRecipe { d with args := pre ++ a' :: post }))
    (c₂ : NoColl H (encHost { d with args := pre ++ a :: post }) (encHost { d with args := pre ++ a' :: post }))
    (hne : a ≠ a') :
    variantId H { d with args := pre ++ a :: post } ≠ variantId H { d with args := pre ++ a' :: post } := by
  intro h
  have ⟨e1, e2⟩ := digest_inj hl c₁ c₂ h
  exact hne (arg_eq_of_enc (congrArg SemRecipe.args (encRecipe_injective _ _ w w' e1)) e2)

/-- a changed sandbox changes the id of a step that is fingerprinted inside it -/
theorem vid_propagates_sandbox (H : Bytes → Bytes) (hl : HashLen H) (d : StepDesc) (p p' : Bytes)
    (c₂ : NoColl H (encHost { d with hostPrefix := p }) (encHost { d with hostPrefix := p' })) (hne : p ≠ p') :
    variantId H { d with hostPrefix := p } ≠ variantId H { d with hostPrefix := p' } :=
  fun h => hne (List.append_cancel_right (digest_inj hl (fun _ => rfl) c₂ h).2)

open PrepareTail in
/-- a variable that is not declared strong for the stage never enters the digest environment: its value
cannot influence the Variant-Id -/
theorem weak_not_in_vid (self : Decl) (inherit : List Decl) (env : Env) (s : Stage) (k v : PrepareTail.Str)
    (hk : k ∉ (resolveDecl self inherit).strong s) :
    (stepEnv self inherit (setVal env k v) s).digestEnv = (stepEnv self inherit env s).digestEnv :=
  prune_setVal env _ k v hk

open PrepareTail in
/-- a declared variable (weak or strong) that is defined reaches the execution environment -/
theorem weak_in_env (self : Decl) (inherit : List Decl) (env : Env) (s : Stage) (kv : PrepareTail.Str × PrepareTail.Str)
    (hd : kv.1 ∈ (resolveDecl self inherit).weak s ∨ kv.1 ∈ (resolveDecl self inherit).strong s)
    (he : kv ∈ env) : kv ∈ (stepEnv self inherit env s).env :=
  mem_stageEnv_env.mpr ⟨he, hd.symm⟩

open PrepareTail in
/-- declared both strong and weak counts as strong: the variable is in the digest environment -/
theorem strong_wins (self : Decl) (inherit : List Decl) (env : Env) (s : Stage) (kv : PrepareTail.Str × PrepareTail.Str)
    (hs : kv.1 ∈ (resolveDecl self inherit).strong s) (he : kv ∈ env) :
    kv ∈ (stepEnv self inherit env s).digestEnv ∧ kv.1 ∉ weakOnly (resolveDecl self inherit) s :=
  ⟨mem_prune.mpr ⟨he, hs⟩, fun h => by simp [weakOnly, hs] at h⟩

open PrepareTail in
theorem initDecl_accumulates (r : Decl) :
    (∀ k, k ∈ (initDecl r).coS → k ∈ (initDecl r).buS) ∧ (∀ k, k ∈ (initDecl r).buS → k ∈ (initDecl r).paS) ∧
    (∀ k, k ∈ (initDecl r).coW → k ∈ (initDecl r).buW) ∧ (∀ k, k ∈ (initDecl r).buW → k ∈ (initDecl r).paW) :=
  accum_initDecl r

open PrepareTail in
/-- declarations accumulate over the stages: checkout ⊆ build ⊆ package, for the strong and the weak lists,
for a recipe with any number of classes -/
theorem decl_accumulates (self : Decl) (inherit : List Decl) :
    let d := resolveDecl self inherit
    (∀ k, k ∈ d.coS → k ∈ d.buS) ∧ (∀ k, k ∈ d.buS → k ∈ d.paS) ∧
    (∀ k, k ∈ d.coW → k ∈ d.buW) ∧ (∀ k, k ∈ d.buW → k ∈ d.paW) :=
  accum_resolveDecl self inherit

open PrepareTail in
example : (stepEnv ⟨[], [], [['A']], [['W']], [], []⟩ [] [(['A'], ['1']), (['W'], ['2']), (['X'], ['3'])] .build)
    = ⟨[(['A'], ['1'])], [(['A'], ['1']), (['W'], ['2'])]⟩ := by decide +kernel

open Scripts

/-- **what is executed**: the setup script glued to the main script is the glue-join of all non-empty Setup
fragments (class order), all Script fragments (class order) and all Finalize fragments in *reverse* class
order -/
theorem mergeScripts_order (fr : List Frag) (glue : Scripts.Str) :
    stepScript (mergeScripts fr glue).1 (mergeScripts fr glue).2.1 glue = join glue (execSeq fr) := by
  simp only [mergeScripts, stepScript, execSeq]
  rw [joinScripts_two, joinScripts_eq, ← List.append_assoc]
  cases present (List.map (fun x => x.setup.text) fr ++ List.map (fun x => x.script.text) fr
      ++ List.map (fun x => x.final.text) fr.reverse) <;> simp [joinP, join]

/-- **what is hashed**: the digest script is the line-join of the fragment digests in the order Setup*,
Script*, Finalize* — all in class order, without any group separator -/
theorem mergeScripts_digest (fr : List Frag) (glue : Scripts.Str) :
    (mergeScripts fr glue).2.2 = joinP nl (digestSeq fr) := by
  simp only [mergeScripts, digestSeq]
  rw [joinScripts_three, joinScripts_eq]

/-- fragments built from their sources by a fragment digest function `dg` -/
def mkFrag (dg : Scripts.Str → Scripts.Str) (s : Option Scripts.Str × Option Scripts.Str × Option Scripts.Str) : Frag :=
  { setup := ⟨s.1, s.1.map dg⟩, script := ⟨s.2.1, s.2.1.map dg⟩, final := ⟨s.2.2, s.2.2.map dg⟩ }

/-- equal digest scripts have equal digest sequences (fragment digests are single non-empty lines) -/
theorem digestScript_inj (fr fr' : List Frag) (glue glue' : Scripts.Str)
    (ha : ∀ t ∈ digestSeq fr, Atomic t) (ha' : ∀ t ∈ digestSeq fr', Atomic t)
    (h : (mergeScripts fr glue).2.2 = (mergeScripts fr' glue').2.2) : digestSeq fr = digestSeq fr' := by
  rw [mergeScripts_digest, mergeScripts_digest] at h
  exact joinP_nl_inj ha ha' h

/-- full statement (not asserted, false of model and code): the digest script separates exactly the
executed fragment sequences -/
def digestScript_iff_exec_goal : Prop :=
  ∀ (dg : Scripts.Str → Scripts.Str) (src src' : List (Option Scripts.Str × Option Scripts.Str × Option Scripts.Str)),
    Function.Injective dg →
    (digestSeq (src.map (mkFrag dg)) = digestSeq (src'.map (mkFrag dg)) ↔
     execSeq (src.map (mkFrag dg)) = execSeq (src'.map (mkFrag dg)))

/-- the witness of F-C02-2: class `echo P` + recipe `echo Q` once as Script, once as Finalize -/
theorem digestScript_iff_exec_goal_false : ¬ digestScript_iff_exec_goal := by
  intro goal
  have := (goal (fun t => 'd' :: t)
    [(none, some ['P'], none), (none, some ['Q'], none)]
    [(none, none, some ['P']), (none, none, some ['Q'])]
    (fun a b h => by simpa using h)).mp (by decide)
  revert this
  decide

/-- all fragment texts that are present are non-empty (true of `IncludeHelper.resolve`: a resolved fragment
always carries its `_BOB_SOURCES` marker line) -/
def SrcOk (src : List (Option Scripts.Str × Option Scripts.Str × Option Scripts.Str)) : Prop :=
  ∀ s ∈ src, s.1 ≠ some [] ∧ s.2.1 ≠ some [] ∧ s.2.2 ≠ some []

theorem digestSeq_mkFrag (dg : Scripts.Str → Scripts.Str) (hne : ∀ t, dg t ≠ [])
    (s : List (Option Scripts.Str × Option Scripts.Str × Option Scripts.Str)) (ok : SrcOk s) :
    digestSeq (s.map (mkFrag dg)) =
      (present (s.map (·.1)) ++ present (s.map (·.2.1)) ++ present (s.map (·.2.2))).map dg := by
  have e : ∀ (f : (Option Scripts.Str × Option Scripts.Str × Option Scripts.Str) → Option Scripts.Str),
      (∀ x ∈ s, f x ≠ some []) →
      present (s.map fun x => Option.map dg (f x)) = (present (s.map f)).map dg := by
    intro f hf
    rw [← present_map_digest dg hne (s.map f) (by
      intro x hx
      obtain ⟨y, hy, rfl⟩ := List.mem_map.mp hx
      exact hf y hy), List.map_map]
    rfl
  simp only [digestSeq, mkFrag, List.map_map, Function.comp_def, present_append, List.map_append]
  rw [e (·.1) (fun x hx => (ok x hx).1), e (·.2.1) (fun x hx => (ok x hx).2.1), e (·.2.2) (fun x hx => (ok x hx).2.2)]

theorem execSeq_mkFrag (dg : Scripts.Str → Scripts.Str)
    (s : List (Option Scripts.Str × Option Scripts.Str × Option Scripts.Str)) :
    execSeq (s.map (mkFrag dg)) =
      present (s.map (·.1)) ++ present (s.map (·.2.1)) ++ (present (s.map (·.2.2))).reverse := by
  simp only [execSeq, present_append, List.map_reverse, present_reverse, mkFrag, List.map_map, Function.comp_def]

/-- **the digest script separates exactly the executed fragment sequences** when both recipes have the same
number of Finalize fragments (injective, non-empty fragment digests). -/
theorem digestScript_iff_exec_partial (dg : Scripts.Str → Scripts.Str) (hinj : Function.Injective dg) (hne : ∀ t, dg t ≠ [])
    (src src' : List (Option Scripts.Str × Option Scripts.Str × Option Scripts.Str)) (ok : SrcOk src) (ok' : SrcOk src')
    (hn : (present (src.map (·.2.2))).length = (present (src'.map (·.2.2))).length) :
    digestSeq (src.map (mkFrag dg)) = digestSeq (src'.map (mkFrag dg)) ↔
    execSeq (src.map (mkFrag dg)) = execSeq (src'.map (mkFrag dg)) := by
  rw [digestSeq_mkFrag dg hne src ok, digestSeq_mkFrag dg hne src' ok', execSeq_mkFrag, execSeq_mkFrag]
  -- both sides split at the Finalize group, whose length is known; reversing it loses nothing
  constructor
  · intro h
    have ⟨a, b⟩ := List.append_inj' ((List.map_inj_right fun _ _ hh => hinj hh).mp h) hn
    rw [a, b]
  · intro h
    have ⟨a, b⟩ := List.append_inj' h (by rw [List.length_reverse, List.length_reverse, hn])
    rw [a, List.reverse_inj.mp b]

/-- the recipe's own checkout digest script as lines (hex digests), `None` when there is no script -/
def digOf (digLines : List Scripts.Str) : Option Scripts.Str :=
  if digLines = [] then none else some (join nl digLines)

/-- the lines it contributes to the checkout digest script: its lines, or one empty line -/
def digMiddle (digLines : List Scripts.Str) : List Scripts.Str :=
  if digLines = [] then [[]] else digLines

theorem checkoutDigestScript_lines (scms digLines asserts : List Scripts.Str) :
    checkoutDigestScript scms (digOf digLines) asserts = join nl (scms ++ digMiddle digLines ++ asserts) := by
  unfold checkoutDigestScript digOf digMiddle
  by_cases h : digLines = []
  · simp [h]
  · rw [if_neg h, if_neg h, Option.getD_some, List.append_assoc, List.singleton_append]
    exact join_mid nl scms digLines asserts h

theorem digMiddle_ne_nil (L : List Scripts.Str) : digMiddle L ≠ [] := by
  unfold digMiddle
  split
  · exact List.cons_ne_nil _ _
  · assumption

theorem mem_digMiddle {L : List Scripts.Str} {t : Scripts.Str} (h : t ∈ digMiddle L) : t = [] ∨ t ∈ L := by
  unfold digMiddle at h
  split at h
  · exact Or.inl (List.mem_singleton.mp h)
  · exact Or.inr h

theorem digMiddle_inj {L L' : List Scripts.Str} (hL : ∀ t ∈ L, t ≠ []) (hL' : ∀ t ∈ L', t ≠ [])
    (h : digMiddle L = digMiddle L') : L = L' := by
  unfold digMiddle at h
  split at h <;> split at h
  · rw [‹L = []›, ‹L' = []›]
  · exact absurd rfl (hL' [] (h ▸ List.mem_singleton_self _))
  · exact absurd rfl (hL [] (h ▸ List.mem_singleton_self _))
  · exact h

/-- **the digest script of a checkout step determines the SCM descriptions, the recipe's script digests and
the assertions** — provided SCM and assertion lines contain a blank (all `asDigestScript` formats do:
"url rev dir", "digest path extract", "url dir", "file digest start end") and no line break, and the script
digests are non-empty, blank free lines (hex). -/
theorem checkoutDigestScript_inj (scms scms' digLines digLines' asserts asserts' : List Scripts.Str)
    (hs : ∀ t, t ∈ scms ∨ t ∈ asserts ∨ t ∈ scms' ∨ t ∈ asserts' → ' ' ∈ t ∧ '\n' ∉ t)
    (hd : ∀ t, t ∈ digLines ∨ t ∈ digLines' → t ≠ [] ∧ ' ' ∉ t ∧ '\n' ∉ t)
    (h : checkoutDigestScript scms (digOf digLines) asserts = checkoutDigestScript scms' (digOf digLines') asserts') :
    scms = scms' ∧ digLines = digLines' ∧ asserts = asserts' := by
  rw [checkoutDigestScript_lines, checkoutDigestScript_lines, List.append_assoc, List.append_assoc] at h
  have s1 : ∀ t ∈ scms, ' ' ∈ t ∧ '\n' ∉ t := fun t ht => hs t (Or.inl ht)
  have a1 : ∀ t ∈ asserts, ' ' ∈ t ∧ '\n' ∉ t := fun t ht => hs t (Or.inr (Or.inl ht))
  have s2 : ∀ t ∈ scms', ' ' ∈ t ∧ '\n' ∉ t := fun t ht => hs t (Or.inr (Or.inr (Or.inl ht)))
  have a2 : ∀ t ∈ asserts', ' ' ∈ t ∧ '\n' ∉ t := fun t ht => hs t (Or.inr (Or.inr (Or.inr ht)))
  -- the middle lines are blank free: the recipe's digests, or one empty line
  have m : ∀ L : List Scripts.Str, (∀ t ∈ L, t ≠ [] ∧ ' ' ∉ t ∧ '\n' ∉ t) → ∀ t ∈ digMiddle L, ' ' ∉ t ∧ '\n' ∉ t :=
    fun L hL t ht => (mem_digMiddle ht).elim (fun e => by simp [e]) (fun ht => (hL t ht).2)
  have m1 := m digLines fun t ht => hd t (Or.inl ht)
  have m2 := m digLines' fun t ht => hd t (Or.inr ht)
  have hlines := join_nl_inj_ne
    (List.forall_mem_append.mpr ⟨fun t ht => (s1 t ht).2,
      List.forall_mem_append.mpr ⟨fun t ht => (m1 t ht).2, fun t ht => (a1 t ht).2⟩⟩)
    (List.forall_mem_append.mpr ⟨fun t ht => (s2 t ht).2,
      List.forall_mem_append.mpr ⟨fun t ht => (m2 t ht).2, fun t ht => (a2 t ht).2⟩⟩)
    (by simp [digMiddle_ne_nil]) (by simp [digMiddle_ne_nil]) h
  -- the blank separates the three groups
  have ⟨e1, e2, e3⟩ := blocks_unique (fun t : Scripts.Str => ' ' ∈ t)
    (fun t ht => (s1 t ht).1) (fun t ht => (s2 t ht).1) (fun t ht => (m1 t ht).1) (fun t ht => (m2 t ht).1)
    (fun t ht => (a1 t ht).1) (fun t ht => (a2 t ht).1) (digMiddle_ne_nil _) (digMiddle_ne_nil _) hlines
  exact ⟨e1, digMiddle_inj (fun t ht => (hd t (Or.inl ht)).1) (fun t ht => (hd t (Or.inr ht)).1) e2, e3⟩

example : checkoutDigestScript ["https://git.test/a.git refs/heads/main s0".toList] (digOf ["da39a3ee".toList])
      ["s0/x.txt da39 1 4294967295".toList]
    = "https://git.test/a.git refs/heads/main s0\nda39a3ee\ns0/x.txt da39 1 4294967295".toList := by
  -- a string literal is `String.ofList` of its characters: `toList` gives them back without decoding UTF-8
  rw [String.toList_ofList, String.toList_ofList, String.toList_ofList, String.toList_ofList]
  rfl

/- the hypotheses of `vid_propagates` are satisfiable: a leaf `0`, a step `1` that takes it as argument, a toy
hash that is collision free on the encodings that occur; editing the leaf's script changes the id of step `1` -/
def toyHash (b : Bytes) : Bytes :=
  let t := (b.reverse.take 20).reverse
  List.replicate (20 - t.length) 0 ++ t
def toyLeaf (c : Char) : Node := { script := some [c], tools := [], env := [], args := [], sandbox := none }
def toyG : Nat → Node
  | 0 => toyLeaf 'a'
  | 1 => { script := some ['x'], tools := [], env := [], args := [0], sandbox := none }
  | _ => toyLeaf 'z'
def toyG' : Nat → Node
  | 0 => toyLeaf 'b'
  | n => toyG n
def toyIds (g : Nat → Node) : Nat → Bytes
  | 0 => variantId toyHash ((g 0).desc (fun _ => []))
  | 1 => variantId toyHash ((g 1).desc (fun _ => variantId toyHash ((g 0).desc (fun _ => []))))
  | _ => variantId toyHash ((toyLeaf 'z').desc (fun _ => []))

example : HashLen toyHash ∧ Consistent toyHash toyG (toyIds toyG) ∧ Consistent toyHash toyG' (toyIds toyG') ∧
    (∀ i, i ≠ 0 → toyG i = toyG' i) ∧
    (∀ i, NoColl toyHash (encRecipe ((toyG i).desc (toyIds toyG))) (encRecipe ((toyG' i).desc (toyIds toyG')))) ∧
    sliceRecipes (toyIds toyG 0) ≠ sliceRecipes (toyIds toyG' 0) ∧ Reach toyG 0 1 ∧
    sliceRecipes (toyIds toyG 1) ≠ sliceRecipes (toyIds toyG' 1) := by
  have hl : HashLen toyHash := by
    intro b
    simp only [toyHash, List.length_append, List.length_replicate, List.length_reverse, List.length_take]
    omega
  -- `simp only` and not `rfl`: the unifier must not be asked whether `toyIds toyG` and `fun _ => …` agree
  have c : Consistent toyHash toyG (toyIds toyG) := fun
    | 0 => rfl
    | 1 => by simp only [toyIds, toyG, Node.desc, List.map_cons, List.map_nil]
    | _ + 2 => rfl
  have c' : Consistent toyHash toyG' (toyIds toyG') := fun
    | 0 => rfl
    | 1 => by simp only [toyIds, toyG', toyG, Node.desc, List.map_cons, List.map_nil]
    | _ + 2 => rfl
  have n0 : sliceRecipes (toyIds toyG 0) ≠ sliceRecipes (toyIds toyG' 0) := by decide +kernel
  have n1 : sliceRecipes (toyIds toyG 1) ≠ sliceRecipes (toyIds toyG' 1) := by decide +kernel
  -- the recipe half of a stored id is the hash of the recipe part, so the hash separates what the halves separate
  have nc : ∀ i, sliceRecipes (toyIds toyG i) ≠ sliceRecipes (toyIds toyG' i) →
      NoColl toyHash (encRecipe ((toyG i).desc (toyIds toyG))) (encRecipe ((toyG' i).desc (toyIds toyG'))) := by
    intro i hne h
    rw [c i, c' i, sliceRecipes_variantId hl, sliceRecipes_variantId hl] at hne
    exact absurd h hne
  exact ⟨hl, c, c', fun
    | 0 => fun hi => absurd rfl hi
    | _ + 1 => fun _ => rfl, fun
    | 0 => nc 0 n0
    | 1 => nc 1 n1
    | _ + 2 => fun _ => by simp only [toyG', toyG, toyLeaf, Node.desc, List.map_nil], n0, Reach.step Reach.refl (Or.inl (by decide)), n1⟩

end C02
