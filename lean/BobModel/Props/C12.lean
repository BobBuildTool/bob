import BobModel.Proofs.C12Events
import BobModel.Proofs.C12Ops
import BobModel.Proofs.C12Conv
import BobModel.Proofs.C12Order
/-
C12 — Checkouts converge to the recipe and never destroy user work.

Property theorems about `Model/Checkout.lean` (directory level logic of `_cookCheckoutStep`,
`bob clean -s`, `bob clean --attic`) and `Model/GitSwitch.lean` (abstract git, `GitScm.switch/invoke/status`).
The notions the statements use are defined in the proof modules: `Allowed`, `replay`, `AtticBelow`, `Present`,
`PrunedBelow`, `SemKeeps` in `C12Checkout`; `Event`, `run`, `EvOk`, `Lost`, `NoLoss`, `ExpClean` in `C12Events`;
`ScmConv`, `WsGood`, `Build`, `BuildOk`, `AllOk`, `runBuilds` in `C12Conv`; `UpClosed`, `SpecUp` in `C12Git`;
`UnivUp` in `C12Ops`.
-/
namespace C12
open Checkout GitSwitch

variable {σ κ ι : Type}

/-- **A checkout run never deletes.**  Whatever the old state, the new SCM list, the flags and the
SCM behaviour: the micro-ops a run of `_cookCheckoutStep` adds to the log are only `scmSwitch`,
`moveToAttic` to attic numbers of this run (`st0.nextAttic ≤ n < st'.nextAttic`), `regAttic`,
`setDirState`, `invoke`, and `emptyDir p` solely for the directory of an import SCM with `prune`
of the new list - never `rmAttic`/`rmWorkspace`.  The set of existing SCM directories after the run
is exactly the replay of these ops on the directories before (`emit`/`emitSet` are the only writers),
and attic numbers stay fresh. -/
theorem no_delete_in_checkout (sem : ScmSem σ κ) (fl : Flags) (indet : Bool) (new : List (NewEntry σ))
    (st0 : St σ κ) :
    st0.nextAttic ≤ (cook sem fl indet new st0).1.nextAttic ∧
    (AtticBelow st0 → AtticBelow (cook sem fl indet new st0).1) ∧
    ∃ added, (cook sem fl indet new st0).1.ops = added ++ st0.ops ∧
      locs (cook sem fl indet new st0).1.fs = replay added (locs st0.fs) ∧
      ∀ op, op ∈ added → Allowed sem new st0.nextAttic (cook sem fl indet new st0).1.nextAttic op :=
  (steps_cook sem fl indet new st0).ext

/-- the attic directory a move targets does not exist yet: the move is a rename to a fresh name -/
theorem attic_target_fresh (st : St σ κ) (hb : AtticBelow st) (e : Loc × κ) (he : e ∈ st.fs) :
    e.1.under (.attic st.nextAttic []) = false := by
  obtain ⟨l, k⟩ := e
  cases l with
  | ws p => rfl
  | attic n p =>
    have := hb n p k he
    simp only [Loc.under, Bool.and_eq_false_imp, beq_iff_eq]
    intro h; omega

/-- new checkouts go to paths that do not exist: when the collision check passes, the directory of
every new SCM that the old state does not know (other than ".") is absent from the workspace -/
theorem fresh_checkout_path_free (new : List (NewEntry σ)) (st : St σ κ) (h : collision new st = none)
    (n : NewEntry σ) (hn : n ∈ new) (hdot : n.dir ≠ ".") (hold : ∀ e, e ∈ st.old → e.dir ≠ n.dir) :
    existsWs st (normComps n.dir) = false := by
  unfold collision at h
  rw [List.find?_eq_none] at h
  have hmem : n.dir ∈ sortedNewDirs new := by
    unfold sortedNewDirs
    exact (List.mergeSort_perm _ _).mem_iff.mpr (List.mem_map.mpr ⟨n, hn, rfl⟩)
  have := h n.dir hmem
  simp only [Bool.and_eq_true, bne_iff_ne, ne_eq, Bool.not_eq_true', List.any_eq_false, beq_iff_eq,
    not_and, Bool.not_eq_true] at this
  exact this ⟨hdot, fun e he => hold e he⟩

/-- **The loop is top-down**: `checkoutsFromState` orders by path components, so no SCM directory is
visited before a directory it is nested in - whatever the names (finding F-C12-2, fixed in the source). -/
theorem checkouts_top_down (old : List (OldEntry σ)) :
    (sortedOld old).Pairwise (fun x y =>
      ¬ (isPrefix (normComps y.dir) (normComps x.dir) = true ∧ normComps y.dir ≠ normComps x.dir)) :=
  sortedOld_topdown old

/-- once a directory was moved to the attic, every directory at or below it is recognised as affected
(`AtticTracker.affected`); the loop then drops its state entry and, if it exists there, registers it
below the attic directory of the first matching entry (`loopStep`) -/
theorem tracker_catches_nested (tr : List (Comps × Nat)) (p q : Comps) (n : Nat) (h : isPrefix p q = true) :
    (trackerMatch (trackerAdd tr p n) q).isSome = true := by
  unfold trackerMatch
  rw [List.find?_isSome]
  unfold trackerAdd
  split
  · rename_i hany
    rw [List.any_eq_true] at hany
    obtain ⟨e, he, hep⟩ := hany
    refine ⟨(p, n), List.mem_map.mpr ⟨e, he, by simp [hep]⟩, h⟩
  · exact ⟨(p, n), List.mem_append_right _ (List.mem_singleton.mpr rfl), h⟩

/-- the moved directory keeps every nested SCM directory: the contents are the same, only the
location changes (`os.rename`) -/
theorem move_keeps_contents (p : Comps) (n : Nat) (fs : List (Loc × κ)) :
    (applyOp fs (.moveToAttic p n : Op σ)).map (·.2) = fs.map (·.2) := by
  simp [applyOp, List.map_map, Function.comp_def]

/-- the hypothesis `AtticBelow` of `attic_target_fresh` holds of a state with directories -/
example : ∃ (st : St Unit Nat), AtticBelow st ∧ st.fs ≠ [] :=
  ⟨{ fs := [(.attic 0 [], 7), (.ws ["a"], 1)], plain := [], wsMissing := false, old := [], atticReg := [],
     nextAttic := 1, ops := [] }, by
    intro n p k hm
    simp only [List.mem_cons, Prod.mk.injEq, Loc.attic.injEq, reduceCtorEq, false_and, List.mem_nil_iff,
      or_false] at hm
    show n < 1
    omega, by simp⟩

/-- **One checkout run keeps every work item**, for every old state, new SCM list, flag
combination and SCM outcome (switch succeeds, fails half way, is impossible, attic ...), given only
that SCM runs keep the items of a content (`SemKeeps`; proved for git below).  An item is lost
only if, before the run, it lay strictly below the directory of an import SCM with `prune` (which
empties its directory by design; the recipe parser rejects git SCMs there); the condition is
necessary, not sufficient. -/
theorem build_preserves_user_work (sem : ScmSem σ κ) (work : κ → ι → Prop) (hs : SemKeeps sem work)
    (fl : Flags) (indet : Bool) (new : List (NewEntry σ)) (st0 : St σ κ) (i : ι)
    (h : Present work st0.fs i) :
    Present work (cook sem fl indet new st0).1.fs i ∨ PrunedBelow sem work new st0.fs i :=
  cook_present hs fl indet st0 h

/-- without pruning import SCMs nothing is ever lost by a checkout run -/
theorem build_preserves_user_work_noprune (sem : ScmSem σ κ) (work : κ → ι → Prop) (hs : SemKeeps sem work)
    (fl : Flags) (indet : Bool) (new : List (NewEntry σ)) (st0 : St σ κ) (i : ι)
    (hp : ∀ n, n ∈ new → sem.prunes n.spec = false)
    (h : Present work st0.fs i) : Present work (cook sem fl indet new st0).1.fs i := by
  rcases build_preserves_user_work sem work hs fl indet new st0 i h with h1 | ⟨n, hn, hpr, _⟩
  · exact h1
  · rw [hp n hn] at hpr; cases hpr

/-- The property as stated: after any history of builds (each with its own recipe SCM list, flags
and SCM/upstream behaviour), `bob clean -s`, `bob clean --attic` and other actions that do not
remove the item themselves, every work item is still present.  NOT asserted in this generality: the
model's file system may hold checkouts that Bob has no record of (see `user_work_preserved_partial`). -/
def user_work_preserved_goal (work : κ → ι → Prop) : Prop :=
  ∀ (h : List (Event σ κ)) (st : St σ κ) (i : ι), (∀ ev, ev ∈ h → EvOk work ev) →
    (∀ f st', Event.other f ∈ h → Present work st'.fs i → Present work (f st').fs i) →
    Present work st.fs i → Present work (run h st).fs i

/-- **User work survives every history** of recipe SCM edits and upstream moves (both are the
parameters of the following `build` events), user actions (`other`), `bob dev [--clean-checkout]
[--no-attic]`, `bob clean -s [--dry-run]`, `bob clean --attic [--dry-run]`.
Added hypothesis `NoLoss`: at no event of the history one of the three loss conditions holds
(`Lost`; each is necessary for a loss, not sufficient): item below a pruning import SCM
(`PrunedBelow`); the item lies below an attic directory selected by `bob clean --attic` in a
directory that is not a registered attic SCM (`UnregisteredInDeletable`); `bob clean -s` on a
workspace with a checkout outside the directory state (`UntrackedWs`); or the user removes the item.
Registered SCM directories - in the workspace or in the attic, nested or not - never lose anything. -/
theorem user_work_preserved_partial (work : κ → ι → Prop) (h : List (Event σ κ)) (st : St σ κ) (i : ι)
    (hok : ∀ ev, ev ∈ h → EvOk work ev) (hnl : NoLoss work h st i) (hp : Present work st.fs i) :
    Present work (run h st).fs i :=
  history_present work h st i hok hnl hp

/-- every single event either keeps the item or its loss condition holds (no other way to lose) -/
theorem event_preserves_or_lost (work : κ → ι → Prop) (ev : Event σ κ) (hok : EvOk work ev) (st : St σ κ)
    (i : ι) (h : Present work st.fs i) : Present work (runEv ev st).fs i ∨ Lost work ev st i :=
  step_present work ev hok st i h

/-- what a user can make in a clone -/
inductive Item
  | dirty (p : GitSwitch.Path) (b : Blob)
  | untracked (p : GitSwitch.Path) (b : Blob)
  | commit (c : Commit)

def repoWork (D : Dag) (U : Commit → Prop) (r : Repo) : Item → Prop
  | .dirty p b => (p, b) ∈ r.dirty
  | .untracked p b => (p, b) ∈ r.untracked
  | .commit c => U c ∧ LocalHeld D r c

theorem safe_work {D : Dag} {U : Commit → Prop} {r r' : Repo} (h : Safe D U r r') (i : Item)
    (hw : repoWork D U r i) : repoWork D U r' i := by
  cases i with
  | dirty p b => simp only [repoWork] at hw ⊢; rw [h.1]; exact hw
  | untracked p b => simp only [repoWork] at hw ⊢; rw [h.2.1]; exact hw
  | commit c => exact ⟨hw.1, h.2.2 c hw.1 hw.2⟩

/-- **`GitScm.switch` keeps user work** - dirty and untracked paths and every user-created commit
held by a local branch or the detached HEAD - whether it succeeds or fails half way (then the
directory goes to the attic as it is).  In particular it never resets over an unpushed commit. -/
theorem git_switch_preserves_work {D : Dag} {U : Commit → Prop} {ops : GitOps} (hc : GitContract D U ops)
    (hU : UpClosed D U) (old new : GitSpec) (r : Repo) (ho : SpecUp U old) (hn : SpecUp U new)
    (hup : RefsUpstream U r) (i : Item) (hw : repoWork D U r i) :
    repoWork D U (switchAct ops old new r).1 i ∧ RefsUpstream U (switchAct ops old new r).1 :=
  ⟨safe_work (good_switchAct hc hU old new r ho hn hup).1 i hw, (good_switchAct hc hU old new r ho hn hup).2 hup⟩

/-- **`GitScm.invoke` on an existing clone keeps user work** (the update of an unchanged SCM) -/
theorem git_update_preserves_work {D : Dag} {U : Commit → Prop} {ops : GitOps} (hc : GitContract D U ops)
    (hU : UpClosed D U) (s : GitSpec) (r : Repo) (hup : RefsUpstream U r) (i : Item) (hw : repoWork D U r i) :
    repoWork D U (invokeAct ops s false r).1 i ∧ RefsUpstream U (invokeAct ops s false r).1 :=
  ⟨safe_work (good_updateAct hc hU s r hup).1 i hw, (good_updateAct hc hU s r hup).2 hup⟩

/-- the "Current state would be lost" guard is what makes `reset --keep` safe: with the guard
passed, the reset keeps every user commit -/
theorem git_guarded_reset_safe {D : Dag} {U : Commit → Prop} {ops : GitOps} (hc : GitContract D U ops)
    (hU : UpClosed D U) (b : Name) (c : Commit) (r : Repo) (hb : r.head = .branch b)
    (hup : RefsUpstream U r) (hg : guardOk ops b r = true) (i : Item) (hw : repoWork D U r i) :
    repoWork D U ((lift (ops.resetKeep c)) r).1 i :=
  safe_work (good_reset hc hU b c r hb hup hg).1 i hw

/-- the contract is satisfiable: the executable git model that the harness compares with git 2.39
satisfies it (for every universe whose upstream refs name upstream commits) -/
theorem model_git_satisfies_contract (D : Dag) (U : Commit → Prop) (univ : List (String × Upstream))
    (hu : UnivUp U univ) : GitContract D U (modelOps D univ) :=
  modelOps_contract univ hu

/-- git clones whose remote refs and tags name upstream commits / specs that name upstream commits -/
abbrev GoodRepo (U : Commit → Prop) := { r : Repo // RefsUpstream U r }
abbrev GoodSpec (U : Commit → Prop) := { s : GitSpec // SpecUp U s }

theorem refs_init (U : Commit → Prop) : RefsUpstream U Repo.init := by
  constructor <;> intro n c h <;> simp [Repo.init] at h

/-- the git SCM as the builder sees it -/
def gitSem (D : Dag) (U : Commit → Prop) (ops : GitOps) (hc : GitContract D U ops) (hU : UpClosed D U) :
    ScmSem (GoodSpec U) (GoodRepo U) where
  canSwitch o n := canSwitch o.1 n.1
  switch o n k := (⟨(switchAct ops o.1 n.1 k.1).1, (good_switchAct hc hU o.1 n.1 k.1 o.2 n.2 k.2).2 k.2⟩,
                   (switchAct ops o.1 n.1 k.1).2)
  invoke s k :=
    match k with
    | some k => (⟨(invokeAct ops s.1 false k.1).1, (good_updateAct hc hU s.1 k.1 k.2).2 k.2⟩,
                 (invokeAct ops s.1 false k.1).2)
    | none => (⟨(invokeAct ops s.1 false Repo.init).1,
                 (good_updateAct hc hU s.1 Repo.init (refs_init U)).2 (refs_init U)⟩,
               (invokeAct ops s.1 false Repo.init).2)
  dirty s k := match k with | some k => (status D s.1 false k.1).dirty | none => true
  expendable s k := match k with | some k => (status D s.1 false k.1).expendable | none => false
  prunes _ := false

theorem gitSem_keeps (D : Dag) (U : Commit → Prop) (ops : GitOps) (hc : GitContract D U ops) (hU : UpClosed D U) :
    SemKeeps (gitSem D U ops hc hU) (fun k i => repoWork D U k.1 i) where
  switch_keeps := fun o n k i hw => safe_work (good_switchAct hc hU o.1 n.1 k.1 o.2 n.2 k.2).1 i hw
  invoke_keeps := fun s k i hw => safe_work (good_updateAct hc hU s.1 k.1 k.2).1 i hw

/-- with git: an expendable clone holds no user work, so `bob clean -s` only removes workspaces
whose registered git SCMs are free of dirty/untracked paths and locally held user commits -/
theorem git_expendable_no_work {D : Dag} {U : Commit → Prop} (hU : UpClosed D U) (s : GitSpec) (extra : Bool)
    (r : Repo) (hup : RefsUpstream U r) (h : (status D s extra r).expendable = true) (i : Item) :
    ¬ repoWork D U r i := by
  obtain ⟨hd, hu, hc⟩ := expendable_no_work hU s extra r hup h
  cases i with
  | dirty p b => simp [repoWork, hd]
  | untracked p b => simp [repoWork, hu]
  | commit c => exact fun hw => hc c hw.2 hw.1

theorem gitSem_expClean (D : Dag) (U : Commit → Prop) (ops : GitOps) (hc : GitContract D U ops) (hU : UpClosed D U) :
    ExpClean (gitSem D U ops hc hU) (fun k i => repoWork D U k.1 i) :=
  fun s k i he hw => git_expendable_no_work hU s.1 false k.1 k.2 he i hw

/-- **user work in git source workspaces survives a build**, under `GitContract`: dirty files,
untracked files and user-created commits held by a local ref are afterwards in the workspace or in
an attic directory (git SCMs never prune) -/
theorem git_build_preserves_user_work (D : Dag) (U : Commit → Prop) (ops : GitOps) (hc : GitContract D U ops)
    (hU : UpClosed D U) (fl : Flags) (indet : Bool) (new : List (NewEntry (GoodSpec U)))
    (st0 : St (GoodSpec U) (GoodRepo U)) (i : Item)
    (h : Present (fun k i => repoWork D U k.1 i) st0.fs i) :
    Present (fun k i => repoWork D U k.1 i) (cook (gitSem D U ops hc hU) fl indet new st0).1.fs i :=
  build_preserves_user_work_noprune _ _ (gitSem_keeps D U ops hc hU) fl indet new st0 i (fun _ _ => rfl) h

/-- **A successful run of the checkout step converges.**  SCM contract `ScmConv`: running an SCM on
nothing or on an untouched checkout yields the fresh checkout of its spec (the identity or a fast
forward to upstream); a successful inline switch of an untouched checkout yields the fresh checkout of
the new spec.  Hypotheses: equal digests mean that an untouched checkout of the old spec is one of the
new spec; the new SCM directories are pairwise different; an import SCM with `prune` has no SCM below
it; deterministic SCMs are immutable (`hdet`: an untouched checkout is the fresh one - needed only
when the step is skipped).  Then from any consistent untouched workspace (`WsGood`; every state entry
has its directory, `hfull`, also needed only when the step is skipped) with whatever old state -
changed, removed, nested, moved, `--clean-checkout` invalidated SCMs, attic moves, failed switches - a run that
reports no error leaves: every SCM
directory of the new list with exactly the fresh checkout of its spec, no other SCM directory in the
workspace proper (removed SCMs are gone), a state that records the new list, and again a consistent
untouched workspace. -/
theorem converges {Unt : σ → κ → Prop} {fresh : σ → κ} {sem : ScmSem σ κ} {new : List (NewEntry σ)}
    (hc : ScmConv sem fresh Unt)
    (hdig : ∀ (e : OldEntry σ) n, n ∈ new → e.dir = n.dir → e.digest = some n.digest →
      ∀ s k, e.spec = some s → Unt s k → Unt n.spec k)
    (hpw : new.Pairwise (fun a b => normComps a.dir ≠ normComps b.dir))
    (hprune : ∀ n, n ∈ new → sem.prunes n.spec = true → ∀ m, m ∈ new →
      isPrefix (normComps n.dir) (normComps m.dir) = true → m = n)
    (fl : Flags) (indet : Bool) (hdet : indet = false → ∀ s k, Unt s k → k = fresh s)
    (st0 : St σ κ) (hW : WsGood Unt st0)
    (hfull : ∀ e, e ∈ st0.old → ∃ k, (Loc.ws (normComps e.dir), k) ∈ st0.fs)
    (hok : (cook sem fl indet new st0).2 = none) :
    (∀ n, n ∈ new → contentAt (cook sem fl indet new st0).1.fs (.ws (normComps n.dir)) = some (fresh n.spec)) ∧
    (∀ p k, (Loc.ws p, k) ∈ (cook sem fl indet new st0).1.fs → ∃ n, n ∈ new ∧ normComps n.dir = p) ∧
    (∀ e, e ∈ (cook sem fl indet new st0).1.old → ∃ n, n ∈ new ∧ e.dir = n.dir ∧ e.digest = some n.digest) ∧
    WsGood Unt (cook sem fl indet new st0).1 :=
  let h := cook_converges (b := ⟨sem, fresh, fl, indet, new⟩) ⟨hc, hdig, hpw, hprune, hdet⟩ st0 hW hfull hok
  ⟨h.contents, h.only, h.state, h.good⟩

/-- **After any history** of recipe SCM edits and upstream moves (each build has its own SCM list,
flags, SCM behaviour and notion of "fresh") with successful builds in between, an untouched source
workspace equals a fresh checkout of the final specification: every SCM directory of the last list
holds the fresh checkout (as of the last build), and no directory of a removed SCM remains. -/
theorem converges_history {Unt : σ → κ → Prop} (bs : List (Build σ κ)) (st : St σ κ) (hW : WsGood Unt st)
    (hfull : ∀ e, e ∈ st.old → ∃ k, (Loc.ws (normComps e.dir), k) ∈ st.fs)
    (hok : ∀ b, b ∈ bs → BuildOk Unt b) (hall : AllOk bs st) (b : Build σ κ) (hb : bs.getLast? = some b) :
    (∀ n, n ∈ b.new → contentAt (runBuilds bs st).fs (.ws (normComps n.dir)) = some (b.fresh n.spec)) ∧
    (∀ p k, (Loc.ws p, k) ∈ (runBuilds bs st).fs → ∃ n, n ∈ b.new ∧ normComps n.dir = p) :=
  let h := builds_converge bs st hW hfull hok hall b hb
  ⟨h.contents, h.only⟩

/-- the hypotheses are satisfiable: contents = the spec they were checked out from, starting from
the project before the first build (no workspace yet, one attic directory left from earlier) -/
example : ∃ (sem : ScmSem Nat Nat) (fresh : Nat → Nat) (Unt : Nat → Nat → Prop),
    ScmConv sem fresh Unt ∧ WsGood Unt (σ := Nat)
      { fs := [(.attic 0 [], 3)], plain := [], wsMissing := true, old := [],
        atticReg := [((0, []), some 3)], nextAttic := 1, ops := [] } :=
  ⟨{ canSwitch := fun _ _ => true, switch := fun _ n _ => (n, true), invoke := fun s _ => (s, true),
     dirty := fun _ _ => false, expendable := fun _ _ => true, prunes := fun _ => false },
   id, fun s k => k = s,
   ⟨fun _ => rfl, fun _ => rfl, fun _ _ _ => rfl, fun _ _ _ _ _ => rfl⟩,
   ⟨(by intro p k hm; simp at hm), (by simp [locs]), (by intro _ p k hm; simp at hm), (by simp),
    (by
      intro n p k hm
      simp only [List.mem_singleton, Prod.mk.injEq, Loc.attic.injEq] at hm
      show n < 1
      omega)⟩⟩

/-- `--dry-run` removes nothing -/
theorem clean_dry_run (sem : ScmSem σ κ) (st : St σ κ) :
    cleanSrc sem true st = st ∧ cleanAttic sem true st = st :=
  ⟨cleanSrc_unchanged sem true st (Or.inl rfl), rfl⟩

/-- **`bob clean -s` without `--force` removes a source workspace only if every SCM of its
directory state reports `expendable`** (status known, spec known); otherwise nothing changes -/
theorem clean_src_expendable_only (sem : ScmSem σ κ) (dry : Bool) (st : St σ κ)
    (h : cleanSrc sem dry st ≠ st) :
    dry = false ∧ ∀ e, e ∈ st.old → ∃ s, e.spec = some s ∧
      sem.expendable s (contentAt st.fs (.ws (normComps e.dir))) = true :=
  ⟨(cleanSrc_changed h).1, (srcExpendable_iff sem st).mp (cleanSrc_changed h).2⟩

/-- the `ScmStatus.expendable` table: expendable iff none of modified, error, switched,
unpushed_main, unpushed_local, unknown is set -/
theorem expendable_table (t : Taints) :
    t.expendable = true ↔ (t.modified = false ∧ t.error = false ∧ t.switched = false ∧
      t.unpushedMain = false ∧ t.unpushedLocal = false ∧ t.unknown = false) :=
  Taints.expendable_iff t

/-- an inline switch never changes the directory of an SCM: `dir` is not among the properties
`GitScm.canSwitch` accepts (re-checked against the sets extracted from the current source) -/
theorem canSwitch_keeps_dir (old new : GitSpec) (h : GitSwitch.canSwitch old new = true) : old.dir = new.dir := by
  refine Decidable.byContradiction fun hne => ?_
  have hd : (old.dir != new.dir) = true := bne_iff_ne.mpr hne
  have hf : GitSwitch.canSwitch old new = false := by
    unfold GitSwitch.canSwitch
    exact switchDecision_false (p := "dir")
      (by simp only [hd, if_true, List.mem_append, List.mem_singleton, or_true, true_or])
      (by simp [Consts.C12.gitIgnoredProps]) (by simp [Consts.C12.gitSwitchable]) _
  rw [hf] at h; cases h

/-- the words of the git commands in pym/bob/scm/git.py that move a branch or HEAD of an existing clone,
extracted from the current source on every run: `reset --keep` behind the "would be lost" guard,
`merge --ff-only`, plain `checkout` / `checkout -b` (no `--force`, no `--hard`, no `clean`) are the
commands of `GitOps`; `rebase --onto` (`rebase: true`) is not modelled; `switch` has two refusals. -/
theorem git_commands_as_modelled :
    Consts.C12.resetCmd = ["git", "reset", "--keep"] ∧
    Consts.C12.forwardCmd = ["git", "merge", "--ff-only", "refs/remotes/origin/"] ∧
    Consts.C12.moverWords = ["--ff-only", "--keep", "--no-recurse-submodules", "--onto", "-b", "-c", "-q",
      "checkout", "merge", "rebase", "reset"] ∧
    Consts.C12.lostGuard = true ∧ Consts.C12.switchRefusals.length = 2 :=
  ⟨rfl, rfl, rfl, rfl, rfl⟩

/-- **`bob clean --attic` without `--force` removes a registered attic SCM directory only if the
SCM it is registered with reports `expendable`** - also when it is removed as part of a parent
attic directory (nested SCMs go to the attic with their parent and are registered separately;
finding F-C12-1, fixed in the source). -/
theorem clean_attic_expendable_only (sem : ScmSem σ κ) (st : St σ κ) (n : Nat) (sub : Comps) (s : σ) (k : κ)
    (hreg : ((n, sub), some s) ∈ st.atticReg) (hm : (Loc.attic n sub, k) ∈ st.fs)
    (hrm : (Loc.attic n sub, k) ∉ (cleanAttic sem false st).fs) :
    sem.expendable s (contentAt st.fs (.attic n sub)) = true := by
  rcases cleanAttic_keeps_or sem st _ hm with hk | ⟨key, hkey, hu⟩
  · exact absurd hk hrm
  · exact selected_expendable sem st hkey hm hu hreg

/-- whatever `bob clean --attic` removes lies at or below a selected attic directory, and everything
registered at or below a selected directory is expendable -/
theorem clean_attic_selection (sem : ScmSem σ κ) (st : St σ κ) :
    (∀ e, e ∈ st.fs → (∀ k, k ∈ atticDeletable sem st → e.1.under (.attic k.1 k.2) = false) →
        e ∈ (cleanAttic sem false st).fs) ∧
    (∀ k, k ∈ atticDeletable sem st → ∀ e', e' ∈ st.atticReg → atticPresent st e'.1 = true →
        regBelow k e'.1 = true → regExpendable sem st e' = true) :=
  ⟨fun e he hk => cleanAttic_keeps sem st e he hk, fun k hk => atticDeletable_expendable sem st k hk⟩

end C12
