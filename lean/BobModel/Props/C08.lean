import BobModel.Proofs.C08Run
/-
C08 — artifact packing is lossless, corruption is rejected, extraction is confined.
Property theorems about the model `Model/TarExtract.lean` of `TarHelper` (pym/bob/archive.py),
`_tarExtractFilter` (pym/bob/utils.py), CPython's per-member extraction (assumed semantics) and
the acceptance logic of `LocalBuilder._downloadPackage` (pym/bob/builder.py).

`Cfg.current` is the dispatch of the *current source*: which confinement checks exist is
extracted from the source on every run (`Generated/ConstsC08.lean`).  `Cfg.asIs` (only
`_tarExtractFilter`: the dispatch before commit 8ba1640) and `Cfg.lexical` (hard link names normalised
lexically, nothing else) are the weaker dispatches for which the witnesses below refute the confinement
statement; the witnesses replay on the implementation when the checks are removed.

The notions of the confinement statements are defined in the proof modules: `IsDir` in `C08Walk`; `Inside`,
`Inv`, `Sep` in `C08Step`; `AuditOk`, `RunInv` in `C08Run`.  The proofs go through `Cfg.Checked` (`C08Member`), which
`Cfg.current` satisfies.
-/
namespace C08
open TarExtract

/-- the constants of `_pack` and of the dispatch fit together -/
theorem namespace_constants :
    Consts.C08.packContent ++ [slash] = Consts.C08.contentPrefix ∧
    Consts.C08.contentPrefix.length = Consts.C08.stripLen ∧
    Consts.C08.packVsn = Consts.C08.vsnAccepted ∧
    Consts.C08.vsnDefault ≠ Consts.C08.vsnAccepted ∧
    contentSlash.isPrefixOf auditMember = false ∧
    Consts.C08.skipNames.contains Consts.C08.packContent = true ∧
    Consts.C08.skipNames.contains auditMember = false ∧
    (∀ n ∈ Consts.C08.skipNames, contentSlash.isPrefixOf n = false) ∧
    Consts.C08.unknownRejected = true := by
  decide

/-- a member that `_pack` emits for the tree entry `m` (any name, any link name) is dispatched as
content member and renamed back to exactly `m`: `rel ↦ content/rel ↦ rel` is the identity -/
theorem dispatch_packed_content (cfg : Cfg) (hl : cfg.lnkCheck ≠ 1) (m : Member) :
    dispatch cfg { m with name := Consts.C08.packContent ++ [slash] ++ m.name,
                          linkname := if m.type = .lnk then Consts.C08.packContent ++ [slash] ++ m.linkname else m.linkname }
      = .ok (.content m) := by
  have hpre : Consts.C08.packContent ++ [slash] = contentSlash := namespace_constants.1
  have hlen : contentSlash.length = Consts.C08.stripLen := namespace_constants.2.1
  have hp : ∀ x : Str, contentSlash.isPrefixOf (contentSlash ++ x) = true :=
    fun x => List.isPrefixOf_iff_prefix.mpr (List.prefix_append _ _)
  have hd : ∀ x : Str, (contentSlash ++ x).drop Consts.C08.stripLen = x := by
    intro x; rw [← hlen]; exact List.drop_left
  unfold dispatch
  simp only [hpre, hp, if_true]
  by_cases ht : m.type = .lnk
  · simp only [ht, if_true, hp, Bool.true_eq_false, if_false, hd]
    have : ¬ (cfg.lnkCheck = 1 ∧ (isAbs m.linkname = true ∨ (normpath m.linkname).2.head? = some dotdot)) :=
      fun h => hl h.1
    simp only [this, if_false]
    cases m; simp_all
  · simp only [ht, if_false, hd]

theorem dispatch_packed_audit (cfg : Cfg) (data : Str) :
    dispatch cfg ⟨auditMember, .reg, [], 0o644, data⟩ = .ok .audit := by
  have h1 : contentSlash.isPrefixOf auditMember = false := namespace_constants.2.2.2.2.1
  unfold dispatch
  simp only [h1, Bool.false_eq_true, if_false, if_true]

theorem dispatch_packed_contentdir (cfg : Cfg) :
    dispatch cfg ⟨Consts.C08.packContent, .dir, [], 0o755, []⟩ = .ok .skip := by
  have h1 : contentSlash.isPrefixOf Consts.C08.packContent = false := by decide
  have h2 : Consts.C08.packContent ≠ auditMember := by decide
  have h3 : Consts.C08.skipNames.contains Consts.C08.packContent = true := namespace_constants.2.2.2.2.2.1
  unfold dispatch
  simp only [h1, Bool.false_eq_true, if_false]
  rw [if_neg h2, if_pos h3]

/-- **pack_extract_namespace**: the member list that `_pack` produces for an audit trail named
`audit.json.gz` and any tree listing `rels` is accepted member by member by the dispatch of
`__extractPackage` as: the audit file, the (skipped) `content` directory, and every tree entry
under its own relative name. -/
theorem pack_extract_namespace (cfg : Cfg) (hl : cfg.lnkCheck ≠ 1) (auditBase auditData : Str) (rels : List Member)
    (hbase : Consts.C08.packMetaDir ++ auditBase = auditMember) :
    (packMembers auditBase auditData rels).map (dispatch cfg) =
      .ok .audit :: .ok .skip :: rels.map (fun m => .ok (.content m)) := by
  unfold packMembers
  simp only [List.map_cons, List.map_map, hbase, dispatch_packed_audit, dispatch_packed_contentdir]
  congr 2
  apply List.map_congr_left
  intro m _
  exact dispatch_packed_content cfg hl m

/-- nothing else is accepted: what the dispatch lets through has exactly these forms -/
theorem dispatch_accepts_only (cfg : Cfg) (m : Member) :
    (∀ m', dispatch cfg m = .ok (.content m') →
        m.name = contentSlash ++ m'.name ∧ m'.type = m.type ∧ m'.mode = m.mode ∧ m'.data = m.data ∧
        (m.type = .lnk → m.linkname = contentSlash ++ m'.linkname) ∧ (m.type ≠ .lnk → m'.linkname = m.linkname)) ∧
    (dispatch cfg m = .ok .audit → m.name = auditMember) ∧
    (dispatch cfg m = .ok .skip → Consts.C08.skipNames.contains m.name = true) := by
  have hlen : contentSlash.length = Consts.C08.stripLen := namespace_constants.2.1
  have hsplit : ∀ x : Str, contentSlash.isPrefixOf x = true → x = contentSlash ++ x.drop Consts.C08.stripLen := by
    intro x hx
    obtain ⟨t, ht⟩ := List.isPrefixOf_iff_prefix.mp hx
    rw [← ht, ← hlen, List.drop_left]
  have hur : Consts.C08.unknownRejected = true := namespace_constants.2.2.2.2.2.2.2.2
  unfold dispatch
  by_cases hc : contentSlash.isPrefixOf m.name = true
  · rw [if_pos hc]
    by_cases ht : m.type = .lnk
    · rw [if_pos ht]
      by_cases hlc : contentSlash.isPrefixOf m.linkname = true
      · rw [if_neg (by simp [hlc])]
        dsimp only
        split
        · simp
        · refine ⟨?_, by simp, by simp⟩
          intro m' hm'
          have e := Action.content.inj (Except.ok.inj hm')
          subst e
          exact ⟨hsplit _ hc, rfl, rfl, rfl, fun _ => hsplit _ hlc, fun h => absurd ht h⟩
      · have : contentSlash.isPrefixOf m.linkname = false := (Bool.not_eq_true _).mp hlc
        rw [if_pos this]
        simp
    · rw [if_neg ht]
      refine ⟨?_, by simp, by simp⟩
      intro m' hm'
      have e := Action.content.inj (Except.ok.inj hm')
      subst e
      exact ⟨hsplit _ hc, rfl, rfl, rfl, fun h => absurd h ht, fun _ => rfl⟩
  · rw [if_neg hc]
    by_cases ha : m.name = auditMember
    · rw [if_pos ha]
      exact ⟨(fun m' h => by cases h), fun _ => ha, (fun h => by cases h)⟩
    · rw [if_neg ha]
      by_cases hs : Consts.C08.skipNames.contains m.name = true
      · rw [if_pos hs]
        exact ⟨(fun m' h => by cases h), (fun h => by cases h), fun _ => hs⟩
      · rw [if_neg hs, if_pos hur]
        exact ⟨(fun m' h => by cases h), (fun h => by cases h), (fun h => by cases h)⟩

/-- **accepted_is_verified**: a download is recorded as the result of the package step only if
the artifact was extracted, the audit trail exists and the hash of the extracted workspace equals
the result hash of the audit trail; the recorded hash is that of the extracted workspace. -/
theorem accepted_is_verified {Digest : Type} [DecidableEq Digest] (o : DlObs Digest) (h : Digest)
    (hacc : acceptDownload o = .ok (some h)) :
    o.wasDownloaded = true ∧ o.auditExists = true ∧ o.auditResultHash = o.workspaceHash ∧ h = o.workspaceHash := by
  have h1 : Consts.C08.auditPresenceChecked = true := by decide
  have h2 : Consts.C08.resultHashChecked = true := by decide
  unfold acceptDownload at hacc
  simp only [h1, h2, true_and] at hacc
  by_cases hw : o.wasDownloaded = true
  · simp only [hw, if_true] at hacc
    by_cases ha : o.auditExists = true
    · simp only [ha, Bool.true_eq_false, if_false] at hacc
      by_cases hh : o.auditResultHash = o.workspaceHash
      · simp only [hh, ne_eq, not_true_eq_false, if_false] at hacc
        exact ⟨hw, ha, hh, ((Option.some.inj (Except.ok.inj hacc))).symm⟩
      · simp [hh] at hacc
    · have : o.auditExists = false := (Bool.not_eq_true _).mp ha
      simp [this] at hacc
  · have : o.wasDownloaded = false := (Bool.not_eq_true _).mp hw
    simp [this] at hacc

/-- with a collision free directory hash the accepted workspace *is* the packed tree: the audit
trail carries the hash of the tree that was packed (`packed`), the workspace after extraction is
`extracted` -/
theorem accepted_is_packed {Tree Digest : Type} [DecidableEq Digest] (hashDir : Tree → Digest)
    (hinj : Function.Injective hashDir) (packed extracted : Tree) (auditExists wasDownloaded : Bool) (h : Digest)
    (hacc : acceptDownload ⟨wasDownloaded, auditExists, hashDir packed, hashDir extracted⟩ = .ok (some h)) :
    extracted = packed :=
  (hinj (accepted_is_verified _ h hacc).2.2.1).symm

/-- nothing is recorded for a truncated / corrupted / foreign artifact whose extraction did not
reproduce the audited tree: the verdict is an error or "not downloaded", never a result hash -/
theorem mismatch_never_accepted {Digest : Type} [DecidableEq Digest] (o : DlObs Digest)
    (hbad : o.auditExists = false ∨ o.auditResultHash ≠ o.workspaceHash) :
    ∀ h, acceptDownload o ≠ .ok (some h) := by
  intro h hacc
  have := accepted_is_verified o h hacc
  rcases hbad with hb | hb
  · rw [this.2.1] at hb; cases hb
  · exact hb this.2.2.1

/-- what is assumed about the tree when `__extractPackage` starts, after `_extract` has run
`removePath(audit)`, `removePath(content)`, `makedirs(content)`: absolute canonical destination
and audit path, well-formed tree, no inode shared between the workspace and the rest.  That the three
calls establish it is not proved (no theorem speaks of `extractAll`). -/
structure Ready (cfg : Cfg) (dest audit : Path) (fs0 : FS) : Prop where
  destNe : dest ≠ []
  destPlain : ∀ c ∈ dest, c ≠ dot ∧ c ≠ dotdot
  destFuel : dest.length ≤ cfg.fuel
  inv : Inv dest fs0
  sep : Sep dest fs0
  audit : AuditOk dest audit cfg fs0

/-- everything that is neither inside the workspace nor the audit file is untouched: the name
table, the inodes behind those names (content, type, link target, mode), and the set of names
that refer to such an inode (link count) -/
def Confined (dest audit : Path) (fs0 fs : FS) : Prop :=
  (∀ q, ¬ Inside dest q → q ≠ audit → fs.look q = fs0.look q) ∧
  (∀ q i, ¬ Inside dest q → q ≠ audit → fs0.look q = some (.ref i) →
    fs.inode i = fs0.inode i ∧ ∀ p, fs.look p = some (.ref i) ↔ fs0.look p = some (.ref i))

/-- the full statement for a dispatch `cfg`: for every member list (any names, types, link names,
order, repetitions, pax version) and every ready initial tree -/
def extract_confined_goal (cfg : Cfg) : Prop :=
  ∀ (dest audit : Path) (fs0 : FS) (vsn : Option Str) (ms : List Member),
    Ready cfg dest audit fs0 → Confined dest audit fs0 (extractPackage cfg dest audit vsn fs0 ms).fs

/-- after `removePath(content); makedirs(content)` the workspace holds no file at all, so no inode
is shared with the rest of the tree: the separation hypothesis of `Ready` holds for free -/
theorem sep_of_fresh_workspace {dest : Path} {fs : FS}
    (h : ∀ p, Inside dest p → fs.look p = none ∨ IsDir fs p) : Sep dest fs := by
  intro p q i hp _ hl _
  rcases h p hp with hn | ⟨m, hm⟩
  · rw [hn] at hl; cases hl
  · rw [hm] at hl; cases hl

theorem confined_of_runInv {dest audit : Path} {cfg : Cfg} {fs0 fs : FS} (hr : Ready cfg dest audit fs0)
    (h : RunInv dest audit fs0 fs) : Confined dest audit fs0 fs := by
  refine ⟨h.names, ?_⟩
  intro q i hq hqa hl0
  refine ⟨h.inodes q i hq hqa hl0, ?_⟩
  have hlq : fs.look q = some (.ref i) := by rw [h.names q hq hqa]; exact hl0
  have hi := hr.inv.fresh q i hl0
  intro p
  by_cases hp : Inside dest p
  · constructor
    · intro hl; exact absurd hlq (h.sep p q i hp hq hl)
    · intro hl; exact absurd hl0 (hr.sep p q i hp hq hl)
  · by_cases hpa : p = audit
    · subst hpa
      constructor
      · intro hl
        rcases h.audit with hn | ⟨j, hlj, hj, _⟩
        · rw [hn] at hl; cases hl
        · rw [hlj] at hl; cases hl; omega
      · intro hl; rw [hr.audit.missing] at hl; cases hl
    · rw [h.names p hp hpa]

/-- the current source performs all four checks (regenerated constants; this statement breaks, with
`Cfg.current_checked`, when one of them disappears from the source) -/
theorem current_flags {fuel : Nat} :
    (Cfg.current fuel).filter = true ∧ (Cfg.current fuel).canonNames = true ∧
    (Cfg.current fuel).parentCheck = true ∧ (Cfg.current fuel).lnkCheck = 2 :=
  have h := Cfg.current_checked fuel
  ⟨h.filter, h.canonNames, h.parentCheck, h.lnkCheck⟩

/-- **extract_confined** (full strength, for the dispatch of the current source): no archive
member, however named, typed or linked, makes `__extractPackage` create or modify anything outside
the workspace and the audit file.  Where the model answers `unsupported` (the cases listed in the header of
`Model/TarExtract.lean`) its run stops, and nothing is said about what CPython does from there on. -/
theorem extract_confined (fuel : Nat) : extract_confined_goal (Cfg.current fuel) :=
  fun _ _ _ vsn ms hr => confined_of_runInv hr
    (RunInv.run (Cfg.current_checked fuel) hr.destNe hr.destPlain hr.destFuel hr.audit hr.inv hr.sep vsn ms)

/-- the same for `Cfg.repaired`, which has the four checks written out instead of read from the source -/
theorem extract_confined_repaired (fuel : Nat) : extract_confined_goal (Cfg.repaired fuel) :=
  fun _ _ _ vsn ms hr => confined_of_runInv hr
    (RunInv.run ⟨rfl, rfl, rfl, rfl⟩ hr.destNe hr.destPlain hr.destFuel hr.audit hr.inv hr.sep vsn ms)

/-- the inode separation is kept too, so the statement composes over several extractions -/
theorem extract_keeps_separation (fuel : Nat) (dest audit : Path) (fs0 : FS) (vsn : Option Str) (ms : List Member)
    (hr : Ready (Cfg.current fuel) dest audit fs0) :
    Sep dest (extractPackage (Cfg.current fuel) dest audit vsn fs0 ms).fs ∧
    Inv dest (extractPackage (Cfg.current fuel) dest audit vsn fs0 ms).fs :=
  have h := RunInv.run (Cfg.current_checked fuel) hr.destNe hr.destPlain hr.destFuel hr.audit hr.inv hr.sep vsn ms
  ⟨h.sep, h.inv⟩

/-! ### a concrete jail: non-vacuity and the refutation witnesses

```
/            j/            j/v  (file "P", inode 1, mode 0600)     j/o/  j/o/b -> ../d/w/x (inode 2)
j/d/         j/d/w/  = destination                                  audit = j/d/a
```
-/

def nJ : Name := ['j']
def nD : Name := ['d']
def nW : Name := ['w']
def nV : Name := ['v']
def nO : Name := ['o']
def nB : Name := ['b']
def nA : Name := ['a']

def jailDest : Path := [nJ, nD, nW]
def jailAudit : Path := [nJ, nD, nA]

def jail : FS :=
  { names := [([], .dir 0o755), ([nJ], .dir 0o755), ([nJ, nD], .dir 0o755), ([nJ, nD, nW], .dir 0o755),
              ([nJ, nV], .ref 1), ([nJ, nO], .dir 0o755), ([nJ, nO, nB], .ref 2)],
    inodes := [(1, ⟨.file ['P'], 0o600⟩), (2, ⟨.symlink ['.', '.', '/', 'd', '/', 'w', '/', 'x'], 0o777⟩)],
    next := 3 }

theorem jail_ready (cfg : Cfg) (hf : cfg.fuel = 50) : Ready cfg jailDest jailAudit jail where
  destNe := by decide
  destPlain := by decide
  destFuel := by rw [hf]; decide
  inv := inv_of_check (by decide)
  sep := sep_of_check (by decide)
  audit := auditOk_of_check (by unfold auditCheck; rw [hf]; decide)

def cpre : Str := Consts.C08.contentPrefix
def vsn1 : Option Str := some ['1']

/-- a well-formed archive: audit, directory, file, hard link to it, symbolic link -/
def goodArchive : List Member :=
  [⟨auditMember, .reg, [], 0o644, ['A']⟩, ⟨Consts.C08.packContent, .dir, [], 0o755, []⟩,
   ⟨cpre ++ ['e'], .dir, [], 0o750, []⟩, ⟨cpre ++ ['e', '/', 'f'], .reg, [], 0o640, ['1']⟩,
   ⟨cpre ++ ['g'], .lnk, cpre ++ ['e', '/', 'f'], 0o640, []⟩, ⟨cpre ++ ['l'], .sym, ['e', '/', 'f'], 0o777, []⟩]

/-- the hypotheses of `extract_confined` are satisfiable and the run it talks about is not the
trivial one: the archive is extracted completely (no error) into the jail -/
example :
    Ready (Cfg.current 50) jailDest jailAudit jail ∧
    (extractPackage (Cfg.current 50) jailDest jailAudit vsn1 jail goodArchive).err = none ∧
    (extractPackage (Cfg.current 50) jailDest jailAudit vsn1 jail goodArchive).fs.look (jailDest ++ [['g']]) = some (.ref 4) ∧
    (extractPackage (Cfg.current 50) jailDest jailAudit vsn1 jail goodArchive).fs.look (jailDest ++ [['e'], ['f']]) = some (.ref 4) ∧
    (extractPackage (Cfg.current 50) jailDest jailAudit vsn1 jail goodArchive).fs.look jailAudit = some (.ref 3) :=
  ⟨jail_ready _ rfl, by decide +kernel⟩

/-- F-C08-1 (a): hard link whose link name leaves `content/` lexically, then a regular member of the
same name: the victim outside is chmod-ed and overwritten -/
def witnessHardlink : List Member :=
  [⟨cpre ++ ['h'], .lnk, cpre ++ ['.', '.', '/', '.', '.', '/', 'v'], 0o777, []⟩,
   ⟨cpre ++ ['h'], .reg, [], 0o644, ['X']⟩]

/-- F-C08-1 (c): the link name stays inside `content/`: symbolic link to the victim, hard link to
that symbolic link; the attributes of the hard link member are applied through it -/
def witnessHardlinkToSymlink : List Member :=
  [⟨cpre ++ ['s'], .sym, ['.', '.', '/', '.', '.', '/', 'v'], 0o777, []⟩,
   ⟨cpre ++ ['h'], .lnk, cpre ++ ['s'], 0o777, []⟩]

/-- `..` across a directory that does not exist: `makedirs` creates `j/d/E` outside -/
def witnessDotDot : List Member :=
  [⟨cpre ++ ['.', '.', '/', 'E', '/', '.', '.', '/', 'w', '/', 's', '/', 'x'], .reg, [], 0o644, ['X']⟩]

/-- an outside symbolic link that points into the workspace is replaced -/
def witnessInbound : List Member :=
  [⟨cpre ++ ['s'], .sym, ['.', '.', '/', '.', '.', '/', 'o'], 0o777, []⟩,
   ⟨cpre ++ ['s', '/', 'b'], .sym, ['/', 'z'], 0o777, []⟩]

/-- the re-extraction fallback of `TarFile.makelink`: `d/s` names an earlier symbolic link member
(extracted into `e/` while `d -> e`), but after `d` was re-pointed to `f` nothing of that name is on
disk, so `os.link` is not tried; tarfile re-creates the member `d/s` (a symbolic link to the victim)
at the place of the hard link and applies the hard link's mode through it -/
def witnessFallback : List Member :=
  [⟨cpre ++ ['e'], .dir, [], 0o755, []⟩, ⟨cpre ++ ['f'], .dir, [], 0o755, []⟩,
   ⟨cpre ++ ['d'], .sym, ['e'], 0o777, []⟩, ⟨cpre ++ ['d', '/', 's'], .sym, ['/', 'j', '/', 'v'], 0o777, []⟩,
   ⟨cpre ++ ['d'], .sym, ['f'], 0o777, []⟩, ⟨cpre ++ ['h'], .lnk, cpre ++ ['d', '/', 's'], 0o777, []⟩]

/-- the only way into that fallback which the current dispatch leaves open: all checks pass, but the
link's own path lies below a regular file (`ENOTDIR` for `os.link`) -/
def fallbackBelowFile : List Member :=
  [⟨cpre ++ ['h'], .reg, [], 0o644, ['H']⟩, ⟨cpre ++ ['g'], .sym, ['/', 'j', '/', 'v'], 0o777, []⟩,
   ⟨cpre ++ ['k'], .reg, [], 0o644, ['K']⟩, ⟨cpre ++ ['h', '/', 'x'], .lnk, cpre ++ ['k'], 0o777, []⟩]

/-- the statement is false for the dispatch before commit 8ba1640 (four independent ways) -/
theorem asIs_refuted_hardlink : ¬ extract_confined_goal (Cfg.asIs 50) := by
  intro h
  have := (h jailDest jailAudit jail vsn1 witnessHardlink (jail_ready _ rfl)).2 [nJ, nV] 1 (by unfold Inside; decide) (by decide) (by decide)
  exact absurd this.1 (by decide +kernel)

theorem asIs_refuted_dotdot : ¬ extract_confined_goal (Cfg.asIs 50) := by
  intro h
  have := (h jailDest jailAudit jail vsn1 witnessDotDot (jail_ready _ rfl)).1 [nJ, nD, ['E']] (by unfold Inside; decide) (by decide)
  exact absurd this (by decide +kernel)

theorem asIs_refuted_inbound_symlink : ¬ extract_confined_goal (Cfg.asIs 50) := by
  intro h
  have := (h jailDest jailAudit jail vsn1 witnessInbound (jail_ready _ rfl)).1 [nJ, nO, nB] (by unfold Inside; decide) (by decide)
  exact absurd this (by decide +kernel)

theorem asIs_refuted_fallback : ¬ extract_confined_goal (Cfg.asIs 50) := by
  intro h
  have := (h jailDest jailAudit jail vsn1 witnessFallback (jail_ready _ rfl)).2 [nJ, nV] 1 (by unfold Inside; decide) (by decide) (by decide)
  exact absurd this.1 (by decide +kernel)

/-- normalising the hard link name is not enough: the link name of this witness stays inside -/
theorem lexical_refuted : ¬ extract_confined_goal (Cfg.lexical 50) := by
  intro h
  have := (h jailDest jailAudit jail vsn1 witnessHardlinkToSymlink (jail_ready _ rfl)).2 [nJ, nV] 1 (by unfold Inside; decide) (by decide) (by decide)
  exact absurd this.1 (by decide +kernel)

/-- and the current dispatch rejects all five witnesses; where it does enter the fallback (`os.link`
below a regular file) the re-extraction changes nothing and the exhausted stream ends the run -/
example :
    (extractPackage (Cfg.current 50) jailDest jailAudit vsn1 jail witnessFallback).err = some .filterLink ∧
    (extractPackage (Cfg.asIs 50) jailDest jailAudit vsn1 jail witnessFallback).err = some .streamerror ∧
    (extractPackage (Cfg.current 50) jailDest jailAudit vsn1 jail fallbackBelowFile).err = some .streamerror ∧
    (extractPackage (Cfg.current 50) jailDest jailAudit vsn1 jail fallbackBelowFile).fs.look (jailDest ++ [['h'], ['x']]) = none := by
  decide +kernel

example :
    (extractPackage (Cfg.current 50) jailDest jailAudit vsn1 jail witnessHardlink).err = some .filterLink ∧
    (extractPackage (Cfg.current 50) jailDest jailAudit vsn1 jail witnessHardlinkToSymlink).err = some .filterLink ∧
    (extractPackage (Cfg.current 50) jailDest jailAudit vsn1 jail witnessDotDot).err = some .filterName ∧
    (extractPackage (Cfg.current 50) jailDest jailAudit vsn1 jail witnessInbound).err = some .filterParent := by
  decide +kernel

end C08
