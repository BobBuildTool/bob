import BobModel.Proofs.C19Cmd
import BobModel.Generated.ConstsC19
/-
C19 — archive retention keeps exactly what is selected or referenced.

Property theorems about the model of pym/bob/cmds/archive.py (`Model/Retention.lean`,
`Model/ArchiveIndex.lean`).  The declarative notions (`notWorse`, `selects`, `keyOf`, `runExpr`, `Reach`,
`Sound`, `FilesOk`, `Normal`, `IndexEq`, `runHistory`) are in `Proofs/C19Spec.lean`, `StrictSorted` in `Proofs/C19Query.lean`.
-/
namespace C19
open Retention ArchiveIndex

/-! ### LIMIT / ORDER BY -/

/-- **limit_keeps_top.**  After an expression with `LIMIT lim` has seen any sequence of artifacts
(distinct build ids, no evaluation error) it retains `min lim (#selected)` artifacts, all of them selected,
and every retained one ranks at least as high in the chosen order as every selected one that was dropped;
artifacts that lack the sort field rank last (`notWorse`). -/
theorem limit_keeps_top (e : Expr) (lim : Nat) (hl : e.limit = some lim) (rows : List (Bid × Val))
    (hd : (rows.map (·.1)).Nodup) (st : EState) (h : runExpr e EState.empty rows = .ok st) :
    st.retained.Nodup ∧
    st.retained.length = min lim (rows.filter fun r => selects e r.2).length ∧
    (∀ b ∈ st.retained, ∃ r ∈ rows, r.1 = b ∧ selects e r.2 = true) ∧
    (∀ r ∈ rows, ∀ r' ∈ rows, selects e r.2 = true → selects e r'.2 = true →
      r.1 ∈ st.retained → r'.1 ∉ st.retained → notWorse e.asc (keyOf e r.2) (keyOf e r'.2) = true) := by
  have hinv := runExpr_inv hl rows hd h
  have hsel : ∀ r ∈ rows, selects e r.2 = true → (r.1, keyOf e r.2) ∈ items e rows := fun r hr hs =>
    List.mem_map.mpr ⟨r, List.mem_filter.mpr ⟨hr, hs⟩, rfl⟩
  -- the selected items inherit distinct build ids from the rows
  have hdI : ((items e rows).map (·.1)).Nodup := by
    rw [items, List.map_map]
    exact hd.sublist (List.filter_sublist.map _)
  refine ⟨hinv.retNodup, ?_, fun b hb => ?_, fun r hr r' hr' hs hs' hin hout => ?_⟩
  · have hp : st.retained.Perm (st.queue.map (·.1)) :=
      (List.perm_ext_iff_of_nodup hinv.retNodup hinv.qNodup).mpr fun b => by
        rw [hinv.ret b, List.mem_map]
        exact ⟨fun ⟨k, hk⟩ => ⟨(b, k), hk, rfl⟩, fun ⟨x, hx, hb⟩ => ⟨x.2, hb ▸ hx⟩⟩
    rw [hp.length_eq, List.length_map, hinv.len, items, List.length_map]
  · obtain ⟨k, hk⟩ := (hinv.ret b).mp hb
    obtain ⟨r, hr, hrb⟩ := List.mem_map.mp (hinv.sub _ hk)
    obtain ⟨hr, hs⟩ := List.mem_filter.mp hr
    exact ⟨r, hr, congrArg Prod.fst hrb, hs⟩
  · obtain ⟨k, hk⟩ := (hinv.ret r.1).mp hin
    have hq : (r.1, keyOf e r.2) ∈ st.queue := SortKey.eq_of_nodup_map hdI (hinv.sub _ hk) (hsel r hr hs) rfl ▸ hk
    exact (hinv.dropped _ (hsel r' hr' hs') fun hm => hout ((hinv.ret r'.1).mpr ⟨_, hm⟩)).2 _ hq

/-- without `LIMIT` an expression retains exactly the selected artifacts -/
theorem nolimit_keeps_selected (e : Expr) (hl : e.limit = none) (rows : List (Bid × Val)) (st : EState)
    (h : runExpr e EState.empty rows = .ok st) :
    ∀ b, b ∈ st.retained ↔ ∃ r ∈ rows, r.1 = b ∧ selects e r.2 = true := by
  intro b
  rw [runExpr_nolimit hl rows h b]
  exact or_iff_right (List.not_mem_nil (a := b))

/-- `query` returns the union of what the single expressions retain (LIMIT is per expression) -/
theorem query_is_union (es : List Expr) (rows : List (Bid × Val)) (l : List Bid) (h : query es rows = .ok l) :
    ∀ b, b ∈ l ↔ ∃ e ∈ es, ∃ st, runExpr e EState.empty rows = .ok st ∧ b ∈ st.retained :=
  query_mem h

/-! ### reference closure, delete list, dry run, find -/

/-- **closure_exact.**  The closure loop (with the fuel the model gives it) returns exactly the build ids
reachable from the directly retained ones through the `refs` table. -/
theorem closure_exact (refs : List (Bid × Bid)) (D : List Bid) (x : Bid) : x ∈ closure refs D ↔ Reach refs D x :=
  mem_closure

/-- ... which is the least set that contains the directly retained ones and is closed under references -/
theorem closure_least (refs : List (Bid × Bid)) (D : List Bid) :
    (∀ b ∈ D, b ∈ closure refs D) ∧
    (∀ a ∈ closure refs D, ∀ b, (a, b) ∈ refs → b ∈ closure refs D) ∧
    (∀ K : Bid → Prop, (∀ b ∈ D, K b) → (∀ a b, K a → (a, b) ∈ refs → K b) → ∀ x ∈ closure refs D, K x) := by
  refine ⟨fun b hb => mem_closure.mpr (Reach.base hb), ?_, ?_⟩
  · intro a ha b hab
    exact mem_closure.mpr (Reach.step (mem_closure.mp ha) hab)
  · intro K hD hK x hx
    have hr := mem_closure.mp hx
    clear hx
    induction hr with
    | base hb => exact hD _ hb
    | step _ hab ih => exact hK _ _ ih hab

/-- **deleted_eq_complement.**  What `clean --dry-run` lists (= what `clean` deletes, see `clean_exact`) is
exactly the index minus the closure of the directly retained artifacts, in index order. -/
theorem deleted_eq_complement (rep noscan : Bool) (es : List Expr) (w w' : World) (vs : List Bid)
    (h : cleanCmd rep noscan true es w = (w', .ok vs)) :
    w' = (if noscan then w else scanCmd rep w) ∧
    ∃ retained, query es w'.idx.table = .ok retained ∧
      vs = w'.idx.bids.filter (fun b => !(closure w'.idx.refs retained).contains b) ∧
      ∀ b, b ∈ vs ↔ b ∈ w'.idx.bids ∧ ¬ Reach w'.idx.refs retained b := by
  rw [cleanCmd_scan, cleanCmd_dry, Prod.mk.injEq] at h
  obtain ⟨rfl, h⟩ := h
  cases hq : query es (if noscan then w else scanCmd rep w).idx.table with
  | error x => rw [hq] at h; cases h
  | ok retained =>
    rw [hq] at h
    cases h
    exact ⟨rfl, retained, rfl, rfl, fun b => mem_victims.trans (and_congr_right fun _ => not_congr mem_closure)⟩

/-- **dry_run_noop.**  `--dry-run` leaves the archive alone; the only effect is the scan of the index
(none at all with `-n`). -/
theorem dry_run_noop (rep noscan : Bool) (es : List Expr) (w : World) :
    (cleanCmd rep noscan true es w).1 = (if noscan then w else scanCmd rep w) ∧
    (cleanCmd rep noscan true es w).1.files = w.files := by
  rw [cleanCmd_scan, cleanCmd_dry]
  exact ⟨rfl, scanned_files rep noscan w⟩

/-- **clean_exact.**  When every file can be deleted, `clean` succeeds and keeps exactly the files that are not
in the index or whose build id is reachable from a directly retained one; every other indexed file is gone. -/
theorem clean_exact (rep noscan : Bool) (es : List Expr) (w : World) (hdel : ∀ f ∈ w.files, f.deletable = true)
    (retained : List Bid) (w1 : World) (hw1 : w1 = (if noscan then w else scanCmd rep w))
    (hq : query es w1.idx.table = .ok retained) :
    (cleanCmd rep noscan false es w).2 = .ok [] ∧
    ∀ f, f ∈ (cleanCmd rep noscan false es w).1.files ↔
      f ∈ w.files ∧ (f.bid ∈ w1.idx.bids → Reach w1.idx.refs retained f.bid) := by
  have hdel1 : ∀ f ∈ w1.files, f.deletable = true := by rwa [hw1, scanned_files]
  obtain ⟨done, failed, d1, d2, d3⟩ :=
    deleteLoop_eq (victims w1.idx.bids (closure w1.idx.refs retained)) w1.files false
  cases d2 hdel1
  cases d1 rfl
  rw [cleanCmd_scan, ← hw1]
  simp only [cleanCmd, if_true, hq, Bool.false_eq_true, if_false, d3 w1.idx, apply_ite World.files, ite_self]
  -- nothing failed, so the outcome is `.ok []` and `simp` has closed the first part
  refine ⟨trivial, fun f => ?_⟩
  -- a file stays iff its build id is not a victim
  rw [List.mem_filter, hw1, scanned_files, ← hw1, Bool.not_eq_true', ← Bool.not_eq_true, List.contains_iff_mem, mem_victims,
    mem_closure, not_and, Classical.not_not]

/-- **find_is_direct.**  `find` changes no file and lists, sorted and without duplicates, exactly the
artifacts that the expressions retain directly (no reference closure). -/
theorem find_is_direct (rep noscan : Bool) (es : List Expr) (w w' : World) (out : List Bid)
    (h : findCmd rep noscan es w = (w', .ok out)) :
    w' = (if noscan then w else scanCmd rep w) ∧ w'.files = w.files ∧
    ∃ retained, query es w'.idx.table = .ok retained ∧ (∀ b, b ∈ out ↔ b ∈ retained) ∧ StrictSorted out := by
  rw [findCmd_scan] at h
  simp only [findCmd, if_true] at h
  cases hq : query es (if noscan then w else scanCmd rep w).idx.table with
  | error x => simp [hq] at h
  | ok retained =>
    simp only [hq, Prod.mk.injEq, Outcome.ok.injEq] at h
    obtain ⟨rfl, rfl⟩ := h
    exact ⟨rfl, scanned_files rep noscan w, retained, hq, fun b => mem_findOut, strictSorted_findOut retained⟩

/-- **References of artifacts that stay in the index are never dropped by `clean`.**  Whatever `clean` deletes and
however the index is tidied up afterwards: a reference that the index held before the third pass and whose owner still
has a row afterwards is still there — also when its target is not (yet) in the archive.  (The references of an artifact
are only read again when its stat changes, so a dropped edge would never come back; the closure of a later `clean`
would miss it.) -/
theorem clean_keeps_refs_of_remaining_rows (rep noscan dry : Bool) (es : List Expr) (w : World) (p : Bid × Bid)
    (hp : p ∈ (if noscan then w else scanCmd rep w).idx.refs)
    (hrow : ∃ r ∈ (cleanCmd rep noscan dry es w).1.idx.rows, r.bid = p.1) :
    p ∈ (cleanCmd rep noscan dry es w).1.idx.refs := by
  rw [cleanCmd_scan] at hrow ⊢
  rcases cleanCmd_idx rep dry es _ with he | ⟨keep, he⟩ <;> rw [he] at hrow ⊢
  · exact hp
  · exact mem_pruneRefs.mpr ⟨hp, hrow⟩

/-- ... and a sound index stays sound under `clean`: every remaining row still has exactly the references of its
artifact (with `scan_normalises`: the same holds after every scan, whatever is absent from the archive). -/
theorem clean_preserves_sound (C : Bid → Stat → Option AuditInfo) (w : World) (hs : Sound C w.idx) (rep dry : Bool)
    (es : List Expr) : Sound C (cleanCmd rep true dry es w).1.idx :=
  sound_cleanCmd hs rep dry es

/-! ### the scan index -/

/-- **scan_normalises** (repaired scanner).  Whatever the previous index was — empty, warm, or stale in any way
that `StatChanges` allows (`Sound C idx`) — after `scan` the index holds exactly the rows and references that a
fresh look at the present files yields, and it is indistinguishable from a freshly built index. -/
theorem scan_normalises (C : Bid → Stat → Option AuditInfo) (idx : Index) (files : List FileEnt)
    (hs : Sound C idx) (hf : FilesOk C files) :
    Normal files (scanRepaired idx files) ∧
    IndexEq (scanRepaired idx files) (scanRepaired Index.empty files) ∧
    Sound C (scanRepaired idx files) := by
  obtain ⟨s1, n1⟩ := scanRepaired_spec hs hf
  obtain ⟨_, n2⟩ := scanRepaired_spec (sound_empty C) hf
  exact ⟨n1, normal_indexEq n1 n2, s1⟩

/-- **clean_index_independent** (repaired scanner).  On the same files, `clean` (and `find`) report the same and leave
the same files whatever index they start from. -/
theorem clean_index_independent (C : Bid → Stat → Option AuditInfo) (i j : Index) (files : List FileEnt)
    (hi : Sound C i) (hj : Sound C j) (hf : FilesOk C files) (dry : Bool) (es : List Expr) :
    (cleanCmd true false dry es ⟨files, i⟩).2 = (cleanCmd true false dry es ⟨files, j⟩).2 ∧
    (cleanCmd true false dry es ⟨files, i⟩).1.files = (cleanCmd true false dry es ⟨files, j⟩).1.files ∧
    (findCmd true false es ⟨files, i⟩).2 = (findCmd true false es ⟨files, j⟩).2 :=
  ⟨(runCmd_congr hi hj hf (.clean dry es)).2, (runCmd_congr hi hj hf (.clean dry es)).1,
    (runCmd_congr hi hj hf (.find es)).2⟩

/-- **history_index_independent** (repaired scanner).  For every history — arbitrary archive contents between the
commands, any sequence of `scan` / `find` / `clean [--dry-run]` — every command reports and leaves exactly what it would
with a freshly built index at that moment, whatever sound index the history started from. -/
theorem history_index_independent (C : Bid → Stat → Option AuditInfo) (steps : List (List FileEnt × Cmd))
    (hok : ∀ s ∈ steps, FilesOk C s.1) (idx : Index) (hs : Sound C idx) :
    runHistory true idx steps =
      steps.map fun s => ((runCmd true s.2 ⟨s.1, Index.empty⟩).1.files, (runCmd true s.2 ⟨s.1, Index.empty⟩).2) := by
  induction steps generalizing idx with
  | nil => rfl
  | cons s rest ih =>
    obtain ⟨files, c⟩ := s
    have hf : FilesOk C files := hok (files, c) List.mem_cons_self
    obtain ⟨h1, h2⟩ := runCmd_congr hs (sound_empty C) hf c
    rw [runHistory, List.map_cons, h1, h2, ih (fun s hs' => hok s (List.mem_cons_of_mem _ hs')) _ (sound_runCmd hs hf c)]

/-- **The source has the repaired scanner.**  `Generated/ConstsC19.lean` is regenerated from the current source of
`ArchiveScanner.scan/__scan` on every run: `scan` forgets unseen rows and ownerless references, `__scan` drops the
references of a row it re-reads.  With these facts the scan function that the model of the commands uses is `scanRepaired`,
the one `scan_normalises` … `history_index_independent` are about.  Reverting the fix breaks this theorem. -/
theorem modelled_scan_is_repaired :
    scanWith (Consts.C19.scanDropsUnseenRows && Consts.C19.scanDropsOwnerlessRefs && Consts.C19.rereadDropsRefs) = scanRepaired := by
  funext idx files
  have h : (Consts.C19.scanDropsUnseenRows && Consts.C19.scanDropsOwnerlessRefs && Consts.C19.rereadDropsRefs) = true := by decide
  rw [h]
  rfl

/-! ### the scanner before the fix: the result depends on the index (findings F-C19-1, F-C19-2) -/

/-- The defect in general: the scanner before the fix never touches a row whose artifact has vanished from the archive —
the row stays in the index (and keeps taking part in `query`). -/
theorem scanCurrent_keeps_vanished_rows (idx : Index) (files : List FileEnt) (r : Row)
    (hvanished : ∀ f ∈ files, r.bid ≠ f.bid) : r ∈ (scanCurrent idx files).rows ↔ r ∈ idx.rows := by
  induction files generalizing idx with
  | nil => rfl
  | cons f rest ih =>
    rw [scanCurrent, List.foldl_cons, ← scanCurrent, ih _ fun g hg => hvanished g (List.mem_cons_of_mem _ hg),
      scanOne_rows, scanOneR_rows_other idx f (hvanished f List.mem_cons_self)]

section Witness
open C19Witness

/-- After `B` vanished from the archive, `clean 'meta.package == "x" LIMIT 1'` with the warm index deletes `A`
(the stale row of `B` holds the LIMIT slot) whereas with a fresh index it keeps `A`. -/
theorem scanCurrent_index_dependent :
    ((cleanCmd false false false [exprX1] ⟨[fileA], warmIndex⟩).1.files.map fun f => f.bid) = [] ∧
    ((cleanCmd false false false [exprX1] ⟨[fileA], Index.empty⟩).1.files.map fun f => f.bid) = [str "aa"] := by
  decide +kernel

/-- the same history with the repaired scanner keeps `A` in both cases -/
example :
    ((cleanCmd true false false [exprX1] ⟨[fileA], scanRepaired Index.empty [fileA, fileB]⟩).1.files.map fun f => f.bid) = [str "aa"] ∧
    ((cleanCmd true false false [exprX1] ⟨[fileA], Index.empty⟩).1.files.map fun f => f.bid) = [str "aa"] := by
  decide +kernel

/-- the hypotheses of `scan_normalises` / `clean_index_independent` are satisfiable by a non-trivial instance: the
warm index of the witness is sound, and the files after `B` vanished are legitimate -/
example : Sound witnessC (scanRepaired Index.empty [fileA, fileB]) ∧ FilesOk witnessC [fileA] := by
  have hf : FilesOk witnessC [fileA, fileB] := by
    refine ⟨by decide, ?_⟩
    intro f hf
    simp only [List.mem_cons, List.not_mem_nil, or_false] at hf
    rcases hf with rfl | rfl <;> rfl
  refine ⟨(scan_normalises witnessC Index.empty _ (sound_empty _) hf).2.2, by decide, ?_⟩
  intro f hf
  simp only [List.mem_cons, List.not_mem_nil, or_false] at hf
  subst hf
  rfl

/-- `limit_keeps_top` on a concrete instance: three selected artifacts, one without `build.date`, `LIMIT 2` -/
example :
    (runExpr { exprX1 with limit := some 2 } EState.empty
      [(str "01", varsOf "x" "2020"), (str "02", .map [(str "meta", .map [(str "package", .str (str "x"))])]),
       (str "03", varsOf "x" "2021"), (str "04", varsOf "y" "2022")]).toOption.map (fun st => st.retained)
      = some [str "03", str "01"] := by
  decide +kernel

end Witness

end C19
