import BobModel.Proofs.C10Run
/-
C10 — Workspace state commits atomically and is single-writer.

Property theorems about the model of `pym/bob/state.py` (`Model/StateFS.lean`).  The invariant `Inv` and its
preservation are in `Proofs/C10Inv.lean` and `Proofs/C10Fault.lean`, `Session.Det` is in `Proofs/C10Run.lean`.

Reading guide.  `runHist c FS.empty hist` is the event trace (file-system operations plus ghost
markers) of a history of Bob invocations, each `__init__ ; API calls ; finalize`, started on an empty
directory.  `Ghost.run` folds the markers of a trace prefix into
`base` (state at the end of the last completed invocation), `since` (snapshots saved after that);
`Adm G x` says `x` is `base` or one of `since`.  `recover fs g` is a machine crash with garbling `g` of
every unsynced content followed by the documented removal of the stale lock file;
`(initRun c fs).res` is what the next start of Bob loads.
-/
namespace C10
open StateFS

/-- trailer layout (`struct.pack("=L")`, `data[:-4]`, `data[-4:]`): 4 bytes, little endian (host order on
the supported hosts) — what `StateFS.trailer` / `StateFS.verify` implement; and the flags of the lock creation
(`Op.createExcl`). -/
theorem consts_match_model :
    Consts.C10.trailerLen = 4 ∧ Consts.C10.verifySlice = 4 ∧ Consts.C10.trailerBigEndian = false ∧
    Consts.C10.lockFlags = ["O_CREAT", "O_EXCL", "O_WRONLY"] :=
  ⟨rfl, rfl, rfl, rfl⟩

/-- the four files of the protocol are four different names (so `StateFS.Name` is a faithful abstraction) -/
theorem names_distinct : (Name.all.map Name.path).Nodup := by
  decide +kernel

/-- a state stamped with `CUR_VERSION` passes the version window and triggers no upgrade -/
theorem current_version_loads {σ μ : Type} (c : Cfg σ μ) (hc : c.Lawful) (s : σ) :
    Consts.C10.minVersion ≤ Consts.C10.curVersion ∧ upgrade c Consts.C10.curVersion s = s ∧
    loadBytes c (encS c s) = .ok s :=
  ⟨by decide, upgrade_cur c s, loadBytes_enc c hc s⟩

/-- what `__save` writes always verifies -/
theorem adler_roundtrip (p : Bytes) : verify (enc p) = true := verify_enc p

/-- a file shorter than the trailer (in particular the empty file left by delayed allocation) is rejected -/
theorem verify_rejects_short (d : Bytes) (h : d.length < 4) : verify d = false := verify_short d h

/-- a file of zero bytes of any length is rejected -/
theorem verify_rejects_zeros (n : Nat) : verify (List.replicate n (0 : UInt8)) = false := verify_zeros n

/-- changing exactly one byte (payload or trailer) of a saved file is detected -/
theorem adler_single_byte (p pre suf : Bytes) (x y : UInt8) (hxy : x ≠ y) (h : enc p = pre ++ x :: suf) :
    verify (pre ++ y :: suf) = false := by
  unfold enc at h
  rcases List.append_eq_append_iff.mp h with ⟨a', h1, h2⟩ | ⟨c', h1, h2⟩
  · -- the byte lies in the trailer
    have hl : (a' ++ y :: suf).length = 4 := by
      have := congrArg List.length h2
      simp at this ⊢; omega
    rw [h1, List.append_assoc, verify_append4 _ _ hl, h2]
    simp [hxy]
  · cases c' with
    | nil =>
      simp at h1 h2
      have hl : (y :: suf).length = 4 := by
        have := congrArg List.length h2
        simp at this ⊢; omega
      rw [← h1, verify_append4 _ _ hl, ← h2]
      simp [hxy]
    | cons z c'' =>
      simp at h2
      obtain ⟨hz, h3⟩ := h2
      subst hz
      rw [h3, show pre ++ y :: (c'' ++ trailer p) = (pre ++ y :: c'') ++ trailer p by simp,
        verify_append4 _ _ (trailer_length p), h1]
      simp only [decide_eq_false_iff_not]
      intro ht
      exact adler_change pre c'' y x (fun e => hxy e.symm) (trailer_inj ht)

/-- `Detectable` garblings: none, truncation to 3 bytes, truncation to nothing, zero fill.  (A single-byte change is
detected on a file `__save` wrote, `adler_single_byte`; `Detectable` speaks of every content.) -/
theorem detectable_examples :
    Detectable (fun _ d => d) ∧ Detectable (fun _ d => d.take 3) ∧ Detectable (fun _ _ => []) ∧
    Detectable (fun _ d => List.replicate d.length 0) := by
  refine ⟨fun d => Or.inl rfl, fun d => Or.inr ?_, fun d => Or.inr ?_, fun d => Or.inr ?_⟩
  · exact verify_short _ (by simp; omega)
  · exact verify_short _ (by simp)
  · exact verify_zeros _

/-- **recover_is_snapshot.**  For every history of invocations (any mutator semantics, any sequence of
API calls including unbalanced asynchronous sections), every prefix of its event trace (hence every prefix
of its file-system operation trace) and every detectable garbling: the next start loads, without error,
the state at the end of the last completed invocation or one snapshot saved since — one `decode (enc s)`,
never a mixture. -/
theorem recover_is_snapshot {σ μ : Type} (c : Cfg σ μ) (hc : c.Lawful) (hist : List (List (Call μ)))
    (n : Nat) (g : Garble) (hg : Detectable g) :
    let evs := (runHist c FS.empty hist).take n
    ∃ x, (initRun c (recover (applyOps FS.empty (evOps evs)) g)).res = .ok x ∧ Adm (Ghost.init.run evs) x := by
  intro evs
  have h := Pre_take (runHist_inv c hc FS.empty Ghost.init hist (Inv_init c)) n
  rw [← applyEvs_ops]
  exact Inv_start c hc _ _ (Inv_recover c _ _ g hg h) (recover_lock _ g)

/-- in particular, once the last invocation of a history has completed (nothing saved since), every crash
afterwards recovers exactly its final state -/
theorem completed_invocation_is_durable {σ μ : Type} (c : Cfg σ μ) (hc : c.Lawful) (hist : List (List (Call μ)))
    (g : Garble) (hg : Detectable g)
    (hdone : (Ghost.init.run (runHist c FS.empty hist)).since = []) :
    (initRun c (recover (applyOps FS.empty (evOps (runHist c FS.empty hist))) g)).res =
      .ok (Ghost.init.run (runHist c FS.empty hist)).base := by
  have h := recover_is_snapshot c hc hist (runHist c FS.empty hist).length g hg
  simp only [List.take_length] at h
  obtain ⟨x, hx, ha⟩ := h
  rcases ha with ha | ⟨s, hs, _⟩
  · rw [hx, ha]
  · rw [hdone] at hs; cases hs

/-- **a mere process kill loses nothing**: without garbling, at every prefix of every history the next
start loads exactly the newest snapshot whose rename to the uncommitted name is part of the prefix
(`Dur.durable`), however far its commit got.  This is where `adler_roundtrip` is needed. -/
theorem kill_loses_nothing {σ μ : Type} (c : Cfg σ μ) (hc : c.Lawful) (hist : List (List (Call μ))) (n : Nat) :
    let evs := (runHist c FS.empty hist).take n
    (initRun c (recover (applyOps FS.empty (evOps evs)) (fun _ d => d))).res =
      .ok (Dur.run ⟨none, none⟩ evs).durable := by
  intro evs
  have h0 : K c FS.empty (⟨none, none⟩ : Dur σ) := ⟨none, Or.inl ⟨rfl, rfl⟩, Or.inl ⟨rfl, rfl⟩⟩
  have h := Pre_take (runHistK c hc FS.empty ⟨none, none⟩ hist h0) n
  rw [← applyEvs_ops]
  exact K_start c hc _ _ (K_kill c _ _ h) (recover_lock _ _)

/-- the same after any number of earlier crashes: sessions are complete invocations or invocations cut at
an arbitrary event and crashed with a detectable garbling (then recovered).  After a history that ends
in a crash, the next start loads an admissible state. -/
theorem recover_is_snapshot_multi {σ μ : Type} (c : Cfg σ μ) (hc : c.Lawful) (ss : List (Session μ))
    (calls : List (Call μ)) (cut : Nat) (g : Garble) (hd : ∀ s ∈ ss, s.Det) (hg : Detectable g) :
    let r := runSessions c FS.empty Ghost.init (ss ++ [.crashed calls cut g])
    ∃ x, (initRun c r.1).res = .ok x ∧ Adm r.2 x := by
  intro r
  obtain ⟨hinv, hl⟩ := runSessions_crashed c hc ss calls cut g FS.empty Ghost.init hd hg (Inv_init c)
  exact Inv_start c hc _ _ hinv hl

/-- the committed file is durable at every instant: no prefix of any run leaves `.bob-state.pickle`
present but unsynced or with a content that is not exactly `enc` of the pickle of one state -/
theorem committed_always_synced {σ μ : Type} (c : Cfg σ μ) (hc : c.Lawful) (hist : List (List (Call μ))) (n : Nat) :
    let fs := applyOps FS.empty (evOps ((runHist c FS.empty hist).take n))
    fs .pickle = none ∨ ∃ s, fs .pickle = some ⟨encS c s, true⟩ := by
  intro fs
  have h := Pre_take (runHist_inv c hc FS.empty Ghost.init hist (Inv_init c)) n
  rw [applyEvs_ops] at h
  obtain ⟨x, hp, _, _⟩ := h
  rcases hp with ⟨h1, _⟩ | ⟨s, h1, _⟩
  · exact Or.inl h1
  · exact Or.inr ⟨s, h1⟩

/-- in any interleaving of the steps of two instances on one directory at most one is live, and a live
instance implies the lock file exists -/
theorem single_writer {σ μ : Type} (c : Cfg σ μ) (acts : List (Act μ)) :
    let w := run2 c ⟨FS.empty, none, none⟩ acts
    ¬ (w.ma.isSome = true ∧ w.mb.isSome = true) ∧
      ((w.ma.isSome = true ∨ w.mb.isSome = true) → (w.fs .lock).isSome = true) :=
  run2_inv c _ acts ⟨by simp, by simp⟩

/-- while the lock exists a start fails with "locked" having attempted only the exclusive create: the
file system is unchanged (no write, no commit, no unlock) -/
theorem second_instance_refused {σ μ : Type} (c : Cfg σ μ) (fs : FS) (h : (fs .lock).isSome = true) :
    (initRun c fs).res = .error .locked ∧ (initRun c fs).evs = [.op (.createExcl .lock)] ∧
      applyEvs fs (initRun c fs).evs = fs := initRun_locked c fs h

/-- between `setAsynchronous` and the matching `setSynchronous` (nesting allowed) nothing is emitted, and
the matching `setSynchronous` emits exactly one save, of the final state, iff some mutator asked for one -/
theorem async_defers {σ μ : Type} (c : Cfg σ μ) (mem : Mem σ) (cs : List (Call μ))
    (h0 : mem.async = 0) (hd : mem.dirty = false) (h : Inside 1 cs) (hb : depthAfter 1 cs = 1) :
    (runCalls c mem (.setAsync :: cs)).2 = [] ∧
    (runCalls c mem (.setAsync :: cs ++ [.setSync])).2 =
      (if (foldMuts c mem.cur false cs).2 then saveEvs c (foldMuts c mem.cur false cs).1 else []) := by
  have hi := async_inside c ⟨mem.cur, mem.async + 1, mem.dirty⟩ cs (by simpa [h0] using h)
  simp only [h0, hd, Int.zero_add] at hi
  obtain ⟨e1, m1⟩ := hi
  constructor
  · simp [runCalls, callStep, h0, hd, e1]
  · rw [show Call.setAsync :: cs ++ [Call.setSync] = (Call.setAsync :: cs) ++ [Call.setSync] from rfl, runCalls_append]
    simp only [runCalls, callStep, h0, hd, Int.zero_add, e1, m1, hb, List.nil_append, List.append_nil]
    cases hf : (foldMuts c mem.cur false cs).2 <;> simp

/-! ### I/O errors of the file-system calls

`runInvF` is `runInv` with a fault choice at the file-system calls of `__init__` (lock creation, the
start-up `__commit(verify=True)`, opening the state file, the `finalize()` of the error path; none at its
`os.path.exists` of the state file), of every `__save` (open / write after k bytes / rename) and of `finalize`
(`__commit(verify = not __uncommittedTrusted)`: exists, open, read when it verifies, fsync, rename, the discarding
unlink; the unlink of the lock).  `SessionF` adds kills and machine crashes at an arbitrary event.  The ghost marker
`saved s` is emitted only when the rename of `__save` is performed and
`endInv` only when `finalize` found nothing to commit or committed this instance's own save without an error
(`finalizeF`), so the admissible set is exactly {state committed by the last such `finalize`} ∪
{snapshots whose `__save` completed since}:
a snapshot whose save raised `ParseError` is *not* recoverable and a `finalize` whose commit failed (warning
only, the uncommitted file is deleted by the code) does *not* make its state durable. -/

/-- the exception handling that `saveF` / `commitF` / `discardOps` / `finalizeF` transliterate is the one of the
current source: `__save` turns OSError into ParseError and renames only after the writes (no nested try, no
finally); the `try` of `__commit` catches OSError with a warning and falls through to the unlink, whose
FileNotFoundError is ignored and whose OSError is a warning; `finalize` commits with `verify = not self.__uncommittedTrusted`. -/
theorem fault_handling_matches_model :
    Consts.C10.saveHandlers = [("OSError", "raise ParseError")] ∧ Consts.C10.saveRenameLastInTry = true ∧
    Consts.C10.saveNestedTries = 0 ∧ Consts.C10.commitHandlers = [("OSError", "warn")] ∧
    Consts.C10.commitNestedTries = 0 ∧
    Consts.C10.discardHandlers = [("FileNotFoundError", "pass"), ("OSError", "warn")] ∧
    Consts.C10.finalizeCommitArg = "not self.__uncommittedTrusted" :=
  ⟨rfl, rfl, rfl, rfl, rfl, rfl, rfl⟩

/-- **the modelled `finalize` is the repaired one** (99181a7): the current source passes
`not self.__uncommittedTrusted` to `__commit`, the flag is False from `__init__` and set True only right after the
rename of `__save`.  Reverting the fix flips the regenerated constant and breaks this proof and, through
`verifyUntrusted`, `recover_is_snapshot_faulty`. -/
theorem modelled_finalize_is_fixed : verifyUntrusted = true := by
  decide

/-- **recover_is_snapshot_faulty** (full strength, for the code of the current source: `verifyUntrusted`).  For every
sequence of sessions with arbitrary I/O errors in `__save`, `__commit`, `finalize`, `__init__` (no restriction on the
fault choice), each session either complete or cut at an arbitrary event and crashed with a detectable garbling:
the next start loads, without error, the state committed by the last error-free `finalize` of an instance that
committed its own save (or had nothing to commit), or a snapshot completely saved since. -/
theorem recover_is_snapshot_faulty {σ μ : Type} (c : Cfg σ μ) (hc : c.Lawful) (ss : List (SessionF μ))
    (iv : InvF μ) (cut : Nat) (g : Garble)
    (hd : ∀ s ∈ ss ++ [SessionF.crashed iv cut g], s.Det) :
    let r := runSessionsF c verifyUntrusted FS.empty Ghost.init (ss ++ [.crashed iv cut g])
    ∃ x, (initRun c r.1).res = .ok x ∧ Adm r.2 x := by
  intro r
  have hr : r = runSessionsF c true FS.empty Ghost.init (ss ++ [.crashed iv cut g]) := by
    simp only [r, modelled_finalize_is_fixed]
  obtain ⟨hinv, hl⟩ := runSessionsF_crashed c hc ss iv cut g FS.empty Ghost.init hd (Inv_init c)
  rw [hr]
  exact Inv_start c hc _ _ hinv hl

/-- the same at every prefix of one faulty invocation started from any directory satisfying the invariant:
the crash-stable invariant holds at every event (so the statement above also covers a crash during the
fault handling itself, e.g. between the failed fsync and the unlink) -/
theorem faulty_invocation_every_prefix {σ μ : Type} (c : Cfg σ μ) (hc : c.Lawful) (fs : FS) (G : Ghost σ)
    (iv : InvF μ) (h : Inv c fs G) (n : Nat) (g : Garble) (hg : Detectable g) :
    let evs := (runInvF c true fs iv).take n
    ∃ x, (initRun c (recover (applyEvs fs evs) g)).res = .ok x ∧ Adm (G.run evs) x := by
  intro evs
  have h1 := Pre_take (runInvF_inv c hc fs G iv h) n
  exact Inv_start c hc _ _ (Inv_recover c _ _ g hg h1) (recover_lock _ g)

/-- the same statement for the code before 99181a7 (`finalize` commits with `verify=False` whatever is there):
NOT a theorem, see `recover_is_snapshot_faulty_old_refuted` -/
def recover_is_snapshot_faulty_old_goal : Prop :=
  ∀ {σ μ : Type} (c : Cfg σ μ), c.Lawful → ∀ (ss : List (SessionF μ)) (iv : InvF μ) (cut : Nat) (g : Garble),
    (∀ s ∈ ss ++ [SessionF.crashed iv cut g], s.Det) →
    ∃ x, (initRun c (runSessionsF c false FS.empty Ghost.init (ss ++ [.crashed iv cut g])).1).res = .ok x ∧
      Adm (runSessionsF c false FS.empty Ghost.init (ss ++ [.crashed iv cut g])).2 x

/-- a failed `__save` (any of the three fault points) raises and leaves the committed file, the uncommitted
file and the lock exactly as they were; only `.dirty` (never read by anybody) changes -/
theorem failed_save_changes_nothing {σ μ : Type} (c : Cfg σ μ) (fs : FS) (s : σ) (sf : SaveFault) :
    (saveF c s (some sf)).2 = true ∧
    (applyEvs fs (saveF c s (some sf)).1) .pickle = fs .pickle ∧
    (applyEvs fs (saveF c s (some sf)).1) .new = fs .new ∧
    (applyEvs fs (saveF c s (some sf)).1) .lock = fs .lock := by
  cases sf <;> simp [saveF, applyEvs, applyEv, applyOp, FS.set]

/-- **fault_then_success_durable.**  Whatever happened before (any directory content `fs`, any in-memory state:
in particular after any history of failed saves, failed commits and crashes): an API call whose `__save`
meets no error followed by a `finalize` that meets no error leaves exactly the then-current in-memory state
committed and synced (the save makes the instance trusted, so also the fixed `finalize` commits it unverified), no
uncommitted file, the lock released; every later crash — with *any* garbling —
recovers exactly that state. -/
theorem fault_then_success_durable {σ μ : Type} (c : Cfg σ μ) (hc : c.Lawful) (fs : FS) (mem : Mem σ) (m : μ)
    (locked vu : Bool) (g : Garble) (ha : mem.async = 0) (hsv : (c.step mem.cur m).2 = true) :
    let r := callStepF c mem none (.mut m)
    let fs1 := applyEvs fs r.2.1
    let fs2 := applyEvs fs1 (finalizeF vu fs1 r.1 locked true FinFault.none)
    savedBy c mem none (.mut m) = true ∧
    r.2.2 = 0 ∧ r.1.cur = (c.step mem.cur m).1 ∧
    fs2 .pickle = some ⟨encS c r.1.cur, true⟩ ∧ fs2 .new = none ∧ (locked = true → fs2 .lock = none) ∧
    (initRun c (recover fs2 g)).res = .ok (some r.1.cur) := by
  intro r fs1 fs2
  have hr : r = (⟨(c.step mem.cur m).1, mem.async, false⟩, saveEvs c (c.step mem.cur m).1, 0) := by
    simp [r, callStepF, hsv, ha, saveF]
  have hfin : finalizeF vu fs1 r.1 locked true FinFault.none =
      (finOpsF fs1 locked false FinFault.none).map .op ++ [.endInv] := by
    simp [finalizeF, finalizeCore, finVerify, finalizeOk, hr, ha, FinFault.none, CF.none]
  have hfs2 : fs2 = applyOps fs1 (finOpsF fs1 locked false FinFault.none) := by
    simp only [fs2, hfin, applyEvs_append, applyEvs_mapop]
    rfl
  have hd := save_fin_durable c hc fs (c.step mem.cur m).1 locked g
  simp only at hd
  have hfs1 : fs1 = applyEvs fs (saveEvs c (c.step mem.cur m).1) := by simp [fs1, hr]
  rw [hfs2, hfs1]
  refine ⟨by simp [savedBy, hsv, ha], by simp [hr], by simp [hr], ?_⟩
  simpa [hr] using hd

/-- **single writer with faults.**  While the lock file exists, a start whose lock creation is answered with
EEXIST is refused having changed nothing, whatever other faults are pending -/
theorem second_instance_refused_faulty {σ μ : Type} (c : Cfg σ μ) (vu : Bool) (fs : FS) (ift : InitFault)
    (h : (fs .lock).isSome = true) (hl : ift.lock = false) :
    (initF c vu fs ift).res = .error .locked ∧ (initF c vu fs ift).evs = [.op (.createExcl .lock)] ∧
      (initF c vu fs ift).locked = false ∧ applyEvs fs (initF c vu fs ift).evs = fs := by
  cases hlk : fs .lock with
  | none => simp [hlk] at h
  | some f => simp [initF, hl, hlk, applyEvs, applyEv, applyOp]

/-- the interleaving statement with faults (goal only, NOT proved: the induction over `step2F` is missing; the
three facts it rests on are the theorems `second_instance_refused_faulty`, `lock_holder_created_lock`,
`unlocked_instance_never_unlocks` around it).  Note what it does *not* say: an instance whose lock creation
failed with an errno other than EEXIST runs without the lock (warning only), so two instances can be live. -/
def single_writer_faulty_goal : Prop :=
  ∀ {σ μ : Type} (c : Cfg σ μ) (acts : List (ActF μ)),
    let w := run2F c ⟨FS.empty, none, none⟩ acts
    ¬ (holdsLock w.ma = true ∧ holdsLock w.mb = true) ∧
      ((holdsLock w.ma = true ∨ holdsLock w.mb = true) → (w.fs .lock).isSome = true)

/-- an instance that holds the lock created it itself: its start found no lock file -/
theorem lock_holder_created_lock {σ μ : Type} (c : Cfg σ μ) (vu : Bool) (fs : FS) (ift : InitFault)
    (h : (initF c vu fs ift).locked = true) : fs .lock = none ∧ ift.lock = false := by
  rw [initF_locked] at h
  cases hl : ift.lock <;> cases hk : fs .lock <;> simp_all

/-- an instance that runs unlocked (non-EEXIST error at the lock creation: warning only — this is the code)
never removes the lock file of another instance: neither its `finalize` nor any of its calls -/
theorem unlocked_instance_never_unlocks {σ μ : Type} (c : Cfg σ μ) (vu t : Bool) (fs : FS) (mem : Mem σ) (ff : FinFault)
    (sf : Option SaveFault) (cl : Call μ) :
    (applyEvs fs (finalizeF vu fs mem false t ff)) .lock = fs .lock ∧
    (applyEvs fs (callStepF c mem sf cl).2.1) .lock = fs .lock := by
  constructor
  · unfold finalizeF finalizeCore
    by_cases hok : finalizeOk mem = true
    · have hfin : finOpsF fs false (finVerify vu t) ff = commitF fs (finVerify vu t) ff.commit :=
        List.append_nil _
      have hend : ∀ (b : Bool) (fs' : FS), applyEvs fs' (if b = true then [Ev.endInv (σ := σ)] else []) = fs' := by
        intro b fs'; cases b <;> rfl
      rw [if_pos hok, applyEvs_append, applyEvs_mapop, hend, hfin, commitF_lock]
    · rw [if_neg hok]; rfl
  · exact callStepF_lock c fs mem sf cl

/-- a small concrete instance, to show the hypotheses satisfiable and to run histories on: states are bytes, the
pickle is `[version, state]` -/
def toy : Cfg UInt8 UInt8 where
  pickle v s := [UInt8.ofNat v, s]
  unpickle d := match d with
    | v :: s :: _ => some (v.toNat, s)
    | _ => none
  up _ s := s
  default := 0
  step _ m := (m, true)

theorem toy_lawful : toy.Lawful := by
  intro s t
  simp [toy, Consts.C10.curVersion]

example : toy.Lawful := toy_lawful

/-- two invocations, the second cut after its save's rename, the uncommitted file garbled to nothing:
the recovery is the state of the first invocation -/
example :
    let evs := (runHist toy FS.empty [[.mut 7], [.mut 9]]).take 22
    (initRun toy (recover (applyOps FS.empty (evOps evs)) (fun _ _ => []))).res = .ok (some 7) := by
  rfl

/-- ... and intact it is the newer snapshot -/
example :
    let evs := (runHist toy FS.empty [[.mut 7], [.mut 9]]).take 22
    (initRun toy (recover (applyOps FS.empty (evOps evs)) (fun _ d => d))).res = .ok (some 9) := by
  rfl

example : Inside (μ := UInt8) 1 [.mut 1, .setAsync, .mut 2, .setSync, .mut 3] ∧
    depthAfter (μ := UInt8) 1 [.mut 1, .setAsync, .mut 2, .setSync, .mut 3] = 1 := by
  simp [Inside, depthAfter]

/-- the failing history: (1) an invocation saves 7 and finalizes; (2) the next saves 9 and the machine crashes
right after the rename of `__save`, the unsynced uncommitted file comes back empty; (3) the next start rejects
it, but the `os.unlink` of the rejected file fails (warning only) — the invocation saves nothing and its
`finalize` commits the rejected file *without verification* over the good state; (4) the next start cannot
decode the state file. -/
def cexSessions : List (SessionF UInt8) :=
  [ .complete ⟨InitFault.none, [(.mut 7, none)], FinFault.none⟩,
    .crashed ⟨InitFault.none, [(.mut 9, none)], FinFault.none⟩ 9 (fun _ _ => []),
    .complete ⟨⟨false, ⟨none, true⟩, false, FinFault.none⟩, [], FinFault.none⟩ ]

theorem cex_unreadable :
    (initRun toy (runSessionsF toy false FS.empty Ghost.init
      (cexSessions ++ [.crashed ⟨InitFault.none, [], FinFault.none⟩ 0 (fun _ d => d)])).1).res =
      .error (.load .decode) := by
  rfl

/-- the same history on the fixed code: the untrusted `finalize` verifies and discards the left-over, the good
state stays -/
example :
    (initRun toy (runSessionsF toy true FS.empty Ghost.init
      (cexSessions ++ [.crashed ⟨InitFault.none, [], FinFault.none⟩ 0 (fun _ d => d)])).1).res =
      .ok (some 7) := by
  rfl

theorem recover_is_snapshot_faulty_old_refuted : ¬ recover_is_snapshot_faulty_old_goal := by
  intro h
  have hdet : ∀ s ∈ cexSessions ++ [SessionF.crashed ⟨InitFault.none, [], FinFault.none⟩ 0 (fun _ d => d)], s.Det := by
    intro s hs
    simp [cexSessions] at hs
    rcases hs with hs | hs | hs | hs <;> subst hs
    · trivial
    · exact detectable_examples.2.2.1
    · trivial
    · exact detectable_examples.1
  obtain ⟨x, hx, _⟩ := h toy toy_lawful cexSessions ⟨InitFault.none, [], FinFault.none⟩ 0 (fun _ d => d) hdet
  rw [cex_unreadable] at hx
  cases hx

/-- a faulty history: ENOSPC in the write of the second save, a failed fsync in `finalize` (the code then deletes
the uncommitted file, which still held the first snapshot): the next start finds no state, as before the invocation -/
example :
    (initRun toy (runSessionsF toy true FS.empty Ghost.init
      [.complete ⟨InitFault.none, [(.mut 7, none), (.mut 9, some (.write 1))], ⟨⟨some .fsync, false⟩, false⟩⟩,
       .crashed ⟨InitFault.none, [], FinFault.none⟩ 0 (fun _ _ => [])]).1).res = .ok none := by
  rfl

end C10
