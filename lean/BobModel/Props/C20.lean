import BobModel.Proofs.C20Jobs
/-
C20 — Jenkins job graph is acyclic, complete and faithful: property theorems about the model
`BobModel/Model/Jenkins.lean` of pym/bob/cmds/jenkins/jenkins.py (JobNameCalculator.sanitize,
_genJenkinsJobs, JenkinsJob.getUpstreamJobs).  The notions of the statements are defined in the proof
modules: `WF` in `C20Final`; `Inv`, `SameJobV`, `QReachV`, `mrg` in `C20Merge`; `NamesOk` in `C20NameMap`;
`NumberingFresh` in `C20Names`; `VReach`, `UpEdge` in `C20Jobs`; `Reach` in `C20Sets`.

The theorems about the result of `sanitize` / `genJobs` quantify over every package graph `g` that is a finite DAG
(`WF`: a rank function that decreases along dependencies, ids below `n`), every list of roots, every isolate predicate
`iso` and, where names are concerned, every job name prefix `pfx`; the merge theorems take the invariant `Inv` instead, and
six theorems are about the concrete graphs `wG` and `nG`.  The order in which names and jobs are processed is covered by the
invariant: it is kept by *any* guarded merge (`merge_step_keeps_invariant`, `merge_loops_any_order`).
-/
namespace C20
open Jenkins

variable {g : Graph} {n : Nat} {roots : List Nat}

/-- **childs_is_reachability**, inductive step: one iteration of the merge loop that collapses job `j`
into job `i` (taken when the reachability test `comparable` fails) re-establishes the invariant `Inv`:
`pkgs` are the classes of `vidToJob`, `parents` the direct dependents, `childs` exactly the package
steps reachable in the *new* quotient graph (this is what `addChilds` has to achieve), and the quotient
graph is acyclic. -/
theorem merge_step_keeps_invariant {s : St} {i j : Nat} (h : Inv g n s) (hi : s.v2j i = some i)
    (hj : s.v2j j = some j) (hij : i ≠ j) (hc : comparable s i j = false) :
    Inv g n (mergeInto n i j s) :=
  (inv_mergeInto h hi hj hij hc).1

/-- the test of the merge loop is reachability between the two jobs (this is why it is sound) -/
theorem merge_test_is_reachability {s : St} {i j : Nat} (h : Inv g n s) (hi : s.v2j i = some i)
    (hj : s.v2j j = some j) :
    comparable s i j = true ↔ (QReachV g s.v2j i j ∨ QReachV g s.v2j j i) := by
  unfold comparable
  rw [Bool.or_eq_true, h.reaches_iff hi hj, h.reaches_iff hj hi]

/-- whenever the test `i.childs >= (j.pkgs|j.childs)` holds for two distinct jobs, the inclusion is strict
(`i` itself is in `i.childs` but not reachable from `j`): replacing `>=` by `>` in the merge loop is not a
change of behaviour (the corresponding mutant is equivalent) -/
theorem superset_test_is_strict {s : St} {i j : Nat} (h : Inv g n s) (hi : s.v2j i = some i)
    (hj : s.v2j j = some j) (hij : i ≠ j) (ht : reaches s i j = true) :
    i ∈ (s.job i).childs ∧ i ∉ union (s.job j).pkgs (s.job j).childs := by
  refine ⟨h.pkgs_sub_childs hi ((h.pkgs i hi i).mpr hi), fun hmem => ?_⟩
  -- otherwise `i` and `j` reach each other, so they are one job
  exact hij ((h.acyclic i j ((h.reaches_iff hi hj).mp ht) ((h.mem_pkgs_childs hj).mp hmem) (by simp [hi])).eq_of_rep hi hj)

/-- the merge loops keep the invariant for every list of names, processed in any order -/
theorem merge_loops_any_order {s : St} (L : List Str) (h : Inv g n s) (hN : NamesOk s.names s) :
    Inv g n (L.foldl (mergeName n) s) :=
  (mergeAll_spec L h hN).1

/-- **childs_is_reachability** for the result of `sanitize`'s merge phase -/
theorem childs_is_reachability (iso : Str → Bool) (wf : WF g n roots) :
    ∀ k, (sanitizeSt g n iso roots).v2j k = some k →
      ∀ w, w ∈ ((sanitizeSt g n iso roots).job k).childs ↔ QReachV g (sanitizeSt g n iso roots).v2j k w :=
  (sanitize_final iso wf).1.childs

/-- **merge_keeps_acyclic**: collapsing two jobs neither of which reaches the other keeps the quotient
graph acyclic (stated on the `vidToJob` map alone) -/
theorem merge_keeps_acyclic {m : Nat → Option Nat} {i j : Nat}
    (hclosed : ∀ v, m v ≠ none → ∀ d ∈ g.deps v, m d ≠ none)
    (hacyclic : ∀ v w, QReachV g m v w → QReachV g m w v → m v ≠ none → SameJobV m v w)
    (hij : i ≠ j) (hi : m i = some i) (hj : m j = some j)
    (nij : ¬ QReachV g m i j) (nji : ¬ QReachV g m j i) :
    ∀ v w, QReachV g (mrg m i j) v w → QReachV g (mrg m i j) w v → mrg m i j v ≠ none → SameJobV (mrg m i j) v w :=
  acyclic_mrg hclosed hacyclic hij hi hj nij nji

/-- the abstract job graph after `sanitize` is acyclic: two package steps that reach each other (through
dependencies and through membership in a common job) are in the same job -/
theorem abstract_job_graph_acyclic (iso : Str → Bool) (wf : WF g n roots) :
    ∀ v w, QReachV g (sanitizeSt g n iso roots).v2j v w → QReachV g (sanitizeSt g n iso roots).v2j w v →
      (sanitizeSt g n iso roots).v2j v ≠ none → SameJobV (sanitizeSt g n iso roots).v2j v w :=
  (sanitize_final iso wf).1.acyclic

/-- `getJobInternalName` does not identify two assigned display names -/
def FoldInjective (n : Nat) (pfx : Str) (pn : PkgNames) : Prop :=
  ∀ v, v < n → ∀ w, w < n → internalName pfx pn v = internalName pfx pn w → displayName pfx pn v = displayName pfx pn w

/-- every package step that `sanitize` met has a name: `getJobDisplayName` cannot raise `KeyError` -/
theorem names_total (iso : Str → Bool) (wf : WF g n roots) {v : Nat} (hv : (sanitizeSt g n iso roots).v2j v ≠ none) :
    ∃ nm, sanitize g n iso roots v = some nm := by
  obtain ⟨h, hN, _⟩ := sanitize_final iso wf
  exact assign_total h hN hv

/-- distinct abstract jobs get distinct *display* names, if no plain group name equals a numbered name of
another group -/
theorem display_names_unique_partial (iso : Str → Bool) (wf : WF g n roots)
    (hfresh : NumberingFresh (finalNames g (sanitizeSt g n iso roots))) {v w : Nat}
    (hv : (sanitizeSt g n iso roots).v2j v ≠ none) (hw : (sanitizeSt g n iso roots).v2j w ≠ none) :
    sanitize g n iso roots v = sanitize g n iso roots w ↔ SameJobV (sanitizeSt g n iso roots).v2j v w := by
  obtain ⟨h, hN, _⟩ := sanitize_final iso wf
  exact ⟨names_injective h hN hfresh hv hw, names_welldefined h hN⟩

/-- display names without the hypothesis: false of code and model, see `display_names_unique_fails` -/
def display_names_unique_goal : Prop :=
  ∀ (g : Graph) (n : Nat) (roots : List Nat) (iso : Str → Bool), WF g n roots →
    ∀ v w, (sanitizeSt g n iso roots).v2j v ≠ none → (sanitizeSt g n iso roots).v2j w ≠ none →
      sanitize g n iso roots v = sanitize g n iso roots w → SameJobV (sanitizeSt g n iso roots).v2j v w

/-- **names_unique**, the full statement: distinct jobs get distinct job names (`getJobInternalName`).
It is false of the code and of the model, see `names_unique_fails` below. -/
def names_unique_goal : Prop :=
  ∀ (g : Graph) (n : Nat) (roots : List Nat) (iso : Str → Bool) (pfx : Str), WF g n roots →
    ∀ v w, (sanitizeSt g n iso roots).v2j v ≠ none → (sanitizeSt g n iso roots).v2j w ≠ none →
      internalName pfx (sanitize g n iso roots) v = internalName pfx (sanitize g n iso roots) w →
      SameJobV (sanitizeSt g n iso roots).v2j v w

/-- **names_unique_partial**: added hypotheses `NumberingFresh` (numbering suffix does not hit an existing
name) and `FoldInjective` (character/case folding does not identify two names) -/
theorem names_unique_partial (iso : Str → Bool) (pfx : Str) (wf : WF g n roots)
    (hfresh : NumberingFresh (finalNames g (sanitizeSt g n iso roots)))
    (hfold : FoldInjective n pfx (sanitize g n iso roots)) {v w : Nat}
    (hv : (sanitizeSt g n iso roots).v2j v ≠ none) (hw : (sanitizeSt g n iso roots).v2j w ≠ none) :
    internalName pfx (sanitize g n iso roots) v = internalName pfx (sanitize g n iso roots) w ↔
      SameJobV (sanitizeSt g n iso roots).v2j v w := by
  obtain ⟨h, hN, _⟩ := sanitize_final iso wf
  obtain ⟨kv, hkv⟩ := Option.ne_none_iff_exists'.mp hv
  obtain ⟨kw, hkw⟩ := Option.ne_none_iff_exists'.mp hw
  exact ⟨fun heq => names_injective h hN hfresh hv hw (displayName_inj (hfold v (h.lt v kv hkv) w (h.lt w kw hkw) heq)),
    fun hs => congrArg (fun o => (o.map (pfx ++ ·)).map foldName) (names_welldefined h hN hs)⟩

theorem visited_known (iso : Str → Bool) (wf : WF g n roots) :
    ∀ v ∈ visited g roots n, (sanitizeSt g n iso roots).v2j v ≠ none := by
  obtain ⟨h, _, hroots⟩ := sanitize_final iso wf
  intro v hv
  obtain ⟨r, hr, hrv⟩ := visited_sound n v hv
  refine Reach.fwd_closed (G := fun x => (sanitizeSt g n iso roots).v2j x ≠ none) hrv (hroots r hr) ?_
  intro u d e hu
  exact h.closed u hu d (wf.vdeps u d e)

theorem genJobs_defined (iso : Str → Bool) (pfx : Str) (wf : WF g n roots) :
    genJobs g n pfx (sanitize g n iso roots) roots =
      some (mkJobs g (internalName pfx (sanitize g n iso roots)) (visited g roots n)) := by
  apply genJobs_eq
  intro v hv
  obtain ⟨nm, hnm⟩ := names_total iso wf (visited_known iso wf v hv)
  simp [internalName, displayName, hnm]

/-- **jobs_partition**: job generation does not fail, job names are pairwise distinct, and every package
step reachable from a root through valid dependencies is a package of exactly one job -/
theorem jobs_partition (iso : Str → Bool) (pfx : Str) (wf : WF g n roots) :
    ∃ jobs, genJobs g n pfx (sanitize g n iso roots) roots = some jobs ∧ (jobs.map (·.name)).Nodup ∧
      ∀ r ∈ roots, ∀ v, VReach g r v → ∃ j ∈ jobs, v ∈ j.pkgs ∧ ∀ j' ∈ jobs, v ∈ j'.pkgs → j' = j := by
  refine ⟨_, genJobs_defined iso pfx wf, mkJobs_names_nodup, fun r hr v hrv => ?_⟩
  have hvis := wf.visited hr hrv
  obtain ⟨nm, hnm⟩ := names_total iso wf (visited_known iso wf v hvis)
  have hin : internalName pfx (sanitize g n iso roots) v = some (foldName (pfx ++ nm)) := by
    simp [internalName, displayName, hnm]
  -- the job named like `v`; any other job that holds `v` has the same name
  have hj := (mem_mkJobs (g := g)).mpr ⟨_, ⟨v, hvis, hin⟩, rfl⟩
  refine ⟨_, hj, (mem_pkgs_mkJobs hj).mpr ⟨hvis, hin⟩, fun j' hj' hv' => mkJobs_ext hj' hj ?_⟩
  exact Option.some.inj (((mem_pkgs_mkJobs hj').mp hv').2.symm.trans hin)

/-- **deps_complete**: the job of a package step has the job of each of its valid dependencies
(arguments, tools, sandbox) among its upstream jobs, unless it is the same job -/
theorem deps_complete (iso : Str → Bool) (pfx : Str) (wf : WF g n roots) {jobs : List JJob}
    (hjobs : genJobs g n pfx (sanitize g n iso roots) roots = some jobs)
    {r v d : Nat} (hr : r ∈ roots) (hrv : VReach g r v) (hd : d ∈ g.vdeps v)
    {j j' : JJob} (hj : j ∈ jobs) (hvj : v ∈ j.pkgs) (hj' : j' ∈ jobs) (hdj : d ∈ j'.pkgs) :
    j' = j ∨ j'.name ∈ j.up := by
  obtain rfl := genJobs_some hjobs
  by_cases hnn : j'.name = j.name
  · exact Or.inl (mkJobs_ext hj' hj hnn)
  · have hv := ((mem_pkgs_mkJobs hj).mp hvj).2
    obtain ⟨nm, _, rfl⟩ := mem_mkJobs.mp hj
    exact Or.inr (mem_upstream.mpr ⟨v, wf.visited hr hrv, hv, d, hd, ((mem_pkgs_mkJobs hj').mp hdj).2, hnn⟩)

/-- **job_graph_acyclic**, the full statement: the generated job graph has no cycle.  Proved only under the
name hypotheses (`job_graph_acyclic_partial`).  Without them `genJenkinsBuildOrder` reports a cycle on `wG`
(`job_graph_cyclic_witness`); a refutation of this statement itself is not stated. -/
def job_graph_acyclic_goal : Prop :=
  ∀ (g : Graph) (n : Nat) (roots : List Nat) (iso : Str → Bool) (pfx : Str), WF g n roots →
    ∀ jobs, genJobs g n pfx (sanitize g n iso roots) roots = some jobs →
      ∀ a c, UpEdge jobs a c → ¬ Reach (UpEdge jobs) c a

/-- **job_graph_acyclic_partial**: for every DAG, root list, isolate predicate and prefix the upstream
relation of the generated jobs has no cycle, under `NumberingFresh` and `FoldInjective` -/
theorem job_graph_acyclic_partial (iso : Str → Bool) (pfx : Str) (wf : WF g n roots)
    (hfresh : NumberingFresh (finalNames g (sanitizeSt g n iso roots)))
    (hfold : FoldInjective n pfx (sanitize g n iso roots)) {jobs : List JJob}
    (hjobs : genJobs g n pfx (sanitize g n iso roots) roots = some jobs) :
    ∀ a c, UpEdge jobs a c → ¬ Reach (UpEdge jobs) c a := by
  obtain rfl := genJobs_some hjobs
  obtain ⟨h, hN, _⟩ := sanitize_final iso wf
  exact job_graph_acyclic_core h (visited_known iso wf) wf.vdeps
    (fun v w hs => congrArg (fun o => (o.map (pfx ++ ·)).map foldName) (names_welldefined h hN hs))
    (fun v w hv hw he => (names_unique_partial iso pfx wf hfresh hfold hv hw).mp he)

/-- `genJenkinsBuildOrder` never reports "Jobs are cyclic" (under the same hypotheses).  The model's
`visitJob` answers `some` also when its fuel runs out, so this is no more than "no cycle reported". -/
theorem build_order_never_cyclic_partial (iso : Str → Bool) (pfx : Str) (wf : WF g n roots)
    (hfresh : NumberingFresh (finalNames g (sanitizeSt g n iso roots)))
    (hfold : FoldInjective n pfx (sanitize g n iso roots)) {jobs : List JJob}
    (hjobs : genJobs g n pfx (sanitize g n iso roots) roots = some jobs) :
    (buildOrder jobs).isSome = true :=
  buildOrder_isSome (job_graph_acyclic_partial iso pfx wf hfresh hfold hjobs)

section witness

/-- F-C20-1: recipes `a.b` (root) -> `x` -> `a+b` -/
def wG : Graph :=
  { deps := fun v => match v with | 0 => [1] | 1 => [2] | _ => []
    vdeps := fun v => match v with | 0 => [1] | 1 => [2] | _ => []
    pkgName := fun v => match v with | 0 => "a.b".toList | 1 => "x".toList | _ => "a+b".toList
    recipe := fun v => match v with | 0 => "a.b".toList | 1 => "x".toList | _ => "a+b".toList }

theorem wG_wf : WF wG 3 [0] :=
  WF.of_chain
    (fun
      | 0, _, h | 1, _, h => by cases List.mem_singleton.mp h; decide
      | _ + 2, _, h => nomatch h)
    (by decide) (fun _ _ h => h)

/-- the three package steps are three abstract jobs, but `a.b` and `a+b` get the same job name `a_b` -/
theorem names_unique_fails : ¬ names_unique_goal := by
  intro h
  have e0 : (sanitizeSt wG 3 (fun _ => false) [0]).v2j 0 = some 0 := by decide +kernel
  have e2 : (sanitizeSt wG 3 (fun _ => false) [0]).v2j 2 = some 2 := by decide +kernel
  exact absurd ((h wG 3 [0] (fun _ => false) [] wG_wf 0 2 (e0 ▸ Option.some_ne_none 0) (e2 ▸ Option.some_ne_none 2)
    (by decide +kernel)).eq_of_rep e0 e2) (by decide)

/-- and the generated job graph is cyclic (`a_b -> x -> a_b`): the model reproduces "Jobs are cyclic" -/
theorem job_graph_cyclic_witness :
    (genJobs wG 3 [] (sanitize wG 3 (fun _ => false) [0]) [0]).map buildOrder = some none := by
  decide +kernel

/-- F-C20-2: `root -> a-1 -> q -> a` (variant using a tool of `p`) `-> p -> a` (variant without the tool).
The two variants of `a` cannot be merged and share the longest prefix `a`, so they are numbered `a-1`, `a-2`;
`a-1` is also the name of the recipe `a-1`. -/
def nG : Graph :=
  { deps := fun v => match v with | 0 => [1] | 1 => [2] | 2 => [3] | 3 => [4] | 4 => [5] | _ => []
    vdeps := fun v => match v with | 0 => [1] | 1 => [2] | 2 => [3] | 3 => [4] | 4 => [5] | _ => []
    pkgName := fun v => match v with
      | 0 => "root".toList | 1 => "a-1".toList | 2 => "q".toList | 3 => "a".toList | 4 => "p".toList | _ => "a".toList
    recipe := fun v => match v with
      | 0 => "root".toList | 1 => "a-1".toList | 2 => "q".toList | 3 => "a".toList | 4 => "p".toList | _ => "a".toList }

/-- the recipe `a-1` and the first variant of `a` are different abstract jobs with the same display name, and
the generated job graph is cyclic (`a-1 -> q -> a-1`) -/
theorem numbering_collision_witness :
    (sanitizeSt nG 6 (fun _ => false) [0]).v2j 1 = some 1 ∧ (sanitizeSt nG 6 (fun _ => false) [0]).v2j 3 = some 3 ∧
    sanitize nG 6 (fun _ => false) [0] 1 = sanitize nG 6 (fun _ => false) [0] 3 ∧
    (genJobs nG 6 [] (sanitize nG 6 (fun _ => false) [0]) [0]).map buildOrder = some none := by
  decide +kernel

theorem nG_wf : WF nG 6 [0] :=
  WF.of_chain
    (fun
      | 0, _, h | 1, _, h | 2, _, h | 3, _, h | 4, _, h => by cases List.mem_singleton.mp h; decide
      | _ + 5, _, h => nomatch h)
    (by decide) (fun _ _ h => h)

theorem display_names_unique_fails : ¬ display_names_unique_goal := by
  intro h
  obtain ⟨e1, e3, hname, _⟩ := numbering_collision_witness
  exact absurd ((h nG 6 [0] (fun _ => false) nG_wf 1 3 (e1 ▸ Option.some_ne_none 1) (e3 ▸ Option.some_ne_none 3)
    hname).eq_of_rep e1 e3) (by decide)

/-- a non-trivial instance of the hypotheses: recipe `m` with packages `m-a` (root) -> `x` -> `m-b`.  The two
packages of `m` cannot be merged, get the names `m-a` / `m-b` from the longest prefix rule, the job graph
is `m-a -> x -> m-b`. -/
def okG : Graph :=
  { deps := fun v => match v with | 0 => [1] | 1 => [2] | _ => []
    vdeps := fun v => match v with | 0 => [1] | 1 => [2] | _ => []
    pkgName := fun v => match v with | 0 => "m-a".toList | 1 => "x".toList | _ => "m-b".toList
    recipe := fun v => match v with | 0 => "m".toList | 1 => "x".toList | _ => "m".toList }

example : NumberingFresh (finalNames okG (sanitizeSt okG 3 (fun _ => false) [0])) ∧
    FoldInjective 3 "P.".toList (sanitize okG 3 (fun _ => false) [0]) ∧
    (genJobs okG 3 "P.".toList (sanitize okG 3 (fun _ => false) [0]) [0]).map buildOrder =
      some (some ["p_m-b".toList, "p_x".toList, "p_m-a".toList]) := by
  refine ⟨?_, ?_, ?_⟩
  · unfold NumberingFresh; decide +kernel
  · unfold FoldInjective; decide +kernel
  · decide +kernel

end witness

end C20
