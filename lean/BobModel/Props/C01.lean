import BobModel.Proofs.C01Noop
import BobModel.Proofs.C01Done
import BobModel.Proofs.C05History
/-
C01 — incremental build equals clean build: property theorems about the builder model
(Model/Builder.lean).  Definitions and lemmas live in Proofs/C01*.lean (`runHistory` in `Proofs/C05History.lean`):

* `Truthful E dev Γ st` ("Bob's state never claims more than the disk holds", `Proofs/C01Base.lean`),
* `AllWF Γ T` (`C01Cook`) / `TreeWF Γ T` (`C01Done`): well-formedness of a project (workspace paths
  identify steps, a step does not share its workspace with its own dependencies, the SCM layout `Γ`
  of a checkout path is stable - see `Loc.scm` - and gives one digest per SCM directory (`CoWF.funscm`), SCM-only checkouts
  have no dependencies, only package steps have input-only steps (`TreeWF.pre`)),
* `SemHyp E dev T` (`C01Done`): "deterministic scripts assumed" made precise (`obl`: no dependence on
  stale workspace content where Bob does not clean, `world`: only checkouts read the external world,
  `det`: checkouts declared deterministic are),
* `value E s` (model): the unique solution of the data-flow equations, `reach T` (`C01Done`): the
  steps `cook` visits; `QuietOp` (`C01Noop`).

`invoke E cfg T fuel st` is one invocation of `bob dev` / `bob build` (flags `cfg`) on project state
`T` in workspace state `st`; it returns `.ok` iff `fuel` sufficed, no script failed and no checkout
raised a `BuildError` (new SCM directory collides with a file; attic move needed but disabled).
-/
namespace C01
open Builder

/-- the cook functions of the current source perform their state updates and workspace operations in
the order the model was transcribed from -/
theorem source_order_matches :
    Consts.C01.buildCalls = expectedBuildCalls ∧ Consts.C01.prepareCalls = expectedPrepareCalls ∧
    Consts.C01.packageCalls = expectedPackageCalls ∧ Consts.C01.checkoutCalls = expectedCheckoutCalls := by
  decide +kernel

theorem prune_invalidates_first :
    Consts.C01.buildPruneInvalidatesFirst = true ∧ Consts.C01.packagePruneInvalidatesFirst = true := by
  decide

/-- **cook preserves Truthful** (every flag combination, successful or not) -/
theorem cook_preserves_truthful (E : Env) (dev : Bool) (Γ : Path → List (Dir × Digest)) (cfg : Cfg) (T : Step)
    (hinj : Function.Injective E.H) (hdev : cfg.cleanBuild = false → dev = true) (hwf : AllWF Γ T)
    (st : St) (h : Truthful E dev Γ st) (fuel : Nat) :
    Truthful E dev Γ (invoke E cfg T fuel st).st := by
  exact h.invoke ⟨prune_invalidates_first.1, prune_invalidates_first.2, hinj, hdev⟩ hwf fuel

/-- **the result of a successful cook is the data-flow solution**: from any `Truthful` workspace
state, for every flag combination without `--no-deps` / `--checkout-only`, every reachable step's
workspace holds exactly what a from-scratch build produces. -/
theorem cook_result_is_dataflow (E : Env) (dev : Bool) (Γ : Path → List (Dir × Digest)) (cfg : Cfg) (T : Step)
    (hinj : Function.Injective E.H) (hdev : cfg.cleanBuild = false → dev = true)
    (hsem : SemHyp E dev T) (hwf : TreeWF Γ T) (hnd : cfg.noDeps = false) (hco : cfg.checkoutOnly = false)
    (st : St) (h : Truthful E dev Γ st) (fuel : Nat) (r' : Run) (hok : invoke E cfg T fuel st = .ok () r') :
    Truthful E dev Γ r'.st ∧ ∀ u ∈ reach T, r'.st.disk u.path = some (value E u) := by
  obtain ⟨hi, hran⟩ := invoke_done
    ⟨⟨prune_invalidates_first.1, prune_invalidates_first.2, hinj, hdev⟩, hsem, hwf, hnd⟩ hco h hok
  exact ⟨hi.truthful, fun u hu => (hi.of_ran (reach_sub_subtrees T u hu) (hran u hu)).1.1⟩

theorem history_truthful (E : Env) (dev : Bool) (Γ : Path → List (Dir × Digest)) (hinj : Function.Injective E.H)
    (hist : List (Cfg × Step × Nat))
    (hall : ∀ x ∈ hist, (x.1.cleanBuild = false → dev = true) ∧ AllWF Γ x.2.1)
    (st st' : St) (h : Truthful E dev Γ st) (hrun : runHistory E hist st = some st') : Truthful E dev Γ st' := by
  have e := runHistory_append (l2 := []) (by rwa [List.append_nil])
  exact Option.some.inj e ▸ h.runAny prune_invalidates_first hinj _ (List.forall_mem_map.mpr hall)

/-- **incremental build equals clean build** (the property): after every finite history of
well-formed project states and flags - which subsumes these edit kinds: scripts, variables, variable
lists, dependencies, provided variables / tools, source contents, reverts; not an edit of the SCMs of
a checkout that keeps its workspace path (one `Γ` for the history, see `Loc.scm`) - each built
successfully in one workspace starting from the empty one, the content of every reachable step of the
final project state (in particular every package result) equals that of a from-scratch build in an
empty workspace. -/
theorem incremental_eq_clean (E : Env) (dev : Bool) (Γ : Path → List (Dir × Digest)) (hinj : Function.Injective E.H)
    (hist : List (Cfg × Step × Nat))
    (hall : ∀ x ∈ hist, (x.1.cleanBuild = false → dev = true) ∧ AllWF Γ x.2.1)
    (cfg : Cfg) (T : Step) (fuel : Nat)
    (hdev : cfg.cleanBuild = false → dev = true) (hsem : SemHyp E dev T) (hwf : TreeWF Γ T)
    (hnd : cfg.noDeps = false) (hco : cfg.checkoutOnly = false)
    (stA : St) (hA : runHistory E (hist ++ [(cfg, T, fuel)]) St.init = some stA)
    (cfgB : Cfg) (fuelB : Nat) (rB : Run) (hdevB : cfgB.cleanBuild = false → dev = true)
    (hndB : cfgB.noDeps = false) (hcoB : cfgB.checkoutOnly = false)
    (hB : invoke E cfgB T fuelB St.init = .ok () rB) :
    ∀ u ∈ reach T, stA.disk u.path = rB.st.disk u.path := by
  -- the incremental history is a `runAny` history followed by the last, successful invocation
  have hA' := runHistory_append hA
  simp only [runHistory] at hA'
  split at hA'
  · next rA hr =>
    cases hA'
    have ht := (truthful_init E dev Γ).runAny prune_invalidates_first hinj
      (hist.map fun x => (x.1, x.2.1, x.2.2, E.junk)) (List.forall_mem_map.mpr hall)
    have dA := (cook_result_is_dataflow E dev Γ cfg T hinj hdev hsem hwf hnd hco _ ht fuel rA hr).2
    have dB := (cook_result_is_dataflow E dev Γ cfgB T hinj hdevB hsem hwf hndB hcoB St.init (truthful_init E dev Γ)
      fuelB rB hB).2
    exact fun u hu => by rw [dA u hu, dB u hu]
  · cases hA'

/-- **a repeated build is a no-op**: an invocation that immediately follows a successful one (same
project state, same flags, no `--force`) creates and prunes nothing, moves nothing to the attic and
starts no script except those of indeterministic checkouts - in develop and in release mode
(`QuietOp`, `Proofs/C01Noop.lean`). -/
theorem rebuild_is_noop (E : Env) (dev : Bool) (Γ : Path → List (Dir × Digest)) (cfg : Cfg) (T : Step)
    (hinj : Function.Injective E.H) (hdev : cfg.cleanBuild = false → dev = true)
    (hsem : SemHyp E dev T) (hwf : TreeWF Γ T) (hnd : cfg.noDeps = false) (hco : cfg.checkoutOnly = false)
    (hforce : cfg.force = false)
    (st : St) (h : Truthful E dev Γ st) (fuel1 : Nat) (r1 : Run) (hok1 : invoke E cfg T fuel1 st = .ok () r1)
    (fuel2 : Nat) (r2 : Run) (hok2 : invoke E cfg T fuel2 r1.st = .ok () r2) :
    ∀ op ∈ r2.log, QuietOp T op := by
  obtain ⟨hi, hran⟩ := invoke_done
    ⟨⟨prune_invalidates_first.1, prune_invalidates_first.2, hinj, hdev⟩, hsem, hwf, hnd⟩ hco h hok1
  -- the first invocation leaves every reachable step done and settled
  have N : NHyp E dev Γ cfg T r1.st :=
    ⟨hsem, hwf, hforce, fun u hu => hi.of_ran (reach_sub_subtrees T u hu) (hran u hu)⟩
  unfold invoke cook at hok2
  rw [hco] at hok2
  exact (wp_ok (((noop_spec N).cook T fun _ hu => hu).1 false rfl { st := r1.st, mem := Mem.init, fuel := fuel2, log := [] }
    ⟨Same.refl _, by intro op hop; cases hop⟩) hok2).1.quiet

/-! ## non-vacuity: a concrete project satisfying every hypothesis

`app` (import-SCM checkout with sources `world`, build, package) depends on `lib` (deterministic
checkout script, build, package) and uses the tool package `tool` (not relocatable); the package
steps of `app` and `lib` also read their own checkout step. -/
namespace Example

def mkInfo (k : Kind) (tag path pkg : String) (det : Bool) (scms : List (Dir × Digest)) (world : World) (fp : Bool) : Info :=
  { sig := ⟨k, tag⟩, path := path, execPath := path, pkg := pkg, det := det, hasScript := true, scms := scms,
    boLoc := "", boUpd := "", world := world, fp := fp }

def cApp (w : World) : Step := .mk (mkInfo .checkout "co-app" "src/app" "app" false [(".", "g1")] w false) [] []
def cLib : Step := .mk (mkInfo .checkout "co-lib" "src/lib" "lib" true [] "" false) [] []
def bTool : Step := .mk (mkInfo .build "b-tool" "build/tool" "tool" true [] "" false) [] []
def pTool : Step := .mk (mkInfo .package "p-tool" "dist/tool" "tool" true [] "" true) [] [bTool]
def bLib : Step := .mk (mkInfo .build "b-lib" "build/lib" "lib" true [] "" false) [] [cLib]
def pLib : Step := .mk (mkInfo .package "p-lib" "dist/lib" "lib" true [] "" false) [cLib] [bLib]
def bApp (w : World) (script : String) : Step :=
  .mk (mkInfo .build script "build/app" "app" false [] "" false) [] [cApp w, pLib, pTool]
/-- the project state: sources `w` of `app`, build script `script` of `app` -/
def pApp (w : World) (script : String) : Step :=
  .mk (mkInfo .package "p-app" "dist/app" "app" false [] "" false) [cApp w] [bApp w script]

def exE : Env :=
  { H := fun c => c,
    sem := fun sig w _ ins => .ok (sig.tag ++ "[" ++ (if sig.kind = .checkout ∧ sig.tag = "co-app" then w else "") ++ "]("
      ++ ",".intercalate ins ++ ")"),
    junk := "junk", rmDir := fun _ c => c, hasDir := fun _ _ => false }

def exΓ : Path → List (Dir × Digest) := fun p => if p = "src/app" then [(".", "g1")] else []

theorem ex_subtrees (w : World) (s : String) : subtrees (pApp w s) =
    [pApp w s, cApp w, bApp w s, cApp w, pLib, cLib, bLib, cLib, pTool, bTool] := by
  simp [pApp, bApp, pLib, bLib, pTool, bTool, cApp, cLib, subtrees, subtreesL]

theorem ex_wf (w : World) (s : String) : TreeWF exΓ (pApp w s) := by
  refine ⟨?_, ?_, ?_⟩
  · intro u hu
    rw [ex_subtrees] at hu
    simp only [List.mem_cons, List.mem_nil_iff, or_false] at hu
    rcases hu with rfl | rfl | rfl | rfl | rfl | rfl | rfl | rfl | rfl | rfl <;>
      refine ⟨fun hk => ?_, ?_⟩
    all_goals first
      -- `co` of a build or package step: it is no checkout
      | (exfalso; simp [Step.kind, Step.info, pApp, bApp, pLib, bLib, pTool, bTool, mkInfo] at hk; done)
      -- `co` of `cApp`, `cLib`: the SCM layout is `exΓ`, which has at most one entry per path; both have a script
      | (exact ⟨by simp [cApp, cLib, Step.info, mkInfo, exΓ], by
            intro d g g' h1 h2; simp_all [cApp, cLib, Step.info, mkInfo, exΓ],
            by intro h; simp [cApp, cLib, Step.info, mkInfo] at h⟩)
      -- `acyc`: the paths below the step are listed and differ from its own
      | (simp [pathsL, subtreesL, subtrees, Step.path, Step.info, Step.deps, pApp, bApp, pLib, bLib, pTool, bTool,
          cApp, cLib, mkInfo]; done)
  · -- the eight distinct steps of the project have eight distinct workspace paths
    have hnd : (["dist/app", "src/app", "build/app", "dist/lib", "src/lib", "build/lib", "dist/tool", "build/tool"] :
        List Path).Nodup := by decide +kernel
    have hp : [pApp w s, cApp w, bApp w s, pLib, cLib, bLib, pTool, bTool].Pairwise (fun a b => a.path ≠ b.path) :=
      List.pairwise_map.mp hnd
    have hsub : ∀ u ∈ subtrees (pApp w s), u ∈ [pApp w s, cApp w, bApp w s, pLib, cLib, bLib, pTool, bTool] := by
      rw [ex_subtrees]
      intro u hu
      simp only [List.mem_cons, List.mem_nil_iff, or_false] at hu ⊢
      rcases hu with h | h | h | h | h | h | h | h | h | h <;> simp only [h, true_or, or_true]
    intro u hu v hv h
    exact List.Pairwise.forall_of_forall_of_flip (R := fun a b : Step => a.path = b.path → a = b) (fun _ _ _ => rfl)
      (hp.imp fun hne he => absurd he hne) (hp.imp fun hne he => absurd he.symm hne) (hsub u hu) (hsub v hv) h
  · intro u hu
    rw [ex_subtrees] at hu
    simp only [List.mem_cons, List.mem_nil_iff, or_false] at hu
    rcases hu with rfl | rfl | rfl | rfl | rfl | rfl | rfl | rfl | rfl | rfl <;>
      simp [Step.kind, Step.info, Step.pre, Step.deps, pApp, bApp, pLib, bLib, pTool, bTool, cApp, cLib, mkInfo,
        reachL, reach]

theorem ex_sem (w : World) (s : String) : SemHyp exE true (pApp w s) := by
  refine ⟨?_, ?_, ?_⟩
  · intro sig w old cs _; rfl
  · intro sig w w' old cs hk
    simp [exE, hk]
  · intro u hu hk hdet
    rw [ex_subtrees] at hu
    simp only [List.mem_cons, List.mem_nil_iff, or_false] at hu
    rcases hu with rfl | rfl | rfl | rfl | rfl | rfl | rfl | rfl | rfl | rfl <;>
      first
      -- a build or package step is no checkout
      | (simp [Step.kind, Step.info, pApp, bApp, pLib, bLib, pTool, bTool, mkInfo] at hk; done)
      -- `cApp` is not declared deterministic
      | (simp [Step.info, cApp, mkInfo] at hdet; done)
      -- `cLib`: `exE.sem` reads the world only under the tag `co-app`
      | (intro w w' old cs; simp [exE, Step.info, cLib, mkInfo]; done)

theorem ex_inj : Function.Injective exE.H := fun _ _ h => h

def devCfg : Cfg := {}

/-- a history: build, edit the sources, build, edit the build script, build (all in develop mode; the
last build is added in the `example` below); compared there with a from-scratch release build of the
final project state -/
def exHist : List (Cfg × Step × Nat) :=
  [(devCfg, pApp "sources-v1" "b-app-1", 1000), ({ force := true }, pApp "sources-v2" "b-app-1", 1000)]

/-- `st.dirStates p = some (.build iv ps)`, decided by `Vid.decEq` alone -/
def sameBuild (d : Option DirState) (iv : Vid) (ps : List Path) : Bool :=
  match d with
  | some (.build v l) => decide (v = iv) && decide (l = ps)
  | _ => false

theorem sameBuild_eq (d : Option DirState) (iv : Vid) (ps : List Path) :
    decide (d ≠ some (.build iv ps)) = !sameBuild d iv ps := by
  unfold sameBuild
  split
  · next v l => by_cases h1 : v = iv <;> by_cases h2 : l = ps <;> simp [h1, h2]
  · next h =>
    have : d ≠ some (.build iv ps) := fun e => h iv ps e
    simp [this]

/-- `cookBuild` with the directory-state test spelt `sameBuild`: a second transcription that has to
follow every change of `Builder.cookBuild` (`cookBuild_eq` breaks when it does not).  The derived `DecidableEq DirState`
casts along the equality of the variant ids it has just decided (`h ▸ _`); to reduce that cast the
kernel compares the two variant ids - unevaluated terms over two different run states - by
unfolding, which takes time exponential in the depth of the project whenever a build step is re-run
over an unchanged directory state (`--force`).  `Vid.decEq` has no such cast. -/
def cookBuildEv (E : Env) (cfg : Cfg) (i : Info) (ds : List Step) : M Unit := do
  let p := i.path
  let st0 ← getSt
  let iv := ivid st0 i ds
  let paths := i.execPath :: ds.map fun d => d.info.execPath
  let created ← constructDir p
  let st1 ← getSt
  let _ ← (if created || !sameBuild (st1.dirStates p) iv paths then do
      let c ← (if !created then do
          whenM Consts.C01.buildPruneInvalidatesFirst (prim (.reset p none) (fun s => s.reset p none))
          prim (.emptyDir p) (fun s => s.setDisk p emptyC)
          pure true
        else pure created)
      prim (.reset p (some (.build iv paths))) (fun s => s.reset p (some (.build iv paths)))
      pure c
    else pure created)
  let st ← getSt
  let inH := inputHashes st i ds
  if !cfg.force && decide (st.inputs p = some inH) then
    whenM (!cfg.cleanBuild) (prim (.setResult p (hashOf E st p)) (fun s => s.setResult p (hashOf E st p)))
  else runRecord E i cfg.cleanBuild st ds inH (fun _ => iv)

theorem cookBuild_eq (E : Env) (cfg : Cfg) (i : Info) (ds : List Step) :
    cookBuild E cfg i ds = cookBuildEv E cfg i ds := by
  unfold cookBuild cookBuildEv
  simp only [sameBuild_eq]

/-- the hypotheses of `incremental_eq_clean` are satisfiable by this non-trivial instance -/
example : ∃ stA rB, runHistory exE (exHist ++ [(devCfg, pApp "sources-v2" "b-app-2", 1000)]) St.init = some stA ∧
    invoke exE { cleanBuild := true } (pApp "sources-v2" "b-app-2") 1000 St.init = .ok () rB ∧
    ∀ u ∈ reach (pApp "sources-v2" "b-app-2"), stA.disk u.path = rB.st.disk u.path := by
  have h1 : (runHistory exE (exHist ++ [(devCfg, pApp "sources-v2" "b-app-2", 1000)]) St.init).isSome = true := by
    -- the driver unfolded over the project, so that `cookBuild_eq` applies before the kernel evaluates
    simp only [exHist, List.cons_append, List.nil_append, runHistory, invoke, cook, pApp, bApp, pLib, bLib, pTool,
      bTool, cApp, cLib, mkInfo, cookStep, cookList, bidDeps, cookBuild_eq]
    decide +kernel
  have h2 : (invoke exE { cleanBuild := true } (pApp "sources-v2" "b-app-2") 1000 St.init).isOk = true := by
    decide +kernel
  obtain ⟨stA, hA⟩ := Option.isSome_iff_exists.mp h1
  cases hB : invoke exE { cleanBuild := true } (pApp "sources-v2" "b-app-2") 1000 St.init with
  | abort r => rw [hB] at h2; cases h2
  | ok a rB =>
    refine ⟨stA, rB, hA, rfl, ?_⟩
    apply incremental_eq_clean exE true exΓ ex_inj exHist _ devCfg (pApp "sources-v2" "b-app-2") 1000
      (fun _ => rfl) (ex_sem _ _) (ex_wf _ _) rfl rfl stA hA { cleanBuild := true } 1000 rB (fun h => by cases h) rfl rfl hB
    intro x hx
    simp only [exHist, List.mem_cons, List.mem_nil_iff, or_false] at hx
    rcases hx with rfl | rfl
    · exact ⟨fun _ => rfl, (ex_wf _ _).wf⟩
    · exact ⟨fun _ => rfl, (ex_wf _ _).wf⟩

/-- the same environment, except that the build script of `app` appends to what it finds in its
workspace (an incremental build that depends on stale content) -/
def exStateful : Env :=
  { exE with sem := fun sig w old ins =>
      if sig.tag = "b-app-1" then .ok (old ++ "+" ++ ",".intercalate ins) else exE.sem sig w old ins }

/-- **`SemHyp.obl` (`Oblivious` in DESIGN.md) is needed** ("deterministic scripts assumed" must include independence from stale
workspace content in develop mode): with a build script that depends on the old workspace content,
rebuilding after a source edit in the develop-mode workspace gives a different build result than a
from-scratch build - although every other hypothesis of `incremental_eq_clean` holds.  True of the
model and of the implementation alike (incremental build directories are a feature of `bob dev`). -/
theorem oblivious_needed :
    ((runHistory exStateful [(devCfg, pApp "sources-v1" "b-app-1", 1000), (devCfg, pApp "sources-v2" "b-app-1", 1000)]
        St.init).bind fun st => st.disk "build/app") ≠
    (invoke exStateful devCfg (pApp "sources-v2" "b-app-1") 1000 St.init).st.disk "build/app" := by
  decide +kernel

/-- ... and in release mode (`cleanBuild`) the same script is harmless: Bob empties the workspace -/
theorem clean_build_needs_no_oblivious :
    ((runHistory exStateful [({ cleanBuild := true }, pApp "sources-v1" "b-app-1", 1000),
        ({ cleanBuild := true }, pApp "sources-v2" "b-app-1", 1000)] St.init).bind fun st => st.disk "build/app") =
    (invoke exStateful { cleanBuild := true } (pApp "sources-v2" "b-app-1") 1000 St.init).st.disk "build/app" := by
  decide +kernel

end Example

end C01
