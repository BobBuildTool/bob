import BobModel.Proofs.C16Dirs
import BobModel.Proofs.C16Clean
/-
C16 — Workspace directories separate variants; clean removes only garbage.

Theorems about the models `Model/Dirs.lean` (DevelopDirOracle, by-name counters) and
`Model/Clean.lean` (collectPaths, doClean, the prune decision of the builder).
`NoTwin` is defined in Proofs/C16Dirs, `Reach` in Proofs/C16Clean.
-/
namespace C16
open BobDirs BobClean

/-- The key `recipeName ++ variantId` identifies recipe and variant: variant ids have a fixed
length (20 bytes), so the undelimited concatenation is uniquely decodable. -/
theorem key_injective {α : Type} (r r' v v' : List α) (hlen : v.length = v'.length)
    (h : mkKey r v = mkKey r' v') : r = r' ∧ v = v' :=
  List.append_inj' h hlen

/-- `__writeBack` always terminates and never fails: the model's fuel for the `while True` loop is
sufficient, so every history of refreshes produces a table. -/
theorem refresh_total (t0 : Table) (hist : List (List (Key × Str))) : ∃ t, run t0 hist = some t :=
  run_total t0 hist

/-- **dirs_injective**: after ANY sequence of refreshes starting from the empty table no two keys
map to the same directory (and the table is a function, i.e. no `INSERT` hits the primary key).
The only hypothesis: within one refresh no two base directories differ just by a trailing `/`
(`os.path.join` would identify them). -/
theorem dirs_injective (hist : List (List (Key × Str))) (t : Table)
    (htwin : ∀ v ∈ hist, NoTwin (v.map (·.2))) (h : run [] hist = some t)
    (k k' : Key) (p : Str) (hk : fmtReady t k = some p) (hk' : fmtReady t k' = some p) : k = k' :=
  congrArg Prod.fst (SortKey.eq_of_nodup_map (run_wf wf_nil htwin h).dirs (lookup_some_mem hk) (lookup_some_mem hk') rfl)

/-- the same for the table as stored: keys and directories are both duplicate free -/
theorem dirs_table_wellformed (hist : List (List (Key × Str))) (t : Table)
    (htwin : ∀ v ∈ hist, NoTwin (v.map (·.2))) (h : run [] hist = some t) :
    (t.map (·.1)).Nodup ∧ (t.map (·.2)).Nodup :=
  ⟨(run_wf wf_nil htwin h).keys, (run_wf wf_nil htwin h).dirs⟩

/-- **two steps share a directory only if recipe name and Variant-Id agree** (develop mode),
for every history of recipe edits. -/
theorem develop_same_dir_same_variant (hist : List (List (Key × Str))) (t : Table)
    (htwin : ∀ v ∈ hist, NoTwin (v.map (·.2))) (h : run [] hist = some t)
    (recipe recipe' vid vid' : Str) (hlen : vid.length = vid'.length) (p : Str)
    (hk : runnable (fmtReady t (mkKey recipe vid)) = some p)
    (hk' : runnable (fmtReady t (mkKey recipe' vid')) = some p) : recipe = recipe' ∧ vid = vid' := by
  obtain ⟨d, hd, hp⟩ := Option.map_eq_some_iff.mp hk
  obtain ⟨d', hd', hp'⟩ := Option.map_eq_some_iff.mp hk'
  have hsh := (run_wf wf_nil htwin h).shaped
  obtain ⟨b1, n1, rfl⟩ := hsh (_, d) (lookup_some_mem hd)
  obtain ⟨b2, n2, rfl⟩ := hsh (_, d') (lookup_some_mem hd')
  rw [← workspace_inj (hp.trans hp'.symm)] at hd'
  exact key_injective _ _ _ _ hlen (dirs_injective hist t htwin h _ _ _ hd hd')

/-- every step that was visited by the traversal has a directory once the oracle is ready
(the `assert path is not None` of `__fmt` cannot fire for a visited step) -/
theorem visited_has_dir (old : Table) (visits : List (Key × Str)) (t : Table)
    (h : refresh old visits = some t) (v : Key × Str) (hv : v ∈ visits) : (fmtReady t v.1).isSome :=
  lookup_isSome_of_mem (((refresh_keys h).2 v.1).mpr (List.mem_map_of_mem hv))

/-- the base directory with which a key is seen first in the traversal -/
def firstBase (visits : List (Key × Str)) (k : Key) : Option Str :=
  (visits.find? (fun v => v.1 == k)).map (·.2)

/-- **existing_keeps_dir**: across every refresh (hence along every history) a key that is still
visited and whose stored directory still starts with its base directory keeps its directory.
This is `refresh_keeps`, which holds for any table `old`; the history behind `old` plays no part. -/
theorem existing_keeps_dir (hist : List (List (Key × Str))) (visits : List (Key × Str)) (old t : Table)
    (htwin : ∀ v ∈ hist, NoTwin (v.map (·.2))) (hold : run [] hist = some old)
    (h : refresh old visits = some t)
    (k : Key) (p b : Str) (hk : fmtReady old k = some p) (hb : firstBase visits k = some b)
    (hpre : b.isPrefixOf p = true) : fmtReady t k = some p := by
  unfold firstBase at hb
  obtain ⟨v, hfind, rfl⟩ := Option.map_eq_some_iff.mp hb
  exact refresh_keeps h hk hfind hpre

/-- hypotheses of the theorems above are satisfiable by a non-trivial history: two recipes with
an identical step (same variant id `aa`), a re-added variant, a virtual root whose base directory
ends in `/`, and a kept entry next to a newly numbered one. -/
example :
    let v1 : List (Key × Str) := [("libaa".toList, "dev/build/lib".toList), ("libbb".toList, "dev/build/lib".toList),
      ("toolaa".toList, "dev/build/tool".toList), ("cc".toList, "dev/dist/".toList)]
    let v2 : List (Key × Str) := [("libbb".toList, "dev/build/lib".toList), ("libcc".toList, "dev/build/lib".toList),
      ("cc".toList, "dev/dist/".toList)]
    (∀ v ∈ [v1, v2], NoTwin (v.map (·.2))) ∧
    run [] [v1, v2] = some [("libbb".toList, "dev/build/lib/2".toList), ("cc".toList, "dev/dist/1".toList),
      ("libcc".toList, "dev/build/lib/1".toList)] := by
  -- `String.toList` of a literal evaluates by UTF-8 encoding and decoding it again, which is slow to check;
  -- `toList_ofList` gives the characters at once.  The literal matches `String.ofList _` only up to
  -- unification, hence `-index`.
  simp -index only [String.toList_ofList, NoTwin]
  decide +kernel

/-- digests are no base directory names (hex digests contain no `/`, base directories start with `work/`) -/
def Separated (calls : List Call) : Prop := ∀ c ∈ calls, ∀ c' ∈ calls, c.digest ≠ c'.base

/-- with separated digests/base directories no `getByNameDirectory` call can fail -/
theorem byname_total (calls : List Call) (hsep : Separated calls)
    (htwin : NoTwin (calls.map (·.base))) : ∃ s ps, runCalls [] calls = .ok (s, ps) := by
  obtain ⟨s, ps, h, _⟩ := runCalls_nil hsep htwin
  exact ⟨s, ps, h⟩

/-- **byname_injective**: after any sequence of `getByNameDirectory` calls from the empty state two
digests (Variant-Ids) that own the same directory are equal — release mode shares a workspace
only between steps with the same Variant-Id. -/
theorem byname_injective (calls : List Call) (hsep : Separated calls)
    (htwin : NoTwin (calls.map (·.base))) (s : ByName) (ps : List Str)
    (h : runCalls [] calls = .ok (s, ps)) (d d' p : Str)
    (hd : getExisting s d = .ok (some p)) (hd' : getExisting s d' = .ok (some p)) : d = d' := by
  obtain ⟨s', ps', h', inv⟩ := runCalls_nil hsep htwin
  rw [h] at h'; cases h'
  obtain ⟨f1, h1⟩ := getExisting_eq_some.mp hd
  obtain ⟨f2, h2⟩ := getExisting_eq_some.mp hd'
  exact inv.inj d d' p f1 f2 h1 h2

/-- the directory returned by a call is the one recorded for its digest -/
theorem byname_returns (s s' : ByName) (c : Call) (q : Str)
    (h : getByName s c.base c.digest c.isSrc = .ok (s', q)) : getExisting s' c.digest = .ok (some q) :=
  getExisting_eq_some.mpr (getByName_returns h)

/-- **byname_stable**: once a Variant-Id has a directory it keeps it over every later sequence of
calls (for arbitrary other digests and base directories that are not that digest string). -/
theorem byname_stable (s s' : ByName) (calls : List Call) (ps : List Str) (d p : Str)
    (hd : getExisting s d = .ok (some p)) (hbase : ∀ c ∈ calls, c.base ≠ d)
    (h : runCalls s calls = .ok (s', ps)) : getExisting s' d = .ok (some p) := by
  obtain ⟨f, hl⟩ := getExisting_eq_some.mp hd
  exact getExisting_eq_some.mpr ⟨f, runCalls_stable h hl hbase⟩

example :
    let calls : List Call := [⟨"work/a/dist".toList, "d1".toList, false⟩, ⟨"work/a/dist".toList, "d2".toList, false⟩,
      ⟨"work/a/src".toList, "d3".toList, true⟩, ⟨"work/b/dist".toList, "d1".toList, false⟩]
    Separated calls ∧ NoTwin (calls.map (·.base)) ∧
    (runCalls [] calls).toOption.map (·.2) = some ["work/a/dist/1".toList, "work/a/dist/2".toList,
      "work/a/src/1".toList, "work/a/dist/1".toList] := by
  simp -index only [String.toList_ofList, NoTwin, Separated]
  decide +kernel

/-- path `d` is the workspace of a step of package `p` and what is recorded for `d` (if anything)
is that step's variant: checkout workspaces always, build/package workspaces when the stored
digest is absent or equal to the step's Variant-Id. -/
def Belongs (st : States) (p : Pkg) (d : Str) : Prop :=
  (p.checkout.valid = true ∧ p.checkout.path = some d) ∨
  (p.build.valid = true ∧ p.build.path = some d ∧
    (lookup st d = none ∨ lookup st d = some (.build p.build.vid))) ∨
  (p.package.path = some d ∧ (lookup st d = none ∨ lookup st d = some (.pkg p.package.vid)))

theorem belongs_iff (st : States) (p : Pkg) (d : Str) : Belongs st p d ↔ d ∈ pathsOf st p :=
  mem_pathsOf.symm

/-- `collectPaths` returns exactly the workspaces that belong to a package reachable from the
root package over `getDirectDepSteps()` (tools-only and sandbox dependencies included) -/
theorem collect_exact (g : Graph) (st : States) (fuel root : Nat) (used : List Str)
    (h : collectPaths g st fuel root = some used) (d : Str) :
    d ∈ used ↔ ∃ q p, Reach g root q ∧ g.get q = some p ∧ Belongs st p d := by
  rw [mem_collectPaths h]
  simp only [belongs_iff]

/-- the recursion of `collectPaths` is never deeper than the number of packages: with more fuel
than packages the model's `walk` cannot run out of fuel and `doClean` always yields a result -/
theorem clean_total (o : Opts) (w : World) (g : Graph) (fuel root : Nat) (h : g.length < fuel) :
    ∃ r, doClean o w g fuel root = some r := by
  unfold doClean
  by_cases hm : o.mode = .attic
  · simp [hm]
  · obtain ⟨used, hu⟩ := collectPaths_total g w.states fuel root h
    simp [hm, hu]

/-- **clean_only_garbage** (`bob clean`, `bob clean --release`): every deleted path is a known
directory of the selected mode that exists, that does not belong to any package of the current
graph with a matching (or no) stored digest, and — if it is a source workspace — only with `-s`
and (`-f` or an expendable SCM status). -/
theorem clean_only_garbage (o : Opts) (w : World) (g : Graph) (fuel root : Nat) (r : Result)
    (hmode : o.mode ≠ .attic) (h : doClean o w g fuel root = some r) (d : Str) (hd : d ∈ r.del) :
    (∃ isSrc, (d, isSrc) ∈ allPaths o w ∧
       (isSrc = true → o.src = true ∧ (o.force = true ∨ d ∈ w.expendable))) ∧
    d ∈ w.existing ∧
    ∀ q p, Reach g root q → g.get q = some p → ¬ Belongs w.states p d := by
  obtain ⟨⟨isSrc, hall, hsrc⟩, hex, hnot⟩ := (mem_del_iff hmode h).mp hd
  exact ⟨⟨isSrc, hall, fun hs => mayClean_iff.mp (hsrc hs)⟩, hex, fun q p hr hg hb =>
    hnot q p hr hg ((belongs_iff _ p d).mp hb)⟩

/-- **clean_keeps_uptodate**: a workspace that belongs to a package of the current graph (stored
digest absent or matching — in particular every up-to-date result) is not deleted, no `rm`
is issued for it, and if it exists its recorded state survives `bob clean` unchanged. -/
theorem clean_keeps_uptodate (o : Opts) (w : World) (g : Graph) (fuel root : Nat) (r : Result)
    (hmode : o.mode ≠ .attic) (h : doClean o w g fuel root = some r)
    (q : Nat) (p : Pkg) (hr : Reach g root q) (hg : g.get q = some p) (d : Str)
    (hb : Belongs w.states p d) :
    d ∉ r.del ∧ Op.rm d ∉ r.ops ∧
    (d ∈ w.existing → d ∈ r.world.existing ∧ lookup r.world.states d = lookup w.states d) := by
  have hnd : d ∉ r.del := fun hd => (clean_only_garbage o w g fuel root r hmode h d hd).2.2 q p hr hg hb
  obtain ⟨_, _, _, hops, hworld⟩ := doClean_eq_some h
  have hrm : Op.rm d ∉ r.ops := fun hop => hnd (rm_mem_cleanOps (hops ▸ hop))
  refine ⟨hnd, hrm, fun hex => ?_⟩
  have hst : Op.delState d ∉ r.ops := fun hop => (delState_mem_cleanOps (hops ▸ hop)).elim (· hex) hnd
  rw [hworld, apply_existing, apply_states, if_neg hst]
  exact ⟨⟨hex, hrm⟩, rfl⟩

/-- **dry_run_noop**: with `--dry-run` the op list consists of `print`s only — no removal, no
state change — and the world after `bob clean` is the world before (all modes). -/
theorem dry_run_noop (o : Opts) (w : World) (g : Graph) (fuel root : Nat) (r : Result)
    (hdry : o.dryRun = true) (h : doClean o w g fuel root = some r) :
    (∀ op ∈ r.ops, ∃ d, op = Op.print d) ∧ r.world = w := by
  obtain ⟨_, _, _, hops, hworld⟩ := doClean_eq_some h
  rw [cleanOps_dryRun hdry] at hops
  refine ⟨fun op hop => ?_, by rw [hworld, hops, foldl_print]⟩
  obtain ⟨d, _, rfl⟩ := List.mem_map.mp (hops ▸ hop)
  exact ⟨d, rfl⟩

/-- `bob clean --attic`: only existing attic directories, and without `-f` only expendable ones -/
theorem attic_only_expendable (o : Opts) (w : World) (g : Graph) (fuel root : Nat) (r : Result)
    (hmode : o.mode = .attic) (h : doClean o w g fuel root = some r) (d : Str) (hd : d ∈ r.del) :
    d ∈ w.attic ∧ d ∈ w.existing ∧ (o.force = true ∨ d ∈ w.atticExpendable) := by
  obtain ⟨used, _, hdel, _⟩ := doClean_eq_some h
  rwa [hdel, mem_delPaths, mem_delCandidates_attic hmode] at hd

/-- non-trivial instance: a graph with a shared tools-only dependency, a stale build workspace
(stored digest of another variant), an orphaned package workspace and a source workspace -/
example :
    let stp := fun (v : Bool) (p : String) (vid : String) => (⟨v, some p.toList, vid.toList⟩ : Step)
    let g : Graph := [
      ⟨0, stp false "/invalid" "", stp true "dev/build/root/1/workspace" "b0", stp true "dev/dist/root/1/workspace" "p0", [1, 2]⟩,
      ⟨1, stp true "dev/src/lib/1/workspace" "s1", stp true "dev/build/lib/1/workspace" "b1", stp true "dev/dist/lib/1/workspace" "p1", [2]⟩,
      ⟨2, stp false "/invalid" "", stp true "dev/build/tool/1/workspace" "b2", stp true "dev/dist/tool/1/workspace" "p2", []⟩]
    let w : World := {
      states := [("dev/src/lib/1/workspace".toList, .src), ("dev/build/lib/1/workspace".toList, .build "OLD".toList),
        ("dev/dist/lib/1/workspace".toList, .pkg "p1".toList), ("dev/dist/gone/1/workspace".toList, .pkg "x".toList),
        ("dev/src/gone/1/workspace".toList, .src), ("dev/dist/tool/1/workspace".toList, .pkg "p2".toList)],
      byName := [], attic := [],
      existing := ["dev/src/lib/1/workspace".toList, "dev/build/lib/1/workspace".toList, "dev/dist/lib/1/workspace".toList,
        "dev/dist/gone/1/workspace".toList, "dev/src/gone/1/workspace".toList, "dev/dist/tool/1/workspace".toList],
      expendable := [], atticExpendable := [] }
    (doClean ⟨.develop, true, false, false, false⟩ w g 4 0).map (·.del) =
      some ["dev/build/lib/1/workspace".toList, "dev/dist/gone/1/workspace".toList] ∧
    (doClean ⟨.develop, true, true, false, false⟩ w g 4 0).map (·.del) =
      some ["dev/build/lib/1/workspace".toList, "dev/dist/gone/1/workspace".toList, "dev/src/gone/1/workspace".toList] := by
  simp -index only [String.toList_ofList]
  decide +kernel

/-! ## a directory handed to a different variant is emptied before it is used
(minimal local model of `_cookBuildStep` / `_preparePackageStep`; the full builder model is C01's) -/

/-- **handover_pruned** (build step): if the directory exists and its stored digest differs from the
digest of the step now mapped to it, the stored state is dropped, the workspace is emptied and its
state reset to the new digest, all before the script runs, and the script does run. -/
theorem handover_pruned_build {σ ι : Type} [DecidableEq σ] [DecidableEq ι] (force : Bool) (old : Option σ) (new : σ)
    (storedInputs : Option ι) (inputs : ι) (hdiff : old ≠ some new) :
    cookBuild false true force old new storedInputs inputs =
      [PrepOp.invalidate, PrepOp.emptyDir, PrepOp.resetState new, PrepOp.run] := by
  simp [cookBuild, hdiff]

/-- **handover_pruned** (package step): something is there and the stored digest differs ⇒ the
workspace is emptied (or the stale file/symlink of a shared package removed) and the state reset. -/
theorem handover_pruned_package {σ : Type} [DecidableEq σ] (fileOrLink : Bool) (old : Option σ) (new : σ)
    (hdiff : old ≠ some new) :
    preparePackage true fileOrLink old new =
      [PrepOp.invalidate, if fileOrLink then PrepOp.unlink else PrepOp.emptyDir, PrepOp.resetState new] := by
  simp [preparePackage, hdiff]

/-- conversely a directory whose stored digest matches is left alone -/
theorem matching_not_pruned {σ ι : Type} [DecidableEq σ] [DecidableEq ι] (force : Bool) (d : σ)
    (storedInputs : Option ι) (inputs : ι) :
    PrepOp.emptyDir ∉ cookBuild false true force (some d) d storedInputs inputs ∧
    preparePackage true false (some d) d = [] := by
  constructor
  · simp only [cookBuild, Bool.false_or, ne_eq, not_true_eq_false, decide_false, Bool.false_eq_true, if_false,
      List.nil_append, List.mem_singleton]
    split <;> simp
  · simp [preparePackage]

end C16
