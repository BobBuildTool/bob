import BobModel.Proofs.C11Examples
/-
C11 — directory hashes are content exact and cache transparent.
Property theorems about the model of `DirHasher` / `DirHasher.FileIndex` (pym/bob/utils.py).
The notions of the statements are defined in the proof modules: `NulFree`, `GoodEntry`, `encEntry` in `C11Enc`;
`Tree.WF`, `Forest.entries`, `CollisionFree` in `C11Hash`; `Names`, `Strict` in `C11Order`; `Sound`, `Coherent`,
`FsState`, `runHistory` in `C11Cache`; the data of the examples in `C11Examples`.

`H` is the hash function (SHA-1 in the implementation and in the driver).  Because no function
into 20 byte strings is injective, "collision freedom" is stated for the strings that are actually
hashed for the two trees under comparison (`CollisionFree H S`); every "equal inputs ⇒ equal hash"
direction and every cache theorem needs no assumption on `H` at all.
-/
namespace C11
open DirHash

/-- the formats that the theorems below reason about are the ones in the source: `st_mode` and
`st_rdev` are packed as 4 byte little-endian words -/
theorem formats_tie :
    parseFmt Consts.C11.dirModeFmt = [.int 4 false] ∧ parseFmt Consts.C11.devFmt = [.int 4 false] ∧
    Consts.C11.pathSep = [47] :=
  ⟨parse_modeFmt, parse_devFmt, rfl⟩

/-- the index compares the name and all six stat fields it stores, and stores what it compares
(the model's `Stat` equality is exactly this list) -/
theorem index_fields_tie :
    Consts.C11.matchedFields =
      ["name=name", "ctime=st_ctime_ns", "mtime=st_mtime_ns", "dev=st_dev", "ino=st_ino", "mode=st_mode", "size=st_size"] ∧
    Consts.C11.writtenFields =
      ["st_ctime_ns", "st_mtime_ns", "st_dev", "st_ino", "st_mode", "st_size", "digest", "len"] ∧
    parseFmt Consts.C11.cacheEntryFmt =
      [.int 8 true, .int 8 true, .int 8 false, .int 8 false, .int 4 false, .int 8 false, .bytes 20, .int 2 false] ∧
    Consts.C11.cacheEntrySize = 66 :=
  ⟨rfl, rfl, by decide, rfl⟩

/-- the ignore lists are applied by name, to directories resp. non-directories only, and no ignored
name is in both lists -/
theorem ignore_lists_disjoint : ∀ n ∈ Consts.C11.ignoreDirs, Consts.C11.ignoreFiles.contains n = false := by decide

/-- **dirBlob_decodable**: the concatenation `mode ‖ digest ‖ name` over the entries of one directory
determines the list of `(mode, digest, sort name)` triples.  (Names are NUL free and the two high
bytes of the packed mode are zero while its second byte is not, so a name ends exactly where a
packed mode can start; the digest length follows from the file type bits.) -/
theorem dirBlob_decodable (H : Bytes → Bytes) (hlen : ∀ b, (H b).length = 20) (f1 f2 : Forest)
    (w1 : f1.WF) (w2 : f2.WF) (h : f1.blob H = f2.blob H) : f1.entries H = f2.entries H :=
  Forest.entries_of_blob H hlen f1 f2 w1 w2 h

/-- the same on the level of byte strings: no assumption on where the triples come from -/
theorem dirBlob_decodable_raw (l1 l2 : List (Nat × Bytes × Bytes))
    (h1 : ∀ e ∈ l1, GoodEntry e) (h2 : ∀ e ∈ l2, GoodEntry e)
    (h : l1.flatMap encEntry = l2.flatMap encEntry) : l1 = l2 :=
  entries_decodable l1 l2 h1 h2 h

/-- the hash is a function of the canonical tree: listing order, ignored entries and everything
that is not part of a `Tree` (time stamps, owners, inode numbers) cannot influence it -/
theorem hashDir_of_canon_eq (H : Bytes → Bytes) (es1 es2 : Forest) (h : es1.canon = es2.canon) :
    hashDir H es1 = hashDir H es2 := by
  unfold hashDir; rw [h]

/-- **hashDir_iff**: two directory listings have the same hash iff their canonical trees (ignored
entries dropped, sorted, on every level) are equal — i.e. iff they agree in names, file types,
permission bits, contents, link targets and device numbers.  `⇒` needs collision freedom of `H` on
the strings hashed for these two trees; neither distinctness nor slash-freedom of names is needed. -/
theorem hashDir_iff (H : Bytes → Bytes) (hlen : ∀ b, (H b).length = 20) (es1 es2 : Forest)
    (w1 : es1.WF) (w2 : es2.WF)
    (hcf : CollisionFree H (fun x => x ∈ hashInputs H es1 ∨ x ∈ hashInputs H es2)) :
    hashDir H es1 = hashDir H es2 ↔ es1.canon = es2.canon := by
  refine ⟨fun h => ?_, hashDir_of_canon_eq H es1 es2⟩
  -- `hashDir` is the digest of a directory node with the canonical listing, `hashInputs` are its inputs
  exact (Tree.dir.inj (Tree.eq_of_digest H hlen _ hcf (.dir 0 es1.canon) (.dir 0 es2.canon)
    ⟨by decide, Forest.canon_WF es1 w1⟩ ⟨by decide, Forest.canon_WF es2 w2⟩ (fun _ => .inl) (fun _ => .inr) rfl h)).2

/-- what equality of canonical trees means, free of any order: two listings (of real directories:
non-empty, slash free, pairwise different names) have the same canonical form iff they have the same
set of `(name, canonical subtree)` pairs among their entries that are not ignored.  Unfolded
recursively (`Tree.canon` is the identity on everything but directories) this is "the trees agree in
names, file types, permission bits, contents and link targets". -/
theorem canon_eq_iff (f1 f2 : Forest) (w1 : f1.Names) (w2 : f2.Names) :
    f1.canon = f2.canon ↔
    ∀ n c, (∃ t, (n, t) ∈ f1.toList ∧ ignored n t = false ∧ t.canon = c) ↔
           (∃ t, (n, t) ∈ f2.toList ∧ ignored n t = false ∧ t.canon = c) := by
  constructor
  · intro h n c
    rw [← Forest.mem_canon_iff f1 (n, c), ← Forest.mem_canon_iff f2 (n, c), h]
  · intro h
    apply Forest.strict_ext _ _ (Forest.canon_strict f1 w1) (Forest.canon_strict f2 w2)
    intro e
    rw [Forest.mem_canon_iff, Forest.mem_canon_iff]
    exact h e.1 e.2

/-- `hashDirectory(path)` as computed through the `NullIndex` object is the pure `hashDir` -/
theorem nullIndex_eq_hashDir (H : Bytes → Bytes) (statOf : Bytes → Stat) (es : Forest) :
    H (es.canon.walk H nullCheck statOf [] ()).1 = hashDir H es :=
  congrArg H (Forest.walk_transparent H nullCheck statOf (fun _ => True) (fun _ _ => True)
    (fun _ _ _ _ _ => ⟨rfl, trivial⟩) es.canon [] () (fun _ _ => trivial) trivial).1

/-- **visit_order_ascending**: on a real directory tree (names non-empty, without `/`, pairwise
different in each directory) the index names — the paths relative to the hashed directory of all
regular files and symlinks that are not ignored — are visited in strictly ascending byte order.
This is what the merge walk over the sorted old index relies on, and it is the reason for the
`name + "/"` sort key of directories. -/
theorem visit_order_ascending (es : Forest) (w : es.Names) :
    ((visited es).map Prod.fst).Pairwise (fun a b => bytesLt a b = true) := by
  rw [List.pairwise_map]
  exact visited_sorted es w

/-- in particular no two hashed files share an index name, so the digest of a hashed file is a
function of its index name: every single state is `Coherent` -/
theorem coherent_of_distinct (H : Bytes → Bytes) (statOf : Bytes → Stat) (es : Forest) (w : es.Names) :
    ∃ D, Coherent H D ⟨es, statOf⟩ :=
  ⟨digestAt H es, coherent_of_names H statOf es w⟩

theorem canon_sorted (es : Forest) (w : es.Names) : es.canon.Strict :=
  Forest.canon_strict es w

/-- **cached_eq_uncached**: for *every* old index that is sound for the current tree — sorted or not,
with stale, duplicate, missing or foreign records, no file / wrong signature (`none`), truncated
(any parsed prefix) — the cached hash is the uncached hash. -/
theorem cached_eq_uncached (H : Bytes → Bytes) (statOf : Bytes → Stat) (es : Forest) (ix : Option (List Rec))
    (hs : Sound H statOf es ix) :
    (hashDirCached H statOf ix es).1 = hashDir H es :=
  (hashDirCached_spec H statOf es ix hs).1

/-- … and the index left behind is sound for the current tree again (here the digest of a hashed
file has to be a function of its index name and stat data, which holds as soon as no two hashed
files have the same index name, see `coherent_of_distinct`). -/
theorem new_index_sound (H : Bytes → Bytes) (statOf : Bytes → Stat) (es : Forest) (ix : Option (List Rec))
    (hs : Sound H statOf es ix) (D : Bytes → Stat → Bytes) (hD : Coherent H D ⟨es, statOf⟩) :
    Sound H statOf es (newIndex ix (hashDirCached H statOf ix es).2) :=
  sound_after H D ⟨es, statOf⟩ ⟨es, statOf⟩ ix hD hD hs hs

/-- the same for the bytes of `cache.bin`, whatever they are -/
theorem cached_eq_uncached_bytes (H : Bytes → Bytes) (statOf : Bytes → Stat) (es : Forest) (raw : Option Bytes)
    (hs : Sound H statOf es (parseIndex raw)) :
    (hashDirCached H statOf (parseIndex raw) es).1 = hashDir H es :=
  cached_eq_uncached H statOf es _ hs

/-- without a usable cache file everything is hashed -/
theorem no_index_sound (H : Bytes → Bytes) (statOf : Bytes → Stat) (es : Forest) : Sound H statOf es none :=
  fun _ hr => nomatch hr

/-- **cache_history**: for any sequence of file system states (= any history of modifications) in
which the digest of a hashed file is determined by its index name and stat data (`Coherent`: a
modification changes the stat data), and any initial index that is sound for these states,
hashing every state with the cache that the previous run left behind gives the uncached hashes. -/
theorem cache_history (H : Bytes → Bytes) (D : Bytes → Stat → Bytes) (hist : List FsState)
    (ix0 : Option (List Rec)) (hco : ∀ st ∈ hist, Coherent H D st)
    (hs0 : ∀ st ∈ hist, Sound H st.statOf st.es ix0) :
    runHistory H ix0 hist = hist.map (fun st => hashDir H st.es) := by
  induction hist generalizing ix0 with
  | nil => rfl
  | cons st rest ih =>
    rw [runHistory, List.map_cons, cached_eq_uncached H st.statOf st.es ix0 (hs0 st (.head _))]
    congr 1
    -- the index left by the run on `st` is sound for the later states
    exact ih _ (fun s hs => hco s (.tail _ hs)) fun st' hst' =>
      sound_after H D st st' ix0 (hco st (.head _)) (hco st' (.tail _ hst')) (hs0 st (.head _)) (hs0 st' (.tail _ hst'))

/-- the usual case: the history starts without `cache.bin` -/
theorem cache_history_from_scratch (H : Bytes → Bytes) (D : Bytes → Stat → Bytes) (hist : List FsState)
    (hco : ∀ st ∈ hist, Coherent H D st) :
    runHistory H none hist = hist.map (fun st => hashDir H st.es) :=
  cache_history H D hist none hco (fun st _ => no_index_sound H st.statOf st.es)

section examples
open DirHash.Ex

/-- non-vacuity of `hashDir_iff`: well-formed trees, a length-20 hash without collision on the hashed
strings, different canonical trees - and therefore different hashes -/
example : exA.WF ∧ exB.WF ∧ CollisionFree exH (fun x => x ∈ hashInputs exH exA ∨ x ∈ hashInputs exH exB) ∧
    exA.canon ≠ exB.canon ∧ hashDir exH exA ≠ hashDir exH exB := by
  have wA : exA.WF := by simp only [exA, Forest.WF, Tree.WF, NulFree]; decide
  have wB : exB.WF := by simp only [exB, Forest.WF, Tree.WF, NulFree]; decide
  have hcf : CollisionFree exH (fun x => x ∈ hashInputs exH exA ∨ x ∈ hashInputs exH exB) := by
    have all : ∀ a ∈ hashInputs exH exA ++ hashInputs exH exB, ∀ b ∈ hashInputs exH exA ++ hashInputs exH exB,
        exH a = exH b → a = b := by
      rw [exA_inputs, exB_inputs]
      decide
    exact fun a b ha hb => all a (List.mem_append.mpr ha) b (List.mem_append.mpr hb)
  have hne : exA.canon ≠ exB.canon := fun h => by cases h
  exact ⟨wA, wB, hcf, hne, fun h => hne ((hashDir_iff exH exH_len exA exB wA wB hcf).mp h)⟩

/-- an ignored directory and the listing order do not matter -/
example : hashDir exH exB = hashDir exH (.cons [46, 103, 105, 116] (.dir 0o700 .nil) (.cons [97] (.file 0o755 [1]) .nil)) :=
  hashDir_of_canon_eq _ _ _ (by rfl)

/-- non-vacuity of `cached_eq_uncached`: a sound index that is neither sorted nor fresh -/
example : Sound exH exStat exTree exIx ∧ (hashDirCached exH exStat exIx exTree).1 = hashDir exH exTree := by
  have hs : Sound exH exStat exTree exIx := by decide
  exact ⟨hs, cached_eq_uncached exH exStat exTree exIx hs⟩

/-- non-vacuity of `cache_history` -/
example : (∀ st ∈ [exS1, exS2], Coherent exH exD st) ∧
    runHistory exH none [exS1, exS2] = [hashDir exH exS1.es, hashDir exH exS2.es] ∧
    hashDir exH exS1.es ≠ hashDir exH exS2.es := by
  have hco : ∀ st ∈ [exS1, exS2], Coherent exH exD st := by decide
  exact ⟨hco, cache_history_from_scratch exH exD _ hco, by decide⟩

/-- non-vacuity of `visit_order_ascending`: `a.b` is visited before `a/x` -/
example : exO.Names ∧ (visited exO).map Prod.fst = [[97, 46, 98], [97, 47, 120]] := by
  refine ⟨?_, by rfl⟩
  simp only [exO, Forest.Names, Tree.Names, SlashFree, Forest.toList]
  decide

/-- non-vacuity of `dirBlob_decodable`: the blob of `exTree`'s canonical listing -/
example : (exTree.canon).WF ∧ (exTree.canon.entries exH).length = 2 := by
  refine ⟨Forest.canon_WF _ (by simp only [exTree, Forest.WF, Tree.WF, NulFree]; decide), by rfl⟩

end examples

end C11
