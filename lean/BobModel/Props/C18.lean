import BobModel.Proofs.C18Valid
import BobModel.Proofs.C18Walk
import BobModel.Proofs.C18Norm
import BobModel.Proofs.C18Conv
import BobModel.Generated.ConstsC18
/-
C18 — property theorems about the model of pym/bob/pathspec.py (Model/PathSpec.lean) against the
declarative meaning of path queries (Spec/PathSem.lean).  Helper lemmas are in Proofs/C18*.lean; `ReachQ` in
the statement of `intermediate_nodes_spec` is defined in Proofs/C18Traverse.lean.
-/
namespace C18
open PathSpec

/- The graph of the non-vacuity examples: root(0) → a(1) → b(2) → a(3), root → b(2) indirectly. -/

def exChildren : Node → List Edge
  | 0 => [⟨['a'], 1, true⟩, ⟨['b'], 2, false⟩]
  | 1 => [⟨['b'], 2, true⟩]
  | 2 => [⟨['a'], 3, true⟩]
  | _ => []

def exName : Node → Str
  | 1 => ['a'] | 2 => ['b'] | 3 => ['a'] | _ => []

def exGraph : Graph := { size := 4, root := 0, name := exName, children := exChildren, sval := fun _ _ => [] }

theorem exGraph_wf : exGraph.WF := by
  have h : ∀ p, (∀ e ∈ exChildren p, e.node < 4) ∧ ((exChildren p).map (·.node)).Nodup := by
    intro p
    match p with
    | 0 | 1 | 2 => decide
    | n + 3 => simp [exChildren]
  exact ⟨by decide, fun p e he => (h p).1 e he, fun p => (h p).2⟩

/-- every axis keyword of the grammar (which are also exactly the axis names dispatched in
`LocationStep.evalForward` and `evalBackward`, checked by the extractor) is modelled, by a distinct axis -/
theorem axis_names_cover :
    Consts.C18.axes.map Axis.ofName =
      [some .child, some .descendant, some .descendantOrSelf, some .directChild, some .directDescendant,
       some .directDescendantOrSelf, some .self] := by
  decide +kernel

/-- a name test cannot contain any `fnmatch` special character but `*`, so `globMatch` is all of
`fnmatchcase` that can be reached -/
theorem nameTest_wildcard_only :
    ∀ c ∈ Consts.C18.nodeTestChars, c ≠ '?' ∧ c ≠ '[' ∧ c ≠ ']' ∧ c ≠ '!' := by
  decide +kernel

/-- the two mode names `LocationPath.evalForward` compares with are modelled; every other value
behaves like `nullglob` -/
theorem compared_modes : Consts.C18.comparedModes.map Mode.ofName = [some .nullfail, some .nullset] := by
  decide +kernel

/-- the loop shared by `__evalAxisDescendant` and `__evalAxisAncestor` computes exactly the
transitive closure of its successor function on every finite graph and never runs out of fuel -/
theorem worklist_eq_transGen (succ : Node → List Node) (size : Nat)
    (hsucc : ∀ a b, b ∈ succ a → b < size) (nodes : List Node) :
    ∃ r, worklist succ (size + 2) nodes [] = some r ∧
      ∀ x, x ∈ r ↔ ∃ n ∈ nodes, Relation.TransGen (fun a b => b ∈ succ a) n x :=
  worklist_spec succ size hsucc nodes

theorem axis_descendant_eq_transGen (g : Graph) (hwf : g.WF) (nodes : List Node) (qi : Bool) :
    ∃ r, worklist (succs g qi) (g.size + 2) nodes [] = some r ∧
      ∀ x, x ∈ r ↔ ∃ n ∈ nodes, Relation.TransGen (edge g qi) n x :=
  worklist_succs hwf nodes qi

theorem axis_ancestor_eq_transGen (g : Graph) (hwf : g.WF) (nodes : List Node) (qi : Bool) :
    ∃ r, worklist (preds g qi) (g.size + 2) nodes [] = some r ∧
      ∀ x, x ∈ r ↔ x < g.size ∧ ∃ n ∈ nodes, Relation.TransGen (edge g qi) x n :=
  worklist_preds hwf nodes qi

example : ∃ r, worklist (succs exGraph true) (exGraph.size + 2) [0] [] = some r ∧ 3 ∈ r :=
  ⟨_, rfl, by decide⟩

/-- the parent table (first edge wins) is the inverse of the child table, including the direct flag -/
theorem parents_inverse (g : Graph) (hwf : g.WF) (qi : Bool) (p x : Node) :
    p ∈ preds g qi x ↔ p < g.size ∧ edge g qi p x :=
  mem_preds hwf

/-- the tables written by `__convertPackageToGraph` form a well-formed graph: a (parent, child)
pair occurs under one name only -/
theorem converted_graph_wf (p : Pkgs) (sval : Nat → Node → Str) (hroot : p.root < p.size)
    (hd : ∀ i c, c ∈ p.direct i → c < p.size) (hi : ∀ i c, c ∈ p.indirect i → c < p.size) :
    (p.toGraph sval).WF :=
  toGraph_wf p sval hroot hd hi

/-- evaluating a predicate backwards over the whole graph selects exactly the packages for
which the predicate holds in its forward (declarative) meaning -/
theorem evalBackward_iff_holds (g : Graph) (hwf : g.WF) (p : Pred) (n : Node) (hn : n < g.size) :
    n ∈ p.evalBackward g ↔ holds g p n :=
  pred_back hwf p n hn

theorem path_evalBackward_iff (g : Graph) (hwf : g.WF) (s : Steps) (n : Node) (hn : n < g.size) :
    n ∈ s.evalBackward g (allNodes g) ↔ ∃ m, sem g s n m :=
  steps_back_all hwf s hn

example : holds exGraph (.path false (.cons .descendant ['a'] .none .nil)) 1 :=
  (evalBackward_iff_holds exGraph exGraph_wf _ 1 (by decide)).mp (by decide)

/-- the set of packages selected by `LocationPath.evalForward` is the step-by-step set -/
theorem evalForward_nodes (g : Graph) (hwf : g.WF) (mode : Mode) (steps : Steps) (nodes valid : List Node)
    (h : evalForward g mode steps = .ok (nodes, valid)) :
    ∀ m, m ∈ nodes ↔ sem g steps g.root m := by
  intro m
  rw [forwardLoop_nodes h, mem_selNodes hwf steps _ (root_singleton_lt hwf)]
  simp

/-- `nullset` never raises -/
theorem empty_mode_nullset (g : Graph) (steps : Steps) : ∃ r, evalForward g .nullset steps = .ok r := by
  cases h : evalForward g .nullset steps with
  | ok r => exact ⟨r, rfl⟩
  | error e => exact absurd rfl (forwardLoop_error g _ _ _ _ _ e h).1

/-- in both other modes "Package not found" is raised exactly if some prefix of the path consists
of simple steps only (exact name, `self`, `child` or `direct-child` axis, no predicate) and already selects
nothing -/
theorem empty_mode_notFound (g : Graph) (hwf : g.WF) (mode : Mode) (hmode : mode ≠ .nullset) (steps : Steps) :
    evalForward g mode steps = .error .notFound ↔
      ∃ k, (steps.take k).anyComplex = false ∧ ∀ m, ¬ sem g (steps.take k) g.root m := by
  unfold evalForward
  rw [forwardLoop_notFound g hmode steps [g.root] [g.root] (by simp)]
  simp [selNodes_eq_nil hwf (root_singleton_lt hwf)]

/-- `nullglob` raises nothing else -/
theorem empty_mode_nullglob (g : Graph) (steps : Steps) : evalForward g .nullglob steps ≠ .error .noMatch :=
  fun h => by cases (forwardLoop_error g _ _ _ _ _ _ h).2.2 rfl

/-- `nullfail` raises exactly if the path selects nothing -/
theorem empty_mode_nullfail (g : Graph) (hwf : g.WF) (steps : Steps) :
    (∃ e, evalForward g .nullfail steps = .error e) ↔ ∀ m, ¬ sem g steps g.root m := by
  unfold evalForward
  rw [forwardLoop_nullfail hwf steps [g.root] [g.root] false (by simp)]
  simp [selNodes_eq_nil hwf (root_singleton_lt hwf)]

/-- the three modes on the example graph: the missing package `zz`, asked for as a child (a simple step) and
as a descendant (a complex step) -/
example : evalForward exGraph .nullglob (.cons .child ['z', 'z'] .none .nil) = .error .notFound := by rfl
example : evalForward exGraph .nullset (.cons .child ['z', 'z'] .none .nil) = .ok ([], []) := by rfl
example : evalForward exGraph .nullfail (.cons .descendant ['z', 'z'] .none .nil) = .error .noMatch := by rfl
example : evalForward exGraph .nullglob (.cons .descendant ['z', 'z'] .none .nil) = .ok ([], []) := by rfl

/-- every `(stack, node)` reported by `queryTreePath` is a selected package, reported with a real
path from the root all of whose nodes are in `valid` -/
theorem result_paths_sound (g : Graph) (hwf : g.WF) (mode : Mode) (steps : Steps) (queryAll : Bool)
    (nodes valid : List Node) (h : evalForward g mode steps = .ok (nodes, valid))
    (out : List (List Str × Node)) (hout : queryTree g mode steps queryAll = .ok out) :
    ∀ p ∈ out, sem g steps g.root p.2 ∧ PathWithin g valid g.root p.1 p.2 := by
  intro p hp
  obtain ⟨_, _, h', rfl⟩ := queryTree_ok hout
  cases h.symm.trans h'
  obtain ⟨h1, h2⟩ := (findResultNodes_sound g queryAll valid nodes g.root (g.size + 1) g.root []
    { out := [], result := nodes, valid := valid } rfl ⟨fun _ h => h, fun _ h => h, by simp⟩).2.2 p hp
  exact ⟨(evalForward_nodes g hwf mode steps nodes valid h p.2).mp h1, h2⟩

/-- `valid` only contains packages that lie on a real path from the root to a selected package -/
theorem valid_on_result_paths (g : Graph) (hwf : g.WF) (mode : Mode) (steps : Steps) (nodes valid : List Node)
    (h : evalForward g mode steps = .ok (nodes, valid)) :
    ∀ x ∈ valid, Reach g g.root x ∧ ∃ t ∈ nodes, Reach g x t := by
  have hroot : ∀ a ∈ [g.root], Reach g g.root a := by simpa using reach_refl g g.root
  exact forwardLoop_valid hwf g.root h (root_singleton_lt hwf) hroot hroot
    (fun a ha => ⟨a, ha, reach_refl g a⟩)

/-- `__findIntermediateNodes` (since 6706b01): exactly the packages that are reachable from an old
context node and from which a new context node is reachable, i.e. the packages on any path between
`old` and `new` — independent of any iteration order -/
theorem intermediate_nodes_spec (g : Graph) (hwf : g.WF) (hac : g.Acyclic) (old new : List Node) (qi : Bool)
    (hsup : superset old new = false) (y : Node) :
    y ∈ findIntermediateNodes g old new qi ↔
      (∃ o ∈ old, ReachQ g qi o y) ∧ ∃ t ∈ new, Relation.TransGen (edge g qi) y t :=
  findIntermediateNodes_spec hwf hac old new qi hsup y

/-- **every selected package is reported at least once** (both with `queryAll` False and True): trimming
`valid` never disconnects a result, and the depth fuel of the two recursive walks suffices on every
acyclic graph -/
theorem result_paths_complete (g : Graph) (hwf : g.WF) (hac : g.Acyclic) (mode : Mode) (steps : Steps)
    (queryAll : Bool) (out : List (List Str × Node)) (hout : queryTree g mode steps queryAll = .ok out) :
    ∀ n, sem g steps g.root n → ∃ s, (s, n) ∈ out := by
  intro n hn
  obtain ⟨nodes, valid, h, rfl⟩ := queryTree_ok hout
  -- the selected package is in `valid` and still connected to the root there
  obtain ⟨hsub, hconn⟩ := forwardLoop_conn hwf hac hwf.root_lt h (fun _ h => h)
    (by intro v hv; rw [List.mem_singleton.mp hv]; exact ⟨[], rfl⟩)
  have hnodes := (evalForward_nodes g hwf mode steps nodes valid h n).mpr hn
  obtain ⟨s, hs⟩ := hconn n (hsub n hnodes)
  exact findResultNodes_complete hwf hac queryAll nodes valid s n hs hnodes

/-- the set of packages returned by `queryTreePath` is the declarative set -/
theorem query_returns_declarative_set (g : Graph) (hwf : g.WF) (hac : g.Acyclic) (mode : Mode) (steps : Steps)
    (queryAll : Bool) (out : List (List Str × Node)) (hout : queryTree g mode steps queryAll = .ok out) (n : Node) :
    (∃ s, (s, n) ∈ out) ↔ sem g steps g.root n := by
  constructor
  · rintro ⟨s, hs⟩
    obtain ⟨nodes, valid, h, _⟩ := queryTree_ok hout
    exact (result_paths_sound g hwf mode steps queryAll nodes valid h out hout (s, n) hs).1
  · exact result_paths_complete g hwf hac mode steps queryAll out hout n

theorem exGraph_acyclic : exGraph.Acyclic := by
  -- every edge of the example leads to a larger key
  have hlt : ∀ a b, edge exGraph true a b → a < b := by
    rintro a b ⟨e, he, rfl, _⟩
    revert e
    match a with
    | 0 | 1 | 2 => decide
    | n + 3 => simp [exGraph, exChildren]
  have htg : ∀ a b, Relation.TransGen (edge exGraph true) a b → a < b := by
    intro a b t
    induction t with
    | single h => exact hlt _ _ h
    | tail _ h ih => exact Nat.lt_trans ih (hlt _ _ h)
  exact fun a h => Nat.lt_irrefl a (htg a a h)

/-- on the example graph the nested match `a`(3) below `a`(1) is reported: `//a` -/
example (out : List (List Str × Node))
    (h : queryTree exGraph .nullset (.cons .descendant ['a'] .none .nil) false = .ok out) :
    ∃ s, (s, 3) ∈ out :=
  result_paths_complete exGraph exGraph_wf exGraph_acyclic _ _ _ out h 3
    ((evalForward_nodes exGraph exGraph_wf .nullset _ _ _ rfl 3).mp (by decide))

/-- the full wording of the property for reported paths: every reported stack passes through the
steps of the query.  Not asserted: `valid` is a set of nodes, so the result walk may take an edge
between two valid nodes that skips a step (F-C18-2). -/
def result_paths_through_steps_goal : Prop :=
  ∀ (g : Graph), g.WF → g.Acyclic → ∀ (mode : Mode) (steps : Steps) (queryAll : Bool) (out : List (List Str × Node)),
    queryTree g mode steps queryAll = .ok out → ∀ p ∈ out, semPath g steps g.root p.1 p.2

/-- witness graph of F-C18-2: root(0) → b(1) → a2(2), root → a2(2) -/
def bypassChildren : Node → List Edge
  | 0 => [⟨['b'], 1, true⟩, ⟨['a', '2'], 2, true⟩]
  | 1 => [⟨['a', '2'], 2, true⟩]
  | _ => []

def bypassGraph : Graph :=
  { size := 3, root := 0, name := fun i => if i = 1 then ['b'] else if i = 2 then ['a', '2'] else [],
    children := bypassChildren, sval := fun _ _ => [] }

/-- the model reproduces the finding: `b/a2` is reported at the stack `a2`, not `b/a2` -/
theorem bypass_witness :
    (queryTree bypassGraph .nullset (.cons .child ['b'] .none (.cons .child ['a', '2'] .none .nil)) false).toOption
      = some [([['a', '2']], 2)] := by
  decide +kernel

/-- dropping trivial `self` steps and fusing `//x` into `descendant@x`, also inside predicates, does
not change the meaning of a path -/
theorem normalisation_preserves_sem (g : Graph) (s : Steps) (a b : Node) :
    sem g s.normalize a b ↔ sem g s a b :=
  sem_normalize g s a b

theorem normalisation_preserves_holds (g : Graph) (p : Pred) (n : Node) :
    holds g p.normalize n ↔ holds g p n :=
  holds_normalize g p n

theorem splitFirstSlash_append (first tail acc : Str) (h : '/' ∉ first) :
    splitFirstSlash acc (first ++ '/' :: tail) = (acc.reverse ++ first, some tail) := by
  induction first generalizing acc with
  | nil => simp [splitFirstSlash]
  | cons c cs ih =>
    have hc : c ≠ '/' := fun hc => h (by simp [hc])
    have hcs : '/' ∉ cs := fun hm => h (List.mem_cons_of_mem _ hm)
    simp only [List.cons_append, splitFirstSlash, beq_iff_eq, hc, if_false]
    rw [ih (c :: acc) hcs]
    simp

/-- an absolute path is never subject to alias substitution -/
theorem alias_absolute_untouched (aliases : List (Str × Str)) (path : Str) :
    substAlias aliases ('/' :: path) = '/' :: path := by
  simp [substAlias, splitFirstSlash]

/-- in a relative path exactly the text before the first `/` is looked up -/
theorem alias_first_step_only (aliases : List (Str × Str)) (first tail : Str) (h : '/' ∉ first) (hne : first ≠ []) :
    substAlias aliases (first ++ '/' :: tail) = lookupAlias aliases first ++ '/' :: tail := by
  unfold substAlias
  rw [splitFirstSlash_append first tail [] h]
  cases first with
  | nil => exact absurd rfl hne
  | cons c cs => simp

end C18
