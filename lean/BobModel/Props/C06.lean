import BobModel.Proofs.C06OrderRules
/-
C06 — parallel builds are schedule independent and bounded.

Theorems about the scheduler model (Model/Sched.lean, Model/JobSem.lean) for ALL projects (any list of
steps with any dependency lists: DAGs with shared nodes, shared workspaces, ...), ALL job counts, ALL
schedules (`Reach`: any interleaving of task operations, script ends with success or failure, reader
callbacks and child-make token traffic), with and without keep-going.

`n` is the number of tokens that circulate.  `GoodRunners n r0`: the build starts with the internal job
server (`-jN`: n = N tokens), with an external one (`make -j(N+1)`: n = N tokens in the pipe plus the
implicit slot) or with `BoundedSemaphore(n)` (-j1).

The notions of the statements that are not defined here or in the model: `GoodRunners` (`Proofs/C06Tok`), `NewEvents`
(`C06Step`), `Task.runningIn` (`C06Lock`), `JobSem.imp` (`C06Sem`), `PathVid`, `WasOk`, `WrValid` (`C06WasRun`),
`ReadsDeps`, `DepsAtEnd` (`C06OrderVal`).
-/
namespace C06
open Sched JobSem

variable {P : Project} {cfg : Cfg} {n : Nat} {r0 : Runners} {st : Sched.St}

/-- what **tokens_conserved** says about a configuration.
Job server semaphore: `pipe + held + (held by child makes) = n`; the tokens held are exactly the owners
counted by `__acquired` (minus the implicit slot in recursive mode); `__acquired` = tasks inside an
acquire/release bracket + slots handed over to waiters that have not continued yet; the waiter list has one
entry per task suspended in `acquire` and `__waitersCnt` counts those that have not been served; the inner
`asyncio.Semaphore` never has a free value.
BoundedSemaphore: `value + owners + hand-overs in flight = bound`. -/
def TokensConserved (n : Nat) (st : Sched.St) : Prop :=
  match st.runners with
  | .job s =>
    s.pipe + s.tokens + s.envHeld = n ∧
    s.tokens + JobSem.imp s = s.acquired ∧
    s.acquired = holders st + inflight s.sem.waiters ∧
    s.sem.waiters.length = waiting st ∧
    s.waitersCnt + inflight s.sem.waiters = waiting st ∧
    s.sem.value = 0
  | .bounded s b =>
    b = n ∧ s.value + holders st + inflight s.waiters = b ∧ s.waiters.length = waiting st

/-- **tokens_conserved**: the accounting above is an invariant of every schedule. -/
theorem tokens_conserved (hr : GoodRunners n r0) (h : Reach P cfg r0 st) : TokensConserved n st := by
  have hi := TokInv.reach hr h
  have hrun := hi.run
  unfold TokensConserved
  cases hs : st.runners with
  | job s =>
    rw [hs] at hrun
    obtain ⟨⟨h1, h2, h3, h4, _⟩, a2, a3⟩ := hrun
    have := inflight_add_notDone s.sem.waiters
    exact ⟨h1, h2, a2, a3, by omega, h4⟩
  | bounded s b =>
    rw [hs] at hrun
    obtain ⟨h1, h2, h3⟩ := hrun
    exact ⟨h1, h2, h3⟩

/-- **tokens given back**: in every terminal configuration (all tasks finished, whether the build
succeeded or failed) nobody owns a slot, `__tokens` is empty and the pipe holds exactly the initial tokens
once the child makes have returned theirs: none lost, none duplicated. -/
theorem tokens_returned (hr : GoodRunners n r0) (h : Reach P cfg r0 st) (hd : allDone st = true) :
    match st.runners with
    | .job s => s.acquired = 0 ∧ s.tokens = 0 ∧ s.sem.waiters = [] ∧ s.pipe + s.envHeld = n
    | .bounded s b => s.value = b ∧ s.waiters = [] := by
  have hc := tokens_conserved hr h
  obtain ⟨h0, w0⟩ := allDone_holders hd
  unfold TokensConserved at hc
  cases hs : st.runners with
  | job s =>
    rw [hs] at hc
    obtain ⟨c1, c2, c3, c4, c5, c6⟩ := hc
    have hw : s.sem.waiters = [] := List.eq_nil_of_length_eq_zero (by omega)
    have hz : s.acquired = 0 := by rw [c3, h0, hw]; rfl
    have ht : s.tokens = 0 := by omega
    exact ⟨hz, ht, hw, by omega⟩
  | bounded s b =>
    rw [hs] at hc
    obtain ⟨c1, c2, c3⟩ := hc
    have hw : s.waiters = [] := List.eq_nil_of_length_eq_zero (by omega)
    rw [hw, h0] at c2
    exact ⟨by simpa using c2, hw⟩

/-- a task that is about to give its slot back (`release` in `finally` / `__aexit__` / `__yieldJobWhile`)
owns one: `release` never raises in a build. -/
theorem release_never_raises (hr : GoodRunners n r0) (h : Reach P cfg r0 st) {t : Nat} {o : Op} {rest : List Op}
    (hops : (st.task t).ops = o :: rest) (ho : o = .release ∨ ∃ ks rs, o = .yieldRel ks rs) :
    ∃ r', st.runners.release = .ok r' := by
  have hl : ∃ body, Leave o body := by
    rcases ho with rfl | ⟨ks, rs, rfl⟩
    · exact ⟨_, .release⟩
    · exact ⟨_, .yieldRel⟩
  obtain ⟨body, hl⟩ := hl
  obtain ⟨r', e, _⟩ := (TokInv.reach hr h).release_ok hops hl
  exact ⟨r', e⟩

/-- **release without a token raises** (`ValueError`), in every mode. -/
theorem release_without_token_raises (s : JobSem.St) (h : s.acquired = 0) : s.release = .error .valueError :=
  JobSem.release_zero s h

/-- **no_lost_wakeup** (safety form): whenever a task waits for a slot and has not been served, the reader
callback of the job server pipe is registered; and when the event loop then runs it while a token is in
the pipe, at least one more waiter is served. -/
theorem no_lost_wakeup (recursive : Bool) (h : Reach P cfg (.job (JobSem.St.init recursive n)) st) :
    match st.runners with
    | .job s =>
      (0 < s.waitersCnt → s.reader = true) ∧
      (0 < s.waitersCnt → 0 < s.pipe → s.callback.waitersCnt < s.waitersCnt)
    | .bounded _ _ => True := by
  have hi := (TokInv.reach (GoodRunners.job recursive) h).run
  cases hs : st.runners with
  | job s =>
    rw [hs] at hi
    obtain ⟨hsem, _, _⟩ := hi
    refine ⟨fun hw => ?_, fun hw hp => hsem.callback_serves hw hp⟩
    obtain ⟨_, _, h3, _, h5, _⟩ := hsem
    exact h5.2 hw
  | bounded s b => trivial

/-- **running_le_jobs**: in every reachable configuration the number of tasks between "script started" and
"the task noticed the end of its script" is at most the number of job slots (`n`, or `n + 1` under an
external job server whose implicit slot Bob may use). -/
theorem running_le_jobs (hr : GoodRunners n r0) (h : Reach P cfg r0 st) : scriptsRunning st ≤ capacity n st :=
  (TokInv.reach hr h).running_le

/-- every task whose script runs owns a job slot, and the owners are at most the slots -/
theorem owners_le_jobs (hr : GoodRunners n r0) (h : Reach P cfg r0 st) : holders st ≤ capacity n st :=
  (TokInv.reach hr h).holders_le

/-- per workspace at most one task is inside `async with self.__workspaceLock(step)` -/
theorem lock_holders_le_one (hr : GoodRunners n r0) (h : Reach P cfg r0 st) (p : Nat) : lockHolders p st ≤ 1 :=
  (LockInv.reach hr h).holders_le_one p

/-- a script is started, runs and is recorded in `wasRun` only inside the lock of its workspace: every
`run` / `runWait` / `underLock` / `setRun` operation of a continuation is followed by the `unlock` of its workspace -/
theorem scripts_only_under_lock (hr : GoodRunners n r0) (h : Reach P cfg r0 st) :
    ∀ x ∈ st.tasks, underLockOK P x.ops = true :=
  (LockInv.reach hr h).sect

/-- **exclusive** (second half of once_and_exclusive): in no reachable configuration two scripts run in the
same workspace - whatever step objects (sandbox variants, checkoutOnly variants) share it. -/
theorem exclusive (hr : GoodRunners n r0) (h : Reach P cfg r0 st) (p : Nat) :
    tsum (Task.runningIn P p) st ≤ 1 :=
  (LockInv.reach hr h).exclusive p

/-- leaving `async with lock` never raises (`Lock.release()` finds the lock locked) -/
theorem unlock_never_raises (hr : GoodRunners n r0) (h : Reach P cfg r0 st) {t p : Nat} {rest : List Op}
    (hops : (st.task t).ops = .unlock p :: rest) : ∃ l, (st.lockOf p).release = .ok l :=
  (LockInv.reach hr h).unlock_ok hops

/-- the waiter list of a workspace lock has one entry per task suspended in `lock.acquire()`; at most one of
them has been woken, and only while the lock is free -/
theorem lock_accounting (hr : GoodRunners n r0) (h : Reach P cfg r0 st) (p : Nat) :
    ((st.lockOf p).locked = true → lockHolders p st = 1 ∧ inflight (st.lockOf p).waiters = 0) ∧
    ((st.lockOf p).locked = false → lockHolders p st = 0 ∧ inflight (st.lockOf p).waiters ≤ 1) ∧
    (st.lockOf p).waiters.length = tsum (Task.waitingLock P p) st :=
  let a := (LockInv.reach hr h).at_ p
  ⟨a.locked, a.free, a.waiters⟩

/-- the scheduler's own bookkeeping never raises: no task ever carries an internal exception (`ValueError` /
`IndexError` of the semaphore, `RuntimeError` of a lock); only script failures (`BuildError`) and their
propagation (`CancelBuildException`) occur. -/
theorem no_internal_error (hr : GoodRunners n r0) (h : Reach P cfg r0 st) : ∀ x ∈ st.tasks, x.err ≠ some .internal :=
  (ErrInv.reach hr h).noInternal

/-- **failure_confined**, without keep-going: once a build error has been recorded `running` is cleared and
stays cleared, so that from then on every `if not self.__running: raise CancelBuildException` fails (for the check in
`_cookTask` / `__yieldJobWhile` this is `check_fails_when_stopped`). -/
theorem failure_stops_build (hr : GoodRunners n r0) (h : Reach P cfg r0 st) (hk : cfg.keepGoing = false)
    (he : 0 < st.errors) : st.running = false :=
  (ErrInv.reach hr h).stop hk he

/-- a task that reaches a `running` check while `running` is cleared raises `CancelBuildException` -/
theorem check_fails_when_stopped {t : Nat} {rest : List Op} (hrun : st.running = false)
    (hops : (st.task t).ops = .checkRunning :: rest) :
    stepTask P cfg st t = some (st.setTask t (raise (st.task t) .cancel rest)) := by
  simp [stepTask, hops, hrun]

/-- **failure_confined**, with keep-going: a failure never clears `running`. -/
theorem keep_going_never_stops (hr : GoodRunners n r0) (h : Reach P cfg r0 st) (hk : cfg.keepGoing = true) :
    st.running = true :=
  (ErrInv.reach hr h).keep hk

/-- a `start` event enters the history only through the `run` operation at the head of the stepping task
(it is then the only new event), an `end` event only through a `runWait` whose script has ended, a `setRun`
event only through `setRun`; every other step appends events that concern neither. -/
theorem events_of_a_step {st' : Sched.St} {t : Nat} (h : stepTask P cfg st t = some st') :
    ∃ evs, st'.trace = st.trace ++ evs ∧ NewEvents P st t evs :=
  stepTask_trace h

/-- under `PathVid` (a workspace belongs to one variant, C16; `Sched.PathVid`) `_wasAlreadyRun` never prunes an
entry of the table and answers exactly "this step was run in this invocation"; the filter at the top of `_cook`
leaves exactly the valid steps that have not been run. -/
theorem wasrun_lookup_exact {wr : WasRun} (hpv : PathVid P) (hv : WrValid P wr) (s : Nat) (co : Bool) :
    (wasAlreadyRun P wr s co).2 = wr ∧ ((wasAlreadyRun P wr s co).1 = true ↔ WasOk P wr s co) :=
  wasAlreadyRun_spec hpv hv s co

theorem cook_filter_exact {wr : WasRun} (hpv : PathVid P) (hv : WrValid P wr) (co : Bool) (steps : List Nat) :
    (filterTodo P co steps wr).2 = wr ∧
    (∀ d ∈ steps, (P.info d).valid = true → WasOk P wr d co ∨ d ∈ (filterTodo P co steps wr).1) ∧
    (∀ d ∈ (filterTodo P co steps wr).1, d ∈ steps ∧ (P.info d).valid = true) :=
  filterTodo_spec hpv hv co steps

/-- **deps_first**: a script starts only after the scripts of all valid dependencies of its step ended successfully -/
def deps_first_goal : Prop :=
  ∀ (P : Project) (cfg : Cfg) (n : Nat) (r0 : Runners) (st : Sched.St), PathVid P → GoodRunners n r0 →
    Reach P cfg r0 st → depsFirst P st = true

/-- **deps_first** for parallel builds (`hpar : cfg.par = true`, jobs > 1), every project, job server mode and
schedule: the instance of `deps_first` below for the parallel scheduler. -/
theorem deps_first_partial (P : Project) (cfg : Cfg) (n : Nat) (r0 : Runners) (st : Sched.St) (hpv : PathVid P)
    (hpar : cfg.par = true) (hr : GoodRunners n r0) (h : Reach P cfg r0 st) : depsFirst P st = true :=
  Full.deps_first_all hpv hr h

/-- **deps_first**: every project, configuration (parallel and sequential `-j1` scheduler), job server mode and
schedule.  Invariant `Sched.Full.DepsInv` over `Reach` (head of `Proofs/C06OrderDeps.lean`): along every continuation
each operation that leads to the script of `s` is either reached with all valid dependencies of `s` finished
successfully, or is preceded by an operation that guarantees this when it completes. -/
theorem deps_first : deps_first_goal := by
  intro P cfg n r0 st hpv hr h
  exact Full.deps_first_all hpv hr h

/-- **once** (first half of once_and_exclusive): per workspace, starts and ends alternate and a workspace is
started again only after a failed execution (possible when step objects with different sandboxes share it) -/
def once_goal : Prop :=
  ∀ (P : Project) (cfg : Cfg) (n : Nat) (r0 : Runners) (st : Sched.St), PathVid P → GoodRunners n r0 →
    Reach P cfg r0 st → onceLegal P st = true

/-- **once** holds for every project, configuration, job count and schedule.  Invariant (`Sched.OnceInv`, by
induction over `Reach`): the history says "running" for a workspace iff a task is suspended in `runWait` there
(inside the workspace lock); "ok" implies that `wasRun` records a real run or that the task that ran the script
is about to record it, still inside the lock; a task that will start a script has checked under the lock that
`wasRun` has no real run, and lock exclusivity (`LockInv`) keeps that true until it starts. -/
theorem once : once_goal := by
  intro P cfg n r0 st hpv hr h
  exact List.all_eq_true.mpr fun p _ => (OnceInv.reach hpv hr h).legal p

/-- **schedule_independent**: whenever a script ended successfully its workspace holds `value` = the result
of the sequential dataflow, for every schedule (`hval`: the dataflow equation, stated locally; equal
workspaces have equal inputs and scripts) -/
def schedule_independent_goal : Prop :=
  ∀ (P : Project) (cfg : Cfg) (n : Nat) (r0 : Runners) (st : Sched.St) (value : Nat → Nat), PathVid P →
    (∀ s, value s = P.run s ((P.info s).bidDeps.map value)) →
    (∀ s s', (P.info s).path = (P.info s').path → value s = value s') →
    GoodRunners n r0 → Reach P cfg r0 st →
    ∀ t s, Ev.fin t s true ∈ st.trace → st.diskAt (P.info s).path = value s

/-- **schedule_independent** from `hrd` (`Sched.ReadsDeps`: what a script reads, `bidDeps`, is among the valid
dependencies of its step, as in Bob's `getAllDepSteps`; without it the statement is false, see
`schedule_independent_refuted` below) and `hdf` (`Sched.DepsAtEnd` in every reachable configuration, the state form of
deps_first: a task whose script is running has the scripts of all valid dependencies of its step finished successfully;
it holds in every mode, `Sched.Full.depsAtEnd_all`).  The proof uses **once**: after a successful end a workspace is
never started again, so a failing script never overwrites a good result. -/
theorem schedule_independent_partial (P : Project) (cfg : Cfg) (n : Nat) (r0 : Runners) (st : Sched.St)
    (value : Nat → Nat) (hpv : PathVid P) (hval : ∀ s, value s = P.run s ((P.info s).bidDeps.map value))
    (hpath : ∀ s s', (P.info s).path = (P.info s').path → value s = value s')
    (hrd : ReadsDeps P) (hdf : ∀ st', Reach P cfg r0 st' → DepsAtEnd P st')
    (hr : GoodRunners n r0) (h : Reach P cfg r0 st) :
    ∀ t s, Ev.fin t s true ∈ st.trace → st.diskAt (P.info s).path = value s :=
  ValInv.reach hpv hval hpath hrd hr h

/-- **schedule_independent** under `ReadsDeps` for parallel builds (`hpar : cfg.par = true`): the instance of
`schedule_independent_fixed` below for the parallel scheduler. -/
theorem schedule_independent_partial_par (P : Project) (cfg : Cfg) (n : Nat) (r0 : Runners) (st : Sched.St)
    (value : Nat → Nat) (hpv : PathVid P) (hval : ∀ s, value s = P.run s ((P.info s).bidDeps.map value))
    (hpath : ∀ s s', (P.info s).path = (P.info s').path → value s = value s')
    (hrd : ReadsDeps P) (hpar : cfg.par = true) (hr : GoodRunners n r0) (h : Reach P cfg r0 st) :
    ∀ t s, Ev.fin t s true ∈ st.trace → st.diskAt (P.info s).path = value s :=
  ValInv.reach hpv hval hpath hrd hr h

/-- **schedule_independent** with the hypothesis that `schedule_independent_goal` lacks (`Sched.ReadsDeps`: what a
script reads, `bidDeps` = valid arguments and tools, is among the valid dependencies of its step, as in Bob's
`getAllDepSteps`).  Without it the statement is false: `schedule_independent_refuted` below. -/
def schedule_independent_fixed_goal : Prop :=
  ∀ (P : Project) (cfg : Cfg) (n : Nat) (r0 : Runners) (st : Sched.St) (value : Nat → Nat), PathVid P → ReadsDeps P →
    (∀ s, value s = P.run s ((P.info s).bidDeps.map value)) →
    (∀ s s', (P.info s).path = (P.info s').path → value s = value s') →
    GoodRunners n r0 → Reach P cfg r0 st →
    ∀ t s, Ev.fin t s true ∈ st.trace → st.diskAt (P.info s).path = value s

/-- **schedule_independent** under `ReadsDeps`, all modes: by `deps_first` in its state form
(`Sched.Full.depsAtEnd_all`), **once** and the workspace locks (`Sched.ValInv`). -/
theorem schedule_independent_fixed : schedule_independent_fixed_goal := by
  intro P cfg n r0 st value hpv hrd hval hpath hr h
  exact ValInv.reach hpv hval hpath hrd hr h

/-- `d` is `s` or a valid step below it (dependencies of invalid steps are never cooked) -/
inductive Below (P : Project) : Nat → Nat → Prop
  | refl (s : Nat) : Below P s s
  | dep {s d e : Nat} : (P.info s).valid = true → d ∈ (P.info s).deps → Below P d e → Below P s e

/-- DESIGN theorem 5c: with keep-going every step below a target none of whose (transitive) dependencies
failed has been executed when the build ends.  Not a theorem: refuted by implementation traces (histogram
`keep-going-leaves-independent-step-unbuilt`).  A package step asks for its build-id before it cooks its dependencies,
the build-id pre-pass checks out all sources below it, and a failing checkout there ends the whole root although
sub-dependencies that are independent of the failure could be built. -/
def keepgoing_complete_goal : Prop :=
  ∀ (P : Project) (cfg : Cfg) (n : Nat) (r0 : Runners) (st : Sched.St), GoodRunners n r0 → cfg.keepGoing = true →
    cfg.co0 = false → Reach P cfg r0 st → allDone st = true →
    ∀ tg ∈ cfg.targets, ∀ s, Below P tg s → (P.info s).valid = true →
      (∀ d t', Below P s d → Ev.fin t' d false ∉ st.trace) → finishedOk P st.trace (P.info s).path = true

/-! a diamond with a shared leaf and two jobs: its runners are `GoodRunners` and its initial configuration is reachable.
(`exProject` does not satisfy `PathVid`, see there; the examples of the ordering theorems use `exGood`.) -/

def exProject : Project :=
  { steps := [⟨.package, 0, 10, none, true, [], []⟩,           -- 0: shared leaf
              ⟨.package, 1, 11, none, true, [0], [0]⟩,          -- 1: left
              ⟨.package, 2, 12, none, true, [0], [0]⟩,          -- 2: right
              ⟨.package, 3, 13, none, true, [1, 2], [1, 2]⟩],   -- 3: root
    run := fun s ins => s + ins.sum, junk := fun _ => 0 }

def exCfg : Cfg := { par := true, keepGoing := false, co0 := true, targets := [3] }

example : GoodRunners 2 (.job (JobSem.St.init false 2)) := GoodRunners.job false
example : Reach exProject exCfg (.job (JobSem.St.init false 2)) (init exCfg (.job (JobSem.St.init false 2))) := Reach.init

/-! non-vacuity of **once**: a two-step chain of checkout steps built to the end of the second script.  Workspace 0 has
variant id 0, and `run` yields 7 for every step but 1, because `PathVid` and the hypotheses on `value` also speak of the
step numbers beyond the list, whose `info` is the default step (invalid, workspace 0, variant id 0). -/

def exGood : Project :=
  { steps := [⟨.checkout, 0, 0, none, true, [], []⟩, ⟨.checkout, 1, 11, none, true, [0], [0]⟩],
    run := fun s ins => ins.sum + (if s = 1 then 5 else 7), junk := fun _ => 0 }

def exCfg1 : Cfg := { par := true, keepGoing := false, co0 := false, targets := [1] }

def exR2 : Runners := .bounded { value := 2, waiters := [] } 2

/-- dispatcher; top task of 1; cook task of 1 asks for 0; cook task of 0 runs its script to the end and records it;
cook task of 1 runs its script to the end -/
def exGoodSchedule : List Choice :=
  [.task 0, .task 1, .task 1, .task 1, .task 1, .task 1, .task 2, .task 2, .task 2, .task 2, .task 2,
   .task 3, .task 3, .task 3, .task 3, .task 3, .task 3, .finish 3 true, .task 3, .task 3, .task 3, .task 3, .task 3,
   .task 2, .task 2, .task 2, .task 2, .task 2, .task 2, .finish 2 true, .task 2]

def exGoodSt : Sched.St := exec exGood exCfg1 exGoodSchedule (init exCfg1 exR2)

theorem exGood_pathVid : PathVid exGood := by
  intro s s' hv hp
  rcases s with _ | _ | s <;> rcases s' with _ | _ | s' <;> simp_all [exGood, Project.info, List.getD, default]

/-- a reachable configuration whose history has two script starts and two successful ends in two workspaces, for
which `once` gives `onceLegal` -/
example : Reach exGood exCfg1 exR2 exGoodSt ∧ Ev.start 3 0 ∈ exGoodSt.trace ∧ Ev.fin 3 0 true ∈ exGoodSt.trace ∧
    Ev.start 2 1 ∈ exGoodSt.trace ∧ Ev.fin 2 1 true ∈ exGoodSt.trace ∧ onceLegal exGood exGoodSt = true :=
  ⟨reach_exec Reach.init _, by decide +kernel, by decide +kernel, by decide +kernel, by decide +kernel,
   once exGood exCfg1 2 exR2 exGoodSt exGood_pathVid GoodRunners.bounded (reach_exec Reach.init _)⟩

/-! **schedule_independent** as stated is FALSE of the model: nothing in the statement ties what a script reads
(`bidDeps`: valid arguments and tools) to what is cooked before it (`deps`).  Witness: step 1 reads the workspace
of step 0 but does not depend on it; building 1 alone runs its script on the empty workspace 0.  (In Bob
`getAllDepSteps()` contains the arguments and tools, so the witness is not a Bob project: the missing hypothesis
is `∀ s d, d ∈ (P.info s).bidDeps → d ∈ (P.info s).deps ∧ (P.info d).valid`.) -/

def exBad : Project :=
  { steps := [⟨.checkout, 0, 0, none, true, [], []⟩, ⟨.checkout, 1, 11, none, true, [], [0]⟩],
    run := fun s ins => ins.sum + (if s = 1 then 5 else 7), junk := fun _ => 0 }

def exBadValue (s : Nat) : Nat := if s = 1 then 12 else 7

/-- dispatcher; top task of 1; cook task of 1 runs the script of 1 to the end -/
def exBadSchedule : List Choice :=
  [.task 0, .task 1, .task 1, .task 1, .task 1, .task 1, .task 2, .task 2, .task 2, .task 2, .task 2, .task 2,
   .finish 2 true, .task 2]

def exBadSt : Sched.St := exec exBad exCfg1 exBadSchedule (init exCfg1 exR2)

theorem exBad_pathVid : PathVid exBad := by
  intro s s' hv hp
  rcases s with _ | _ | s <;> rcases s' with _ | _ | s' <;> simp_all [exBad, Project.info, List.getD, default]

theorem exBad_value (s : Nat) : exBadValue s = exBad.run s ((exBad.info s).bidDeps.map exBadValue) := by
  rcases s with _ | _ | s <;> simp [exBadValue, exBad, Project.info, List.getD, default]

theorem exBad_consistent (s s' : Nat) (h : (exBad.info s).path = (exBad.info s').path) : exBadValue s = exBadValue s' := by
  rcases s with _ | _ | s <;> rcases s' with _ | _ | s' <;> simp_all [exBadValue, exBad, Project.info, List.getD, default]

/-- `exBadValue` is also the sequential dataflow of the chain `exGood`, where step 1 reads and depends on step 0 -/
theorem exGood_value (s : Nat) : exBadValue s = exGood.run s ((exGood.info s).bidDeps.map exBadValue) := by
  rcases s with _ | _ | s <;> simp [exBadValue, exGood, Project.info, List.getD, default]

theorem exGood_consistent (s s' : Nat) (h : (exGood.info s).path = (exGood.info s').path) : exBadValue s = exBadValue s' := by
  rcases s with _ | _ | s <;> rcases s' with _ | _ | s' <;> simp_all [exBadValue, exGood, Project.info, List.getD, default]

theorem exGood_readsDeps : ReadsDeps exGood := by
  intro s d hd
  rcases s with _ | _ | s <;> simp_all [exGood, Project.info, List.getD, default]

/-- non-vacuity of `deps_first_partial` and `schedule_independent_partial_par` on the chain `exGood` (step 1 reads
and depends on step 0): the history has the start of 1 after the successful end of 0, and workspace 1 holds the
sequential value 12 = 5 + 7 -/
example : depsFirst exGood exGoodSt = true ∧ exGoodSt.diskAt (exGood.info 1).path = 12 := by
  have hr : Reach exGood exCfg1 exR2 exGoodSt := reach_exec Reach.init _
  exact ⟨deps_first_partial exGood exCfg1 2 exR2 exGoodSt exGood_pathVid rfl GoodRunners.bounded hr,
    schedule_independent_partial_par exGood exCfg1 2 exR2 exGoodSt exBadValue exGood_pathVid exGood_value
      exGood_consistent exGood_readsDeps rfl GoodRunners.bounded hr 2 1 (by decide +kernel)⟩

/-- non-vacuity of `deps_first` and `schedule_independent_fixed` in the sequential mode (`par := false`: the
dispatcher and every `_cook` spawn one task at a time and wait for it): the same chain built to the end -/
def exCfgSeq : Cfg := { par := false, keepGoing := false, co0 := false, targets := [1] }

def exSeqSchedule : List Choice :=
  [.task 0, .task 0, .task 1, .task 1, .task 1, .task 1, .task 1, .task 1,
   .task 2, .task 2, .task 2, .task 2, .task 2, .task 2,
   .task 3, .task 3, .task 3, .task 3, .task 3, .task 3, .finish 3 true, .task 3, .task 3, .task 3, .task 3, .task 3,
   .task 2, .task 2, .task 2, .task 2, .task 2, .task 2, .task 2, .task 2, .finish 2 true, .task 2]

def exSeqSt : Sched.St := exec exGood exCfgSeq exSeqSchedule (init exCfgSeq exR2)

example : Ev.start 2 1 ∈ exSeqSt.trace ∧ depsFirst exGood exSeqSt = true ∧ exSeqSt.diskAt (exGood.info 1).path = 12 := by
  have hr : Reach exGood exCfgSeq exR2 exSeqSt := reach_exec Reach.init _
  exact ⟨by decide +kernel, deps_first exGood exCfgSeq 2 exR2 exSeqSt exGood_pathVid GoodRunners.bounded hr,
    schedule_independent_fixed exGood exCfgSeq 2 exR2 exSeqSt exBadValue exGood_pathVid exGood_readsDeps exGood_value
      exGood_consistent GoodRunners.bounded hr 2 1 (by decide +kernel)⟩

theorem schedule_independent_refuted : ¬ schedule_independent_goal := by
  intro h
  have h1 := h exBad exCfg1 2 exR2 exBadSt exBadValue exBad_pathVid exBad_value exBad_consistent GoodRunners.bounded
    (reach_exec Reach.init _) 2 1 (by decide)
  exact absurd h1 (by decide)

end C06
