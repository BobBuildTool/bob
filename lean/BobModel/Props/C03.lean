import BobModel.Proofs.C02Inj
import BobModel.Generated.ConstsC03
/-
C03 — package ids are pure, location independent and long-term stable.

Shares `Model/Digest.lean` with C02.  The model functions `variantId` / `buildId` have no path, time,
directory order, hash seed or configuration parameter: whatever they compute is a function of the step
description, for `buildId` together with the platform tag (`ids_unique` lifts this to whole graphs: the recipe content determines every id).  That the
*implementation* has no such dependency either is the job of the correspondence run (harness/props/c03.py).
`HashLen` and `NoColl` are defined in `Proofs/C02Inj.lean`.
-/
namespace C03
open Digest

/-- `StepIR.getDigestCoro` (intermediate.py) and `CoreStep.getDigest` (input.py) use the same formats, pad
and empty-script marker, and both agree with what the shared model was generated from -/
theorem coro_consts_agree :
    Consts.C03.fmts = Consts.C02.fmts ∧ Consts.C03.pad = Consts.C02.pad ∧
    Consts.C03.emptyScript = Consts.C02.emptyScript ∧
    Consts.C03.stepFmts = Consts.C02.fmts ∧ Consts.C03.stepPad = Consts.C02.pad ∧
    Consts.C03.stepEmptyScript = Consts.C02.emptyScript ∧
    Consts.C03.sliceLen = Consts.C02.sliceLen ∧ Consts.C03.hostFrom = Consts.C02.hostFrom ∧
    Consts.C03.defaultPlatform = [] ∧ Consts.C03.defaultRelax = false := by
  decide

theorem sort_tools_perm {l l' : List Tool} (hp : l'.Perm l) (nd : (l.map (·.name)).Nodup) :
    sortBy toolLe l' = sortBy toolLe l :=
  sortBy_key_perm Tool.name hp nd

theorem sort_env_perm {l l' : List (Str × Str)} (hp : l'.Perm l) (nd : (l.map (·.1)).Nodup) :
    sortBy kvLe l' = sortBy kvLe l :=
  sortBy_key_perm Prod.fst hp nd

/-- **permuting the tool map and the environment (any dict iteration order, hash seed, parse order) leaves
both encodings unchanged**, for the Variant-Id and the Build-Id encoder alike.  Keys are distinct as they
are dictionary keys. -/
theorem enc_perm_invariant (platform : Bytes) (relax : Bool) (d : StepDesc) (tools' : List Tool) (env' : List (Str × Str))
    (ht : tools'.Perm d.tools) (he : env'.Perm d.env)
    (ndt : (d.tools.map (·.name)).Nodup) (nde : (d.env.map (·.1)).Nodup) :
    encRecipeG platform relax { d with tools := tools', env := env' } = encRecipeG platform relax d ∧
    encHost { d with tools := tools', env := env' } = encHost d := by
  constructor
  · simp only [encRecipeG]
    rw [sort_tools_perm ht ndt, sort_env_perm he nde, ht.length_eq, he.length_eq]
  · rfl

theorem vid_perm_invariant (H : Bytes → Bytes) (d : StepDesc) (tools' : List Tool) (env' : List (Str × Str))
    (ht : tools'.Perm d.tools) (he : env'.Perm d.env)
    (ndt : (d.tools.map (·.name)).Nodup) (nde : (d.env.map (·.1)).Nodup) :
    variantId H { d with tools := tools', env := env' } = variantId H d := by
  have ⟨a, b⟩ := enc_perm_invariant [] false d tools' env' ht he ndt nde
  unfold variantId encRecipe
  rw [a, b]

theorem bid_perm_invariant (H : Bytes → Bytes) (platform : Bytes) (d : StepDesc) (tools' : List Tool) (env' : List (Str × Str))
    (ht : tools'.Perm d.tools) (he : env'.Perm d.env)
    (ndt : (d.tools.map (·.name)).Nodup) (nde : (d.env.map (·.1)).Nodup) :
    buildId H platform { d with tools := tools', env := env' } = buildId H platform d := by
  have ⟨a, b⟩ := enc_perm_invariant platform true d tools' env' ht he ndt nde
  unfold buildId
  rw [a, b]

example : variantId id { script := none, tools := [⟨['b'], [], [], [], false⟩, ⟨['a'], [1], ['p'], [], false⟩],
                         env := [(['Y'], ['2']), (['X'], ['1'])], args := [], hostPrefix := [] }
        = variantId id { script := none, tools := [⟨['a'], [1], ['p'], [], false⟩, ⟨['b'], [], [], [], false⟩],
                         env := [(['X'], ['1']), (['Y'], ['2'])], args := [], hostPrefix := [] } := by
  decide +kernel

/-- the recipe part never sees the sandbox: the 20 zero bytes stand where the sandbox digest used to be -/
theorem encRecipe_sandbox_free (platform : Bytes) (relax : Bool) (d : StepDesc) (x : Bytes) :
    encRecipeG platform relax { d with hostPrefix := x } = encRecipeG platform relax d := rfl

/-- **the recipe half of a Variant-Id does not depend on the sandbox at all**, and the whole id depends on it
only for steps that are fingerprinted inside an enabled sandbox -/
theorem vid_sandbox_invariant (H : Bytes → Bytes) (hl : HashLen H) (d : StepDesc) (f e f' e' : Bool) (sb sb' : Bytes) :
    sliceRecipes (variantId H (withSandbox f e sb d)) = sliceRecipes (variantId H (withSandbox f' e' sb' d)) ∧
    ((f && e) = false → variantId H (withSandbox f e sb d) = variantId H (withSandbox f e sb' d)) := by
  constructor
  · rw [sliceRecipes_variantId hl, sliceRecipes_variantId hl]
    rfl
  · intro h
    simp [withSandbox, h]

/-- … and it does depend on it there (fingerprinted, enabled, different sandbox ids, no collision) -/
theorem vid_sandbox_dependent (H : Bytes → Bytes) (hl : HashLen H) (d : StepDesc) (sb sb' : Bytes) (hne : sb ≠ sb')
    (c : NoColl H (encHost (withSandbox true true sb d)) (encHost (withSandbox true true sb' d))) :
    variantId H (withSandbox true true sb d) ≠ variantId H (withSandbox true true sb' d) :=
  fun h => hne (List.append_cancel_right (digest_inj hl (fun _ => rfl) c h).2)

/-- **with `relaxTools` the Build-Id ignores provider, path and libraries of weakly used tools**: any change
`f` of the tool list that keeps names and weakness and leaves strong tools alone keeps the id -/
theorem bid_weak_tool_invariant (H : Bytes → Bytes) (platform : Bytes) (d : StepDesc) (f : Tool → Tool)
    (hf : ∀ t, (f t).name = t.name ∧ (f t).weak = t.weak ∧ (t.weak = false → f t = t)) :
    buildId H platform { d with tools := d.tools.map f } = buildId H platform d := by
  have e1 : encRecipeG platform true { d with tools := d.tools.map f } = encRecipeG platform true d := by
    simp only [encRecipeG, List.length_map]
    rw [sortBy_map toolLe toolLe f (fun a b => by simp [toolLe, (hf a).1, (hf b).1])]
    rw [List.flatMap_map]
    have : ∀ t, encTool true (f t) = encTool true t := by
      intro t
      cases hw : t.weak with
      | false => rw [(hf t).2.2 hw]
      | true => simp [encTool, (hf t).1, (hf t).2.1, hw]
    simp only [this]
  unfold buildId
  rw [e1]
  rfl

/-- the Variant-Id does *not* ignore them (same example, different results), the Build-Id does -/
example :
    let d : StepDesc := { script := none, tools := [⟨['t'], List.replicate 20 1, ['p'], [], true⟩], env := [], args := [], hostPrefix := [] }
    let d' : StepDesc := { script := none, tools := [⟨['t'], List.replicate 20 2, ['q'], [['l']], true⟩], env := [], args := [], hostPrefix := [] }
    variantId id d ≠ variantId id d' ∧ buildId id [119] d = buildId id [119] d' := by
  decide +kernel

theorem desc_congr (n : Node) (ids ids' : Nat → Bytes) (h : ∀ r ∈ n.refs, ids r = ids' r) :
    n.desc ids = n.desc ids' := by
  simp only [Node.refs, List.mem_append, List.mem_map, Option.mem_toList] at h
  have ha : n.args.map ids = n.args.map ids' := List.map_congr_left fun r hr => h r (Or.inl (Or.inl hr))
  have ht : (n.tools.map fun t => (⟨t.name, ids t.ref, t.path, t.libs, false⟩ : Tool))
          = (n.tools.map fun t => (⟨t.name, ids' t.ref, t.path, t.libs, false⟩ : Tool)) :=
    List.map_congr_left fun t ht => by rw [h t.ref (Or.inl (Or.inr ⟨t, ht, rfl⟩))]
  rw [Node.desc, Node.desc, ha, ht]
  cases hs : n.sandbox with
  | none => rfl
  | some r => simp only [h r (Or.inr hs)]

/-- **ids are functions of the recipe content only**: in a step graph whose references point to earlier
steps (a DAG), the stored ids are uniquely determined by the nodes — no matter in which order, how often
or from where the steps were reached and computed. -/
theorem ids_unique (H : Bytes → Bytes) (g : Nat → Node) (ids ids' : Nat → Bytes)
    (dag : ∀ i, ∀ r ∈ (g i).refs, r < i)
    (hc : Consistent H g ids) (hc' : Consistent H g ids') : ∀ i, ids i = ids' i := by
  intro i
  induction i using Nat.strongRecOn with
  | _ i ih =>
    rw [hc i, hc' i, desc_congr (g i) ids ids' (fun r hr => ih r (dag i r hr))]

end C03
