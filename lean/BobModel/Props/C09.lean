import BobModel.Proofs.C09Steps
/-
C09 — archive uploads are atomic and never overwrite.  Property theorems about the model
`Model/ArchiveFS.lean` of the file archive back end of pym/bob/archive.py.

Every theorem about a run quantifies over an arbitrary program assignment `prog : Pid → Params` (every natural
number is a process: any number of uploaders, cache mirrors, metadata uploaders and readers with
arbitrary payloads) and an arbitrary schedule `Sched = List (Pid × Choice)` where each entry lets one
process execute one file system operation, lets that operation fail with an I/O error, or kills the
process.  The inductive invariant is in Proofs/C09Inv.lean, what it gives for one step in Proofs/C09Steps.lean,
which also defines `gaveUp`.
-/
namespace C09
open ArchiveFS

/-- the state after `sched`, starting from an empty archive -/
def reach (prog : Pid → Params) (sched : Sched) : State := run prog (init prog) sched

/-- whenever the artifact name is bound, the inode behind it has been closed by its writer, the writer
is a package uploader or a cache mirror that got through `link()`, and the content is exactly what
that one process handed to `write` — all of it, nothing of anybody else. -/
theorem artifact_complete_written (prog : Pid → Params) (sched : Sched) (i : Ino)
    (h : (reach prog sched).names .art = some i) :
    let s := reach prog sched
    let o := (s.inodes i).owner
    (s.inodes i).closed = true ∧
    ((prog o).kind = .package ∨ (prog o).kind = .mirror) ∧
    (s.inodes i).chunks = written (prog o) ∧
    (s.procs o).linked = true := by
  intro s o
  have inv : Inv prog s := reachable_inv prog sched
  have hlt := inv.names_lt _ _ h
  have hown := inv.own i hlt
  have hl : (s.procs o).linked = true ∧ Name.art = dest (prog o).kind := by
    rcases inv.names_own _ _ h with h1 | h1
    · cases h1
    · exact ⟨h1.2, h1.1⟩
  have hlk := inv.linked o hl.1
  have hino : (s.procs o).ino = i := hown.2
  rw [hino] at hlk
  refine ⟨hlk.2.2.2, ?_, hlk.2.2.1, hl.1⟩
  have hr := inv.readers o
  cases hk : (prog o).kind with
  | package => exact Or.inl rfl
  | mirror => exact Or.inr rfl
  | md x => rw [hk] at hl; simp [dest] at hl
  | reader => have := (hr hk).1; rw [hlk.1] at this; cases this

/-- with the drain loop that `_downloadPackage` has in the current source (`mirrorDrains`, regenerated
from the source on every run) a cache mirror hands the complete upstream file to `write` -/
theorem written_is_payload (pr : Params) : written pr = pr.payload := by
  unfold written
  split <;> simp [Consts.C09.mirrorDrains]

/-- **artifact_complete** (full statement): under every schedule, kill point and fault choice and for any
number of processes, if the artifact name is bound then its inode is closed and its content is the
complete payload of one package uploader or cache mirror (for a mirror: the complete upstream file) -/
theorem artifact_complete (prog : Pid → Params) (sched : Sched) (i : Ino)
    (h : (reach prog sched).names .art = some i) :
    ((reach prog sched).inodes i).closed = true ∧
    ∃ p, ((prog p).kind = .package ∨ (prog p).kind = .mirror) ∧
      ((reach prog sched).inodes i).chunks = (prog p).payload ∧
      ((reach prog sched).procs p).linked = true := by
  have h1 := artifact_complete_written prog sched i h
  exact ⟨h1.1, _, h1.2.1, by rw [h1.2.2.1, written_is_payload], h1.2.2.2⟩

/-- "exactly one": with pairwise different payloads the writer is unique -/
theorem artifact_complete_unique (prog : Pid → Params) (sched : Sched) (i : Ino)
    (hinj : ∀ p q, (prog p).payload = (prog q).payload → p = q)
    (h : (reach prog sched).names .art = some i) :
    ∃ p, ((reach prog sched).inodes i).chunks = (prog p).payload ∧
      ∀ q, ((reach prog sched).inodes i).chunks = (prog q).payload → q = p := by
  obtain ⟨_, p, _, hp, _⟩ := artifact_complete prog sched i h
  exact ⟨p, hp, fun q hq => hinj _ _ (hq.symm.trans hp)⟩

/-- once the artifact name is bound it stays bound to the same inode, and that inode (content, closed
flag, mode, owner) never changes, whatever anybody does afterwards -/
theorem artifact_immutable (prog : Pid → Params) (s1 s2 : Sched) (i : Ino)
    (h : (reach prog s1).names .art = some i) :
    (reach prog (s1 ++ s2)).names .art = some i ∧
    (reach prog (s1 ++ s2)).inodes i = (reach prog s1).inodes i := by
  unfold reach at *
  rw [run_append]
  exact run_art_stable (reachable_inv prog s1) s2 i h

/-- a reader holds a descriptor of the inode that is (still) bound to the artifact name and has read
a prefix of its content; a reader that reached end of file has read exactly the complete data of one
writer -/
theorem reader_reads_artifact (prog : Pid → Params) (sched : Sched) (p : Pid) :
    let s := reach prog sched
    (∀ pos, (s.procs p).pc = .rRead pos →
      s.names .art = some (s.procs p).rino ∧
      (s.procs p).acc = ((s.inodes (s.procs p).rino).chunks).take pos) ∧
    ((s.procs p).pc = .done .read →
      s.names .art = some (s.procs p).rino ∧
      (s.procs p).acc = (prog (s.inodes (s.procs p).rino).owner).payload) := by
  intro s
  have inv : Inv prog s := reachable_inv prog sched
  have hr := inv.reader p
  unfold readerOk at hr
  constructor
  · intro pos hpc
    rw [hpc] at hr
    exact hr
  · intro hpc
    rw [hpc] at hr
    refine ⟨hr.1, ?_⟩
    rw [hr.2, (artifact_complete_written prog sched _ hr.1).2.2.1, written_is_payload]

/-- everywhere before `link()` and on the whole failure edge the process has not published -/
theorem unpublished_before_link (prog : Pid → Params) (sched : Sched) (p : Pid)
    (hpc : ∀ r, ((reach prog sched).procs p).pc ≠ .done r)
    (hpc' : ((reach prog sched).procs p).pc ≠ .unlink .linked) :
    ((reach prog sched).procs p).linked = false := by
  have inv : Inv prog (reach prog sched) := reachable_inv prog sched
  cases hl : ((reach prog sched).procs p).linked with
  | false => rfl
  | true =>
    have h1 := (inv.linked p hl).2.1
    generalize ((reach prog sched).procs p).pc = pc at *
    cases pc <;> simp_all

/-- a process that is on the failure edge of `__exit__`, has lost the race, has returned without
publishing or has been killed before its `link()` took effect (`linked = false`) never binds the
artifact name (or any destination name), now or later: of all names bound to an inode it created,
only its temporary name may remain -/
theorem failed_leaves_nothing (prog : Pid → Params) (s1 s2 : Sched) (p : Pid)
    (hg : gaveUp ((reach prog s1).procs p) = true)
    (hl : ((reach prog s1).procs p).linked = false) :
    let s := reach prog (s1 ++ s2)
    (s.procs p).linked = false ∧
    ∀ n i, s.names n = some i → (s.inodes i).owner = p → n = .tmp (s.procs p).tmp := by
  intro s
  have hs : s = run prog (reach prog s1) s2 := by
    show reach prog (s1 ++ s2) = _
    unfold reach; rw [run_append]
  have h1 := run_gaveUp (prog := prog) s2 p hg hl
  rw [← hs] at h1
  refine ⟨h1.2, ?_⟩
  intro n i hn ho
  have inv : Inv prog s := reachable_inv prog (s1 ++ s2)
  rcases inv.names_own n i hn with h2 | h2
  · rw [ho] at h2; exact h2
  · rw [ho, h1.2] at h2; cases h2.2

/-- kill at any point before the process' own `link()` has taken effect: whatever the others and the
(dead) process are scheduled to do afterwards, it has published nothing; only its temporary name may remain -/
theorem killed_before_link_leaves_nothing (prog : Pid → Params) (s1 s2 : Sched) (p : Pid)
    (hpc : ∀ r, ((reach prog s1).procs p).pc ≠ .done r)
    (hpc' : ((reach prog s1).procs p).pc ≠ .unlink .linked) :
    let s := reach prog ((s1 ++ [(p, .kill)]) ++ s2)
    (s.procs p).linked = false ∧
    ∀ n i, s.names n = some i → (s.inodes i).owner = p → n = .tmp (s.procs p).tmp := by
  have h0 := unpublished_before_link prog s1 p hpc hpc'
  have hk : reach prog (s1 ++ [(p, .kill)]) = step prog (reach prog s1) p .kill := by
    unfold reach; rw [run_append]; rfl
  refine failed_leaves_nothing prog (s1 ++ [(p, .kill)]) s2 p ?_ ?_
  · rw [hk]; unfold step
    split
    · next h => simp [gaveUp, h]
    · simp [gaveUp, upd_apply]
  · rw [hk]; unfold step
    split
    · exact h0
    · simpa [upd_apply] using h0

/-- in particular the artifact name is never bound to data of such a process -/
theorem failed_never_under_artifact_name (prog : Pid → Params) (s1 s2 : Sched) (p : Pid)
    (hg : gaveUp ((reach prog s1).procs p) = true)
    (hl : ((reach prog s1).procs p).linked = false) (i : Ino)
    (h : (reach prog (s1 ++ s2)).names .art = some i) :
    ((reach prog (s1 ++ s2)).inodes i).owner ≠ p := by
  intro ho
  have := (failed_leaves_nothing prog s1 s2 p hg hl).2 _ _ h ho
  cases this

/-- the ghost flag `linked` used above is raised by nothing but the process' own successful
`link()`/`replace()` -/
theorem linked_only_by_own_publish (prog : Pid → Params) (sched : Sched) (p p' : Pid) (c : Choice)
    (h0 : ((reach prog sched).procs p').linked = false)
    (h1 : ((reach prog (sched ++ [(p, c)])).procs p').linked = true) :
    p' = p ∧ c = .run ∧ ((reach prog sched).procs p).pc = .publish ∧
    ((reach prog sched).procs p).killed = false := by
  unfold reach at h1
  rw [run_append] at h1
  exact step_sets_linked (prog := prog) p p' c h0 h1

/-- `replace()` is used at exactly the call sites whose destination is a metadata suffix (the
`overwrite` arguments come from the current source) -/
theorem replace_only_for_meta (k : Kind) (h : overwrite k = true) : ∃ x, k = .md x ∧ dest k = .md x := by
  obtain ⟨x, hx⟩ := overwrite_kind k h
  exact ⟨x, hx, by rw [hx]; rfl⟩

/-- in every reachable state and for every step: a name that is bound is re-bound to another inode
only if it is a metadata name and the step is the `replace()` of a metadata uploader; a binding
disappears only from a temporary name.  (Hence the artifact name is neither replaced nor removed.) -/
theorem meta_overwritable_only (prog : Pid → Params) (sched : Sched) (p : Pid) (c : Choice)
    (n : Name) (i : Ino) (hn : (reach prog sched).names n = some i) :
    (∀ j, (reach prog (sched ++ [(p, c)])).names n = some j → j ≠ i →
      ∃ x, n = .md x ∧ (prog p).kind = .md x ∧ ((reach prog sched).procs p).pc = .publish) ∧
    ((reach prog (sched ++ [(p, c)])).names n = none → ∃ k, n = .tmp k) := by
  have inv : Inv prog (reach prog sched) := reachable_inv prog sched
  have : reach prog (sched ++ [(p, c)]) = step prog (reach prog sched) p c := by
    unfold reach; rw [run_append]; rfl
  rw [this]
  exact step_rebind inv p c n i hn

/-- the structure of the current source that the model transliterates (regenerated on every run):
packages and cache mirrors publish under the artifact suffix, the metadata uploads under the two
other suffixes, none of which is the artifact suffix; `__exit__` closes the temporary file before any
other call and links before it unlinks; the temporary file is created in the destination directory,
is not deleted on close, and the exists check is `os.path.isfile` -/
theorem source_structure_as_modelled :
    Consts.C09.packageSuffixIsArtifact = true ∧ Consts.C09.cacheSuffixIsArtifact = true ∧
    Consts.C09.metaSuffixes = [Consts.C09.buildidSuffix, Consts.C09.fprntSuffix] ∧
    Consts.C09.metaSuffixes.contains Consts.C09.artifactSuffix = false ∧
    Consts.C09.exitOps = ["tmp.close", "os.chmod", "os.replace", "os.link", "os.unlink", "os.rename",
      "os.remove", "os.unlink"] ∧
    Consts.C09.openChecks = ["os.path.isfile"] ∧
    Consts.C09.tmpInDestDir = true ∧ Consts.C09.tmpKept = true := by
  decide

/-- two package uploaders with different data and a reader; uploader 0 is overtaken by uploader 1
between its exists-check and its link() (lost race) -/
def raceProg : Pid → Params := fun p =>
  if p = 2 then { kind := .reader, payload := [], nPack := 0, consumed := 0, fileMode := false }
  else { kind := .package, payload := [10 * p + 1, 10 * p + 2], nPack := 1, consumed := 0, fileMode := p = 0 }

/-- `n` operations of process `p` (operations of a finished process are no-ops) -/
def ops (p : Pid) (n : Nat) : Sched := List.replicate n (p, .run)

def raceSched : Sched :=
  ops 0 9 ++     -- 0: exists check .. chmod done, next is link()
  ops 1 12 ++    -- 1 publishes
  ops 2 2 ++     -- the reader opens the artifact and reads the first chunk
  ops 0 2 ++     -- 0: link() -> EEXIST, unlink(tmp)
  ops 2 3        -- the reader reads the rest up to end of file

example : (reach raceProg raceSched).names .art = some 1 ∧
    ((reach raceProg raceSched).inodes 1).chunks = [11, 12] ∧
    ((reach raceProg raceSched).procs 0).pc = .done .lost ∧
    ((reach raceProg raceSched).procs 1).pc = .done .ok ∧
    ((reach raceProg raceSched).procs 2).pc = .done .read ∧
    ((reach raceProg raceSched).procs 2).acc = [11, 12] ∧
    (reach raceProg raceSched).names (.tmp 0) = none ∧ (reach raceProg raceSched).names (.tmp 1) = none := by
  decide

/-- hypotheses of `failed_leaves_nothing`: uploader 0 gets an I/O error on its first write -/
example : gaveUp ((reach raceProg [(0, .run), (0, .run), (0, .run), (0, .run), (0, .fail)]).procs 0) = true ∧
    ((reach raceProg [(0, .run), (0, .run), (0, .run), (0, .run), (0, .fail)]).procs 0).linked = false ∧
    ((reach raceProg [(0, .run), (0, .run), (0, .run), (0, .run), (0, .fail)]).procs 0).pc = .fClose := by
  decide

/-- ... and a kill between close and link leaves the temporary name only -/
example : gaveUp ((reach raceProg [(0, .run), (0, .run), (0, .run), (0, .run), (0, .run), (0, .run), (0, .kill)]).procs 0) = true ∧
    (reach raceProg [(0, .run), (0, .run), (0, .run), (0, .run), (0, .run), (0, .run), (0, .kill), (0, .run)]).names .art = none ∧
    (reach raceProg [(0, .run), (0, .run), (0, .run), (0, .run), (0, .run), (0, .run), (0, .kill), (0, .run)]).names (.tmp 0) = some 0 := by
  decide

/-- metadata files are replaced: the second `.buildid` upload rebinds the name -/
def metaProg : Pid → Params := fun p =>
  { kind := .md .buildid, payload := [p], nPack := 0, consumed := 0, fileMode := false }

def metaSched : Sched := ops 0 8 ++ ops 1 8

example : (reach metaProg (metaSched.take 8)).names (.md .buildid) = some 0 ∧
    (reach metaProg metaSched).names (.md .buildid) = some 1 ∧
    ((reach metaProg metaSched).inodes 1).chunks = [1] ∧
    (reach metaProg metaSched).names (.tmp 0) = none ∧ (reach metaProg metaSched).names (.tmp 1) = none := by
  decide

/-- a cache mirror copies the complete upstream file although its extractor stops after one chunk -/
def mirrorProg : Pid → Params := fun _ =>
  { kind := .mirror, payload := [7, 8], nPack := 1, consumed := 1, fileMode := false }

example : (reach mirrorProg (ops 0 14)).names .art = some 0 ∧
    ((reach mirrorProg (ops 0 14)).inodes 0).chunks = [7, 8] ∧
    ((reach mirrorProg (ops 0 14)).procs 0).pc = .done .ok := by
  decide

end C09
