import BobModel.Proofs.C15Init
import BobModel.Generated.ConstsC15
/-
C15 — Shared package store is safe under concurrent projects.

Property theorems about `Model/Share.lean` (model of pym/bob/share.py and the share part of builder.py).
"All interleavings" = all schedules `sched : List Pid` of `run`, for every number of processes and programs
(`progs : List Prog`) and every consistent initial store.  `cfg : Cfg` is the variant of the code: `Cfg.fixed` is the
source with the four fixes (gc on a store without repo.json, flush before unlock, repo.json creation window, user
recorded after a lost install race), `Cfg.old` the source before them.  `consts_are_fixed` ties `Cfg.fixed` to the
flags that tools/consts/c15.py extracts from the CURRENT source: reverting a fix breaks that obligation, the
`witness_*` theorems below say which interleaving then fails, and the harness replays it on the real code.
Still violated by the current code: `not_collected_while_used` (known finding F-C15-2): goal + witness + `_partial`.
The sections carry the numbers that the theorems have in DESIGN.md §4 (0: the tie of `Cfg.fixed` to the source); they stand in
the order of dependence.
The notions of the statements are defined in the proof modules: `Complete`, `Mutex`, `present`, `pubCount` in C15Inv,
`sumCand` in C15Select, `CandOk`, `Judged` in C15Gc, `keys`, `Err.spurious`, `Cfg.Fixes` in C15Acc, `logicalOf` in C15FF,
`GoodStore`, `GoodStoreFF`, `initSt` in C15Init.
-/
namespace C15
open Share

/-! ### 1. visible ⇒ complete and hash matching -/

/-- **visible_complete**: in every state of every interleaving, for every variant of the code, a package directory at
its final path has its audit trail, its workspace and a `pkg.json`, and a readable `pkg.json` records exactly the
hash of the workspace content.  (Prepared in a private temporary directory, verified, published by one rename;
`use` rewrites keep the hash.) -/
theorem visible_complete (H : Nat → Nat) (cfg : Cfg) (g : Store) (progs : List Prog) (hg : GoodStore H g)
    (sched : List Pid) (b : Bid) (d : PkgDir)
    (h : (run H cfg (initSt g progs) sched).g.final b = some d) : Complete H d :=
  (run_inv H cfg (invVC_step H cfg) _ (init_invVC H g progs hg) sched).store b d h

/-- the repository lock is a reader/writer lock in every reachable state: a gc inside its exclusive section
excludes every other gc and every `use` inside its shared section -/
theorem lock_exclusion (H : Nat → Nat) (cfg : Cfg) (g : Store) (progs : List Prog) (sched : List Pid) :
    Mutex (run H cfg (initSt g progs) sched) :=
  run_inv H cfg (fun s p => mutex_step H cfg s p) _ (init_mutex g progs) sched

example : ∃ d, (run id Cfg.old (initSt emptyStore [⟨.install 100 1 7 7 5 true false, none, true⟩])
    [0, 0, 0]).g.final 1 = some d ∧ Complete id d := ⟨_, rfl, rfl, 7, rfl, Or.inr ⟨_, rfl, rfl⟩⟩

/-! ### 2. at most one install per Build-Id -/

/-- **install_once**: for every Build-Id, in every state of every interleaving, the number of processes whose
own rename published the package equals the number of collections of that Build-Id since the start plus
(1 if it is visible now) minus (1 if it was visible at the start).  A rename publishes only onto an absent path. -/
theorem install_once (H : Nat → Nat) (cfg : Cfg) (g : Store) (progs : List Prog) (hg : GoodStore H g)
    (sched : List Pid) (b : Bid) :
    let s := run H cfg (initSt g progs) sched
    pubCount s.procs b + g.nGc b + present (g.final b) = s.g.nGc b + present (s.g.final b) := by
  intro s
  have h1 : CountInv s.g :=
    run_inv (P := fun s => CountInv s.g) H cfg (fun s p => countInv_step H cfg s p) _ hg.counts sched
  have h2 : PubInv s ∧ PubCount g.nInst s :=
    run_inv (P := fun s => PubInv s ∧ PubCount g.nInst s) H cfg
      (fun s p hh => ⟨pubInv_step H cfg s p hh.1, pubCount_step H cfg g.nInst s p hh.1 hh.2⟩) _
      ⟨init_pubInv g progs, fun b => by simp [initSt, pubCount_mkProcs]⟩ sched
  have := h1 b
  have := h2.2 b
  have := hg.counts b
  omega

/-- while no gc collects the Build-Id, at most one process ever installs it -/
theorem install_once_no_gc (H : Nat → Nat) (cfg : Cfg) (g : Store) (progs : List Prog) (hg : GoodStore H g)
    (sched : List Pid) (b : Bid) (hgc : (run H cfg (initSt g progs) sched).g.nGc b = g.nGc b) :
    pubCount (run H cfg (initSt g progs) sched).procs b ≤ 1 := by
  have := install_once H cfg g progs hg sched b
  simp only at this
  have h1 : present ((run H cfg (initSt g progs) sched).g.final b) ≤ 1 := by unfold present; split <;> omega
  omega

/-- `installSharedPackage` reports `(path, True)` exactly when its own rename published the package; every other
install returns `(path, False)` and has published nothing -/
theorem install_result (H : Nat → Nat) (cfg : Cfg) (g : Store) (progs : List Prog) (sched : List Pid)
    (i : Nat) (pi : Proc) (installed : Bool)
    (hi : (run H cfg (initSt g progs) sched).procs[i]? = some pi) (hd : pi.pc = .done (.inst installed)) :
    pi.pub = installed := by
  have := reach_pubInv H cfg g progs sched i pi hi
  rw [hd] at this; exact this

/-- the two racing installs of the same Build-Id: exactly one publishes, the other returns `(path, False)` -/
example :
    let s := run id Cfg.old (initSt emptyStore [⟨.install 100 1 7 7 5 true false, none, true⟩,
                                              ⟨.install 101 1 7 7 5 true false, none, true⟩])
      [0, 1, 0, 1, 0, 1, 1, 0, 0, 0, 0, 0]
    pubCount s.procs 1 = 1 ∧ (s.procs[0]?).map (·.pc) = some (.done (.inst true)) ∧
      (s.procs[1]?).map (·.pc) = some (.done (.inst false)) := by decide

/-! ### 4. garbage collection policy -/

/-- **gc_policy (subset / oldest first / until the quota is met)** for `sorted(candidates)` and the quota loop:
the removed packages are a prefix of the candidates in tuple order, the reported size is the recorded size
minus what was removed; automatic cleaning (`pruneUnused = false`, quota `q`) removes the SHORTEST such prefix that
brings the size within the quota (all candidates if that is impossible); it never raises. -/
theorem gc_policy_auto (q : Nat) (cands : List Cand) (total : Nat) :
    let r := gcSelect (some q) false cands total
    (∃ rest, sortCands cands = r.1 ++ rest) ∧
    (∀ p, p <+: r.1 → p ≠ r.1 → total - sumCand p > q) ∧
    (total - sumCand r.1 ≤ q ∨ r.1 = sortCands cands) ∧
    r.2.1 = total - sumCand r.1 ∧ r.2.2 = false := by
  unfold gcSelect
  exact ⟨gcLoop_prefix _ _ _ _, (gcLoop_quota q _ total).1, (gcLoop_quota q _ total).2, gcLoop_size _ _ _ _,
    gcLoop_noTypeError_quota q false _ total⟩

/-- the order in which candidates are considered is a permutation of the candidates sorted by the tuple order;
among unused candidates this is ascending modification time of `pkg.json` (oldest first) -/
theorem gc_policy_oldest_first (cands : List Cand) (hu : ∀ c ∈ cands, c.unused = true) :
    (sortCands cands).Perm cands ∧ (sortCands cands).Pairwise (fun a b => a.time ≤ b.time) :=
  ⟨sortCands_perm cands,
   sorted_unused_time (sortCands_sorted cands) (fun c hc => hu c ((sortCands_perm cands).mem_iff.mp hc))⟩

/-- `--all-unused` (without `--used`) removes every unused package, whatever the quota -/
theorem gc_policy_all_unused (quota : Option Nat) (cands : List Cand) (total : Nat)
    (hu : ∀ c ∈ cands, c.unused = true) :
    (gcSelect quota true cands total).1 = sortCands cands ∧ (gcSelect quota true cands total).2.2 = false := by
  unfold gcSelect
  exact gcLoop_allUnused quota _ total (fun c hc => hu c ((sortCands_perm cands).mem_iff.mp hc))

/-- whatever is removed was a scanned candidate -/
theorem gc_policy_subset (quota : Option Nat) (pun : Bool) (cands : List Cand) (total : Nat) :
    ∀ c ∈ (gcSelect quota pun cands total).1, c ∈ cands := gcSelect_sub quota pun cands total

/-- in every interleaving a gc without `--used` (and the automatic gc of an install) only ever holds candidates
it flagged unused: used packages are collected only with `--used` -/
theorem gc_policy_nonforced (H : Nat → Nat) (cfg : Cfg) (g : Store) (progs : List Prog) (sched : List Pid)
    (i : Nat) (pi : Proc) (hi : (run H cfg (initSt g progs) sched).procs[i]? = some pi) :
    CandOk pi.prog pi.pc :=
  reach_procs_inv (Q := fun pr => CandOk pr.prog pr.pc) H cfg (fun g pr exO shO => stepPc_candOk H cfg pr.prog exO shO g pr.pc)
    g progs (fun _ _ _ _ hc => nomatch hc) sched i pi hi

/-- only a gc move removes a package from its final path, and it removes the head of the remaining plan -/
theorem only_gc_removes (H : Nat → Nat) (cfg : Cfg) (prog : Prog) (exO shO : Bool) (g : Store) (pc : Pc) (b : Bid)
    (h1 : g.final b ≠ none) (h2 : (stepPc H cfg prog exO shO g pc).1.final b = none) :
    ∃ rm c rest t d te, pc = .gMove rm (c :: rest) t d te ∧ c.bid = b := by
  rcases stepPc_final H cfg prog exO shO g pc b with hs | ⟨_, _, _, hn, _⟩ | ⟨rm, c, rest, t, d, te, hp, hb, _, _⟩ |
      ⟨_, _, _, _, _, hn, _⟩
  · rw [hs] at h2; exact absurd h2 h1
  · exact absurd hn h1
  · exact ⟨rm, c, rest, t, d, te, hp, hb⟩
  · rw [hn] at h2; cases h2

/-- `--dry-run` never reaches the moving phase: it removes nothing -/
theorem gc_policy_dry_run (prog : Prog) (g : Store) (rm : List (Bid × Nat)) (cands : List Cand) (total : Nat)
    (hd : (gcCtx prog).dryRun = true) : ∃ r, (gcPlan prog g rm cands total) = (g, .gClose none r) := by
  unfold gcPlan
  simp [hd]

example : (gcSelect (some 20) false [⟨true, 5, 10, 1⟩, ⟨true, 3, 10, 2⟩, ⟨true, 9, 10, 3⟩] 35).1.map (·.bid) = [2, 1] := by
  decide

/-! ### 0. the model follows the current source -/

/-- the variant of the code found in the current source (Generated/ConstsC15.lean) is the fixed one -/
theorem consts_are_fixed :
    (⟨Consts.C15.flushBeforeUnlock, Consts.C15.gcMissingOk, Consts.C15.emptyOk, Consts.C15.lostRaceRecords⟩ : Cfg)
      = Cfg.fixed := by decide

/-! ### 5. no spurious failure -/

/-- full statement: from a consistent store (including the empty one: no directory, no repo.json) no operation of
any interleaving ends with FileNotFoundError(repo.json), JSONDecodeError, "Corrupt meta info" or ENOENT at the
collecting rename -/
def no_spurious_failure_goal (H : Nat → Nat) (cfg : Cfg) : Prop :=
  ∀ (g : Store) (L : List (Bid × Nat)) (progs : List Prog), GoodStoreFF g L →
    ∀ (sched : List Pid) (i : Nat) (pi : Proc) (e : Err),
      (run H cfg (initSt g progs) sched).procs[i]? = some pi → pi.pc = .done (.err e) → e.spurious = false

/-- the three fixes suffice, whatever the builder does after a lost install race -/
theorem no_spurious_failure_of_fixes (H : Nat → Nat) {cfg : Cfg} (hc : cfg.Fixes) : no_spurious_failure_goal H cfg := by
  intro g L progs hg sched i pi e hi hd
  obtain ⟨L', inv⟩ := reach_invFF H hc g L progs hg sched
  have := (inv.pcs i pi hi).1
  rw [hd] at this
  exact this e rfl

/-- **no_spurious_failure** (the goal above, fixed code): no install, use or clean operation ends in one of the four
failures of `Err.spurious` because another project works on the store at the same time or because the store is still
empty.  Not among them: "Error inspecting workspace" (`Err.inspect`), which a gc reports when the link of a recorded
user dangles, and which the window of F-C15-2 can bring about in the fixed code without any forced gc. -/
theorem no_spurious_failure (H : Nat → Nat) : no_spurious_failure_goal H Cfg.fixed :=
  no_spurious_failure_of_fixes H ⟨rfl, rfl, rfl⟩

def pcOf (s : St) (p : Nat) : Option Pc := (s.procs[p]?).map (·.pc)

def inst (ws bid : Nat) (link : Bool := false) : Prog := ⟨.install ws bid bid bid 5 true link, none, true⟩
def useP (ws bid : Nat) (link : Bool := false) : Prog := ⟨.use ws bid link, none, true⟩
def gcAll : Prog := ⟨.gc false true false, none, true⟩

/-- F-C15-1: the first install is between `makedirs` and `__addPackage`; another project's
`bob clean --shared --all-unused` raises FileNotFoundError -/
theorem witness_gc_on_empty_store :
    pcOf (run id Cfg.old (initSt emptyStore [inst 100 1, gcAll]) [0, 1, 1]) 1 = some (.done (.err .fileNotFound)) := by
  decide

/-- unlock before flush (repo.json): process 1 has released the repository lock, its rewrite of repo.json is still
in its buffer; the gc takes the lock, reads an empty file and dies with JSONDecodeError -/
theorem witness_flush_window_repo :
    pcOf (run id Cfg.old (initSt emptyStore [inst 100 1, inst 101 2, gcAll])
      [0, 0, 0, 0, 0, 0, 0, 0, 1, 1, 1, 1, 1, 2, 2, 2, 2]) 2 = some (.done (.err .jsonDecode)) := by
  decide

/-- unlock before flush (pkg.json): two projects use the same package, the second reports "Corrupt meta info" -/
theorem witness_flush_window_pkg :
    pcOf (run id Cfg.old (initSt emptyStore [inst 100 1, useP 0 1, useP 1 1])
      [0, 0, 0, 0, 0, 0, 0, 0, 1, 1, 1, 1, 1, 2, 2, 2, 2, 2, 2]) 2 = some (.done (.err .corruptMeta)) := by
  decide

/-- creation window of repo.json: process 0 created it with mode "x" and has not locked it yet -/
theorem witness_creation_window :
    pcOf (run id Cfg.old (initSt emptyStore [inst 100 1, inst 101 2])
      [0, 0, 0, 0, 0, 1, 1, 1, 1, 1, 1]) 1 = some (.done (.err .jsonDecode)) := by
  decide

/-- hence the full statement was false of the code before the fixes -/
theorem no_spurious_failure_old_refuted : ¬ no_spurious_failure_goal id Cfg.old := by
  intro h
  have := h emptyStore [] [inst 100 1, gcAll] goodStoreFF_empty [0, 1, 1] 1
  have hw := witness_gc_on_empty_store
  unfold pcOf at hw
  cases hp : (run id Cfg.old (initSt emptyStore [inst 100 1, gcAll]) [0, 1, 1]).procs[1]? with
  | none => rw [hp] at hw; cases hw
  | some pi =>
    rw [hp] at hw
    simp only [Option.map_some, Option.some.injEq] at hw
    have := this pi .fileNotFound hp hw
    cases this

/-- the same interleavings in the fixed code: the gc on the half created store returns 0, the reader in the flush /
creation window gets the complete file resp. an empty repository -/
theorem witnesses_fixed :
    pcOf (run id Cfg.fixed (initSt emptyStore [inst 100 1, gcAll]) [0, 1, 1]) 1 = some (.done (.gcSize 0)) ∧
    pcOf (run id Cfg.fixed (initSt emptyStore [inst 100 1, inst 101 2, gcAll])
      [0, 0, 0, 0, 0, 0, 0, 0, 1, 1, 1, 1, 1, 2, 2, 2, 2, 2, 2, 2, 2, 2, 2]) 2 = some (.done (.gcSize 0)) ∧
    pcOf (run id Cfg.fixed (initSt emptyStore [inst 100 1, useP 0 1, useP 1 1])
      [0, 0, 0, 0, 0, 0, 0, 0, 1, 1, 1, 1, 1, 2, 2, 2, 2, 2, 2]) 2 = some (.done (.useOk 1)) ∧
    pcOf (run id Cfg.fixed (initSt emptyStore [inst 100 1, inst 101 2])
      [0, 0, 0, 0, 0, 1, 1, 1, 1, 1, 1]) 1 = some (.done (.inst true)) := by
  decide

/-! ### 3. accounting -/

/-- repo.json (read as the code reads it: missing / empty = no package) has unique keys and records exactly the
packages at their final paths with the sizes of their pkg.json; `sumSizes` of it is the recorded repository size -/
def Accounted (g : Store) : Prop :=
  (keys (logicalOf g.repo)).Nodup ∧
    ∀ b sz, (b, sz) ∈ logicalOf g.repo ↔ ∃ d m, g.final b = some d ∧ d.info = some (.valid m) ∧ m.size = sz

/-- full statement: every quiescent state of every interleaving from a consistent store is accounted -/
def accounting_goal (H : Nat → Nat) (cfg : Cfg) : Prop :=
  ∀ (g : Store) (L : List (Bid × Nat)) (progs : List Prog), GoodStoreFF g L → ∀ (sched : List Pid),
    (∀ (i : Nat) (pi : Proc), (run H cfg (initSt g progs) sched).procs[i]? = some pi → pi.pc.isDone = true) →
    Accounted (run H cfg (initSt g progs) sched).g

/-- the fourth fix decides who is recorded as a user of a package, not what repo.json records: again three suffice -/
theorem accounting_of_fixes (H : Nat → Nat) {cfg : Cfg} (hc : cfg.Fixes) : accounting_goal H cfg := by
  intro g L progs hg sched hdone
  obtain ⟨L', inv⟩ := reach_invFF H hc g L progs hg sched
  have hnot : ∀ (i : Nat) (pi : Proc), (run H cfg (initSt g progs) sched).procs[i]? = some pi →
      pi.pc.rmeta = none ∧ pi.pc.inWindow = false := by
    intro i pi hi
    have := hdone i pi hi
    cases hq : pi.pc <;> rw [hq] at this
    case done => exact ⟨rfl, rfl⟩
    all_goals cases this
  have hL : logicalOf (run H cfg (initSt g progs) sched).g.repo = L' := by
    rcases inv.repoOk with ⟨hv, _⟩ | ⟨_, i, pi, hi, hr, _⟩
    · exact hv
    · rw [(hnot i pi hi).1] at hr; cases hr
  rw [Accounted, hL]
  refine ⟨inv.nodup, ?_⟩
  intro b sz
  constructor
  · exact inv.recorded b sz
  · rintro ⟨d, m, hd, hm, hs⟩
    obtain ⟨m', hm', hor⟩ := inv.pkgs b d hd
    rw [hm] at hm'; cases hm'
    rcases hor with h | ⟨i, pi, hi, hw, _⟩
    · rw [← hs]; exact h
    · rw [(hnot i pi hi).2] at hw; cases hw

/-- **accounting** (full strength, fixed code): after any operations, in any interleaving, the recorded repository
size equals the sum of the installed packages. -/
theorem accounting (H : Nat → Nat) : accounting_goal H Cfg.fixed :=
  accounting_of_fixes H ⟨rfl, rfl, rfl⟩

/-- from a store with one installed package two more installs, a use and an automatic gc (quota 8) run to a
quiescent, accounted state (`goodStoreFF_g1`: the hypotheses are satisfiable) -/
example :
    let s := run id Cfg.fixed (initSt g1 [inst 101 2, ⟨.install 102 3 3 3 5 true false, some 8, true⟩, useP 0 1])
      [0, 1, 2, 0, 1, 2, 0, 1, 2, 0, 1, 2, 0, 1, 2, 0, 1, 2, 1, 1, 1, 1, 1, 1, 1, 1, 1, 1, 1, 1, 0, 0, 0]
    (s.procs.map (·.pc.isDone)) = [true, true, true] ∧ s.g.repo = .valid [(3, 5), (2, 5)] ∧
      (s.g.final 1).isNone = true ∧ (s.g.final 2).isSome = true ∧ (s.g.final 3).isSome = true := by
  decide

/-- the "create repo.json if it is missing" step of `__addPackage` runs outside the lock: it is a separate segment
that may be scheduled after another project has created AND filled the file, so `accounting` depends on it never
changing an existing file (`open(fn, "a")`, not `"w"`) -/
theorem create_keeps_content (H : Nat → Nat) (cfg : Cfg) (prog : Prog) (exO shO : Bool) (g : Store)
    (h : g.repo ≠ .absent) : (stepPc H cfg prog exO shO g .iAddTouch).1.repo = g.repo := by
  unfold stepPc
  cases hr : g.repo with
  | absent => exact absurd hr h
  | torn => simp [hr]
  | valid l => simp [hr]

/-- two first installs into an empty store; process 0 is stopped between its failed locked open and its create step,
process 1 creates and fills repo.json in between: both packages end up recorded -/
example :
    let s := run id Cfg.fixed (initSt emptyStore [inst 100 1, inst 101 2])
      [0, 0, 0, 0, 1, 1, 1, 1, 1, 1, 1, 1, 0, 0, 0, 0]
    (s.procs.map (·.pc)) = [.done (.inst true), .done (.inst true)] ∧ s.g.repo = .valid [(2, 5), (1, 5)] := by
  decide

/-- gc subtracts exactly what it moved, `__addPackage` adds exactly the size of the new package -/
theorem accounting_delta (l : List (Bid × Nat)) (b : Bid) (sz : Nat) (h : (keys l).Nodup) :
    ((b, sz) ∈ l → sumSizes (erasePkg l b) + sz = sumSizes l) ∧
    (b ∉ keys l → sumSizes (setPkg l b sz) = sumSizes l + sz) :=
  ⟨sumSizes_erasePkg l b sz h, sumSizes_setPkg_new l b sz⟩

/-- the code before the fixes broke the accounting: the install of package 3 reads repo.json in the flush window of the
install of package 2, dies after it has published, and package 3 stays unrecorded for ever -/
theorem witness_accounting_broken :
    let s := run id Cfg.old (initSt emptyStore [inst 100 1, inst 101 2, inst 102 3])
      [0, 0, 0, 0, 0, 0, 0, 0, 2, 2, 2, 2, 1, 1, 1, 1, 1, 2, 2, 1]
    s.g.repo = .valid [(1, 5), (2, 5)] ∧ (s.g.final 3).isSome = true ∧
      (s.procs.map (·.pc)) = [.done (.inst true), .done (.inst true), .done (.err .jsonDecode)] := by
  decide

/-- hence the full accounting statement was false of the code before the fixes -/
theorem accounting_old_refuted : ¬ accounting_goal id Cfg.old := by
  intro h
  have key := h g1 [(1, 5)] [inst 101 2, inst 102 3] goodStoreFF_g1 [1, 1, 1, 1, 0, 0, 0, 0, 0, 1, 1, 0]
  generalize hs : run id Cfg.old _ _ = s at key
  -- both installs are over, package 3 is there and repo.json does not know it
  have hw : s.procs.all (·.pc.isDone) = true ∧ s.g.repo = .valid [(1, 5), (2, 5)] ∧
      s.g.final 3 = some ⟨true, some 3, some (.valid ⟨3, 5, [102]⟩), 1⟩ := by subst hs; decide
  obtain ⟨_, hiff⟩ := key fun i pi hi => List.all_eq_true.mp hw.1 pi (List.mem_of_getElem? hi)
  rw [hw.2.1] at hiff
  have : (3, 5) ∈ [(1, 5), (2, 5)] := (hiff 3 5).mpr ⟨_, _, hw.2.2, rfl, rfl⟩
  simp at this

/-! ### 6. not collected while used — violated by the current code (known finding F-C15-2) -/

/-- full statement (NOT asserted): a workspace is never linked to a package that is not there, unless one of the
processes of the run is a gc with `--used` (then nothing is claimed) -/
def not_collected_while_used_goal (H : Nat → Nat) (cfg : Cfg) : Prop :=
  ∀ (g : Store) (progs : List Prog), GoodStore H g → (∀ w, g.links w = none) →
    ∀ (sched : List Pid) (w : Ws) (b : Bid),
      (run H cfg (initSt g progs) sched).g.links w = some b → (run H cfg (initSt g progs) sched).g.final b ≠ none
      ∨ ∃ (i : Nat) (pi : Proc), (run H cfg (initSt g progs) sched).procs[i]? = some pi ∧ (gcCtx pi.prog).pruneUsed = true

/-- before fix 4 the lost race at install left the losing workspace unrecorded: project 1 links package 1 without being in
`users`; after project 0 is removed a plain `--all-unused` gc collects the package that workspace 1 links to -/
theorem witness_lost_race_unrecorded_user :
    let s := run id Cfg.old (initSt emptyStore [inst 0 1 true, inst 1 1 true, ⟨.dropws 0, none, true⟩, gcAll])
      [0, 1, 0, 0, 0, 0, 0, 0, 0, 0, 1, 1, 1, 2, 3, 3, 3, 3, 3]
    (pcOf s 3 = some (.gMove [(1, 5)] [⟨true, 0, 5, 1⟩] 0 false false) ∧ s.g.links 1 = some 1 ∧
      (s.g.final 1).isSome = true ∧ ((s.g.final 1).bind (·.info)) = some (.valid ⟨1, 5, [0]⟩)) ∧
    (step id Cfg.old s 3).g.final 1 = none ∧ (step id Cfg.old s 3).g.links 1 = some 1 := by
  decide

/-- with fix 4 the loser of the install race registers itself: both workspaces are recorded, the plain gc keeps the
package -/
theorem lost_race_user_recorded :
    let s := run id Cfg.fixed (initSt emptyStore [inst 0 1 true, inst 1 1 true, ⟨.dropws 0, none, true⟩, gcAll])
      [0, 1, 0, 0, 0, 0, 0, 0, 0, 0, 1, 1, 1, 1, 1, 1, 1, 1, 1, 2, 3, 3, 3, 3, 3, 3, 3, 3]
    (s.procs.map (·.pc.isDone)) = [true, true, true, true] ∧ s.g.links 1 = some 1 ∧
      ((s.g.final 1).bind (·.info)) = some (.valid ⟨1, 5, [0, 1]⟩) := by
  decide

/-- F-C15-2 (known finding, current code): `useSharedPackage` returned the package, the builder has not created the
link yet, another project's gc judges the package unused and collects it; the use operation then reports success
with a dangling workspace -/
theorem witness_gc_between_use_and_link :
    let s := run id Cfg.fixed (initSt emptyStore [inst 100 1, useP 0 1 true, gcAll])
      [0, 0, 0, 0, 0, 0, 0, 0, 1, 1, 1, 1, 1, 1, 2, 2, 2, 2, 2, 2, 2, 2, 1]
    pcOf s 1 = some (.done (.shared true)) ∧ pcOf s 2 = some (.done (.gcSize 0)) ∧
      s.g.links 0 = some 1 ∧ s.g.final 1 = none := by
  decide

theorem not_collected_while_used_refuted : ¬ not_collected_while_used_goal id Cfg.fixed := by
  intro h
  have hw := witness_gc_between_use_and_link
  simp only at hw
  rcases h emptyStore [inst 100 1, useP 0 1 true, gcAll] (goodStore_empty id) (fun _ => rfl)
    [0, 0, 0, 0, 0, 0, 0, 0, 1, 1, 1, 1, 1, 1, 2, 2, 2, 2, 2, 2, 2, 2, 1] 0 1 hw.2.2.1 with h1 | ⟨i, pi, hi, hp⟩
  · exact h1 hw.2.2.2
  · have : ∀ q ∈ [inst 100 1, useP 0 1 true, gcAll], (gcCtx q).pruneUsed = false := by decide
    rw [this _ (reach_prog _ _ _ _ _ i pi hi)] at hp; cases hp

/-- **not_collected_while_used_partial** (what holds of every variant of the code, hypothesis added: "at scan time, for
recorded users"), stated of the one segment in which a gc takes up a candidate, from any store: the candidate is either
flagged *used*, or at that moment (under the exclusive repository lock) no workspace recorded in its `pkg.json` links to
it and it is not the package being installed; without `--used` it is flagged unused.  That candidates enter nowhere else
and a gc without `--used` holds only such ones in every interleaving is `gc_policy_nonforced`. -/
theorem not_collected_while_used_partial (H : Nat → Nat) (cfg : Cfg) (prog : Prog) (exO shO : Bool) (g : Store)
    (rm : List (Bid × Nat)) (k : Bid) (sz : Nat) (rest : List (Bid × Nat)) (cands : List Cand) (total : Nat) :
    ∀ c ∈ (stepPc H cfg prog exO shO g (.gScanLock rm k sz rest cands total)).2.cands,
      c ∈ cands ∨ (c.bid = k ∧ Judged prog g c ∧ ((gcCtx prog).pruneUsed = false → c.unused = true)) := by
  intro c hc
  unfold stepPc at hc
  simp only at hc
  split at hc
  · rename_i a w m t hf
    cases hu : checkUnused g k m.users with
    | error e => simp only [hu] at hc; simp [Pc.cands] at hc
    | ok u =>
      simp only [hu] at hc
      have := gcNext_cands_sub _ _ _ _ _ _ c hc
      split at this
      · rename_i hcond
        rcases List.mem_append.mp this with h | h
        · exact Or.inl h
        · right
          simp only [List.mem_singleton] at h
          subst h
          refine ⟨rfl, ?_, ?_⟩
          · intro hun
            simp only [Bool.and_eq_true, bne_iff_ne, ne_eq] at hun
            refine ⟨_, m, hf, rfl, ?_, ?_⟩
            · rw [hun.1] at hu; exact checkUnused_sound g k m.users hu
            · intro hh; exact hun.2 hh.symm
          · intro hpu
            simpa [hpu] using hcond
      · exact Or.inl this
  · simp [Pc.cands] at hc

end C15
