import BobModel.Proofs.C13Sandbox
import BobModel.Proofs.C13Env
/-
C13 — steps run in exactly the declared environment.  Property theorems about Model/ShellEnv.lean.
Helper lemmas are in Proofs/C13Quote.lean (word level), Proofs/C13Eval.lean (text level), Proofs/C13Env.lean
(export block; `IsComponent`), Proofs/C13Sandbox.lean (helper options, mounts; `whiteoutMount`, `stepMounts`).
-/
namespace ShellEnv

/-- a recipe environment with a quote, a dollar sign, a blank, a newline and an empty value -/
def exFull : Env := [(['A'], ['x', ' ', '\'', '$']), (['B'], ['\n']), (['C'], []), (['P', 'A', 'T', 'H'], ['z'])]

/-- step declared with strong variable A, weak variable B (C and PATH undeclared), one tool, one argument -/
def exSpec : Spec :=
  { env := stepEnvOf exFull [['A']] [['B']], paths := [['/', 't', ' ', 'b']], libraryPaths := [['/', 'l']],
    cwd := ['/', 'w'], args := [['/', 'd']], allPaths := [(['d', '\''], ['/', 'd'])], depPaths := [], toolPaths := [] }

theorem exSpec_wf : Spec.WF id exSpec :=
  ⟨by decide +kernel, by decide +kernel, by decide +kernel, by decide +kernel, by decide +kernel, by decide +kernel⟩

def exDesc : StepDesc :=
  { env := [], valid := true, isCheckout := false,
    args := [⟨['l'], true, false, ['/', 'p', '/', 'l'], ['/', 'p', '/', 'l']⟩, ⟨['x'], false, false, [], []⟩],
    tools := [⟨['t'], ⟨['t'], true, false, ['/', 'p', '/', 't'], ['/', 'p', '/', 't']⟩, ['b', 'i', 'n'], [['l', 'i', 'b']]⟩],
    sandbox := none, chain := [⟨['l'], true, true, ['/', 'p', '/', 's'], ['/', 'p', '/', 's']⟩] }

/-- the command line of a slim sandbox for a step in project `/p` with one dependency -/
def exSlimArgv : List Str :=
  renderHArgs (slimGroups ['/', 't'] ['/', 'p'] [['u', 's', 'r'], tmpStr] ++
    stepGroups id ['/', 's'] ['/', 's'] false none ['/', 'p', '/', 'w'] ['/', 'p', '/', 'w']
      [(['/', 'p', '/', 'd'], ['/', 'p', '/', 'd'])]) ++ ['-', '-'] :: [['b']]

end ShellEnv

namespace C13
open ShellEnv

/-- the characters `shlex.quote` leaves unquoted (extracted from the running `shlex`) are all literal,
non-breaking characters for bash.  Re-checked on every run against the regenerated constants. -/
theorem safe_chars_literal :
    ∀ c ∈ Consts.C13.safeChars, plainChar c = true ∧ wordStop c = false ∧ subStop c = false ∧
      c ≠ '\'' ∧ c ≠ '"' ∧ c ≠ '\\' ∧ c ≠ '$' ∧ c ≠ nulChar := fun c hc =>
  have ⟨⟨h0, h1, h2, h3, h4⟩, hs⟩ := plainChar_literal (safe_plain c hc)
  ⟨safe_plain c hc, wordStop_of_subStop hs, hs, h1, h2, h3, h4, h0⟩

/-- **quote_roundtrip**: whatever quotes, dollar signs, backslashes, newlines, control or non-ASCII
characters a string contains, bash reads its quoted form back as exactly that string (one word, nothing
left over, no expansion — in every variable environment `E`). -/
theorem quote_roundtrip (E : Env) (s : Str) (h : NoNul s) : bashWord E (shlexQuote s) = .ok s := by
  have := lexWord_quote E safeStop_word s [] [] h
  rw [List.append_nil, List.nil_append, lexWord_unq_nil] at this
  rw [bashWord, this]

/-- the same in context: in front of ANY following text the quoted form contributes exactly the original
characters to the word being read and leaves the lexer in the unquoted state (so array subscripts, array
values, `:`-joined path lists and the end of the line are read as intended). -/
theorem quote_in_context (E : Env) (s acc rest : Str) (h : NoNul s) :
    lexWord E wordStop .unq acc (shlexQuote s ++ rest) = lexWord E wordStop .unq (acc ++ s) rest ∧
    lexWord E subStop .unq acc (shlexQuote s ++ rest) = lexWord E subStop .unq (acc ++ s) rest :=
  ⟨lexWord_quote E safeStop_word s acc rest h, lexWord_quote E safeStop_sub s acc rest h⟩

/-- the hypothesis is satisfiable by a non-trivial string: `it's "$x\` + newline + `ä` -/
example : (∀ c ∈ ['i', 't', '\'', 's', ' ', '"', '$', 'x', '\\', '\n', 'ä'], c ≠ nulChar) ∧
    (match bashWord [] (shlexQuote ['i', 't', '\'', 's', ' ', '"', '$', 'x', '\\', '\n', 'ä']) with
      | .ok v => v == ['i', 't', '\'', 's', ' ', '"', '$', 'x', '\\', '\n', 'ä']
      | .error _ => false) = true := by
  decide +kernel

/-- bash evaluating the TEXT of a well-formed command list computes the fold of the commands' meaning
(text level: comments, `declare -A … =( [k]=v … )`, `export K=V`, `set -o x`, values with embedded newlines). -/
theorem script_text_semantics (cs : List Cmd) (sh : Sh) (hwf : ∀ c ∈ cs, c.WF) :
    evalScript sh (renderCmds cs) = .ok (cs.foldl Cmd.eval sh) := by
  -- one unit of fuel per command is enough: the text has at least one character per command after the first
  have := joinWith_len ['\n'] rfl (cs.map Cmd.render)
  rw [List.length_map] at this
  exact evalCmds_render cs _ sh this hwf

/-- **prolog_env_exact**: bash evaluating the generated prolog in the initial environment `E₀` ends with
exactly `E₀ ∪ spec.env ∪ {PATH, LD_LIBRARY_PATH, BOB_CWD}`: the three Bob variables have the composed values,
every other declared variable has precisely its declared value, everything else is as in `E₀`. -/
theorem prolog_env_exact (abs : Str → Str) (s : Spec) (hwf : Spec.WF abs s) (E₀ : Env)
    (A₀ : List (Str × List (Str × Str))) :
    ∃ sh, evalScript ⟨E₀, A₀⟩ (formatProlog abs s false) = .ok sh ∧
      lookup sh.env Consts.C13.varPath =
        some (joinWith [':'] (s.paths.map abs ++ [(lookup E₀ Consts.C13.varPath).getD []])) ∧
      lookup sh.env Consts.C13.varLdLibraryPath = some (joinWith [':'] (s.libraryPaths.map abs)) ∧
      lookup sh.env Consts.C13.varBobCwd = some (abs s.cwd) ∧
      ∀ k, isBobVar k = false → lookup sh.env k = (lookup s.env k).or (lookup E₀ k) := by
  refine ⟨_, script_text_semantics _ _ (prologCmds_wf abs s hwf), ?_⟩
  rw [foldl_eval_env, prologCmds_exports]
  obtain ⟨hbob, hrest⟩ := lookup_exportsEnv E₀ (bobExports abs s) s.env (fun k => !isBobVar k)
    (xs := sortExports (exportEntries abs s)) (List.mergeSort_perm _ _) (bobExports_nodup abs s) hwf.envNodup
    (bobExports_spec abs s)
  refine ⟨hbob _ List.mem_cons_self, ?_, hbob _ (List.mem_cons_of_mem _ (List.mem_cons_of_mem _ List.mem_cons_self)),
    fun k hk => ?_⟩
  · simpa [Export.value] using hbob _ (List.mem_cons_of_mem _ List.mem_cons_self)
  · have hpre : ∀ x ∈ bobExports abs s, x.name ≠ k := fun x hx hxk => by
      have := (bobExports_spec abs s x hx).1
      rw [hxk, hk] at this
      cases this
    rw [hrest k hpre, hk]
    rfl

/-- the hypotheses are satisfiable by a non-trivial instance (values with quote, dollar, blank, newline,
a tool path with a blank, a package name with a quote), and the theorem applies to it -/
example : Spec.WF id exSpec := exSpec_wf
example := prolog_env_exact id exSpec exSpec_wf [(['H'], ['h'])] []

/-- **env_declared_only**: a step script (checkout, build or package) sees, besides the three Bob variables,
exactly: the variables declared for the step (strong or weak) that are defined, with the value the recipes
computed; otherwise what the Invoker added explicitly (`extra`: the sandbox image's PATH); otherwise the host
variable — and that only if the user preserved the environment or the name is whitelisted. -/
theorem env_declared_only (abs : Str → Str) (full : Env) (strong weak : List Str) (s : Spec)
    (hs : s.env = stepEnvOf full strong weak) (hwf : Spec.WF abs s)
    (preserve : Bool) (wl : List Str) (host extra : Env) :
    ∃ sh, scriptEnv abs s preserve wl host extra = .ok sh ∧
      ∀ k, isBobVar k = false →
        lookup sh.env k =
          if (k ∈ strong ∨ k ∈ weak) ∧ (lookup full k).isSome then lookup full k
          else if (lookup extra k).isSome then lookup extra k
          else if preserve = true ∨ k ∈ wl then lookup host k
          else none := by
  obtain ⟨sh, h1, _, _, _, h5⟩ := prolog_env_exact abs s hwf (processEnv preserve wl host none extra) []
  refine ⟨sh, h1, fun k hk => ?_⟩
  rw [h5 k hk, hs, lookup_stepEnvOf, lookup_processEnv]
  by_cases hd : k ∈ strong ∨ k ∈ weak
  · cases hf : lookup full k <;> cases he : lookup extra k <;> simp [hd]
  · cases he : lookup extra k <;> simp [hd]

example := env_declared_only id exFull [['A']] [['B']] exSpec rfl exSpec_wf false [['H']] [(['H'], ['h']), (['D'], ['x'])] []

/-- no other variable of the invoking environment is visible unless the user asked to preserve it:
a host variable that is neither whitelisted nor declared nor one of Bob's is NOT in the script's environment,
whatever its name and value -/
theorem host_variable_hidden (abs : Str → Str) (full : Env) (strong weak : List Str) (s : Spec)
    (hs : s.env = stepEnvOf full strong weak) (hwf : Spec.WF abs s) (wl : List Str) (host : Env) (k : Str)
    (hbob : isBobVar k = false) (hwl : k ∉ wl) (hdecl : k ∉ strong ∧ k ∉ weak) :
    ∃ sh, scriptEnv abs s false wl host [] = .ok sh ∧ lookup sh.env k = none := by
  obtain ⟨sh, h1, h2⟩ := env_declared_only abs full strong weak s hs hwf false wl host []
  refine ⟨sh, h1, ?_⟩
  rw [h2 k hbob]
  simp [hdecl.1, hdecl.2, hwl, lookup]

/-- a declared variable that is defined arrives with exactly the computed value, even if the host has a
variable of the same name (whitelisted or not) -/
theorem declared_variable_exact (abs : Str → Str) (full : Env) (strong weak : List Str) (s : Spec)
    (hs : s.env = stepEnvOf full strong weak) (hwf : Spec.WF abs s) (preserve : Bool) (wl : List Str)
    (host extra : Env) (k v : Str) (hbob : isBobVar k = false) (hdecl : k ∈ strong ∨ k ∈ weak)
    (hv : lookup full k = some v) :
    ∃ sh, scriptEnv abs s preserve wl host extra = .ok sh ∧ lookup sh.env k = some v := by
  obtain ⟨sh, h1, h2⟩ := env_declared_only abs full strong weak s hs hwf preserve wl host extra
  refine ⟨sh, h1, ?_⟩
  rw [h2 k hbob]
  simp [hdecl, hv]

/-- **args_in_order**: `"$1" … "$n"` of the step script are the execution paths of the declared dependencies,
in declared order; an invalid dependency (a package without the step) appears as its placeholder -/
theorem args_in_order (abs : Str → Str) (d : StepDesc) (cwd bash script : Str) (trace : Bool)
    (hb : bash ≠ ['-', '-']) :
    positionalOf (setupCallArgs abs (specOfStep d cwd) bash script trace) = d.args.map (fun a => abs a.execPath) ∧
    ∀ a ∈ d.args, a.valid = false → a.execPath = Consts.C13.invalidExecPrefix ++ a.name := by
  constructor
  · cases trace <;>
      simp [setupCallArgs, specOfStep, positionalOf, hb, List.map_map, Function.comp_def]
  · intro a _ hv
    simp [DepStep.execPath, hv]

example := args_in_order id exDesc ['/', 'w'] ['b', 'a', 's', 'h'] ['/', 's'] false (by decide)

/-- **tools_on_path**: after the prolog every tool the step uses is a component of `PATH` and every library
directory of such a tool a component of `LD_LIBRARY_PATH` (by its execution path) -/
theorem tools_on_path (abs : Str → Str) (d : StepDesc) (cwd : Str) (hwf : Spec.WF abs (specOfStep d cwd))
    (E₀ : Env) (A₀ : List (Str × List (Str × Str))) :
    ∃ sh, evalScript ⟨E₀, A₀⟩ (formatProlog abs (specOfStep d cwd) false) = .ok sh ∧
      (∀ t ∈ d.tools, ∃ v, lookup sh.env Consts.C13.varPath = some v ∧ IsComponent (abs t.execPath) v) ∧
      (∀ t ∈ d.tools, ∀ l ∈ t.libs, ∃ v, lookup sh.env Consts.C13.varLdLibraryPath = some v ∧
        IsComponent (abs (pathJoin t.step.execPath l)) v) := by
  obtain ⟨sh, h1, h2, h3, -⟩ := prolog_env_exact abs (specOfStep d cwd) hwf E₀ A₀
  refine ⟨sh, h1, fun t ht => ⟨_, h2, isComponent_join _ _ ?_⟩, fun t ht l hl => ⟨_, h3, isComponent_join _ _ ?_⟩⟩
  · exact List.mem_append_left _ (List.mem_map_of_mem (List.mem_mergeSort.mpr (List.mem_map_of_mem ht)))
  · exact List.mem_map_of_mem (List.mem_flatMap.mpr ⟨t, List.mem_mergeSort.mpr ht, List.mem_map_of_mem hl⟩)

/-- **fingerprint scripts see only `fingerprintVars` (of the step's environment) on top of the filtered host
environment**: bash evaluating the generated preamble in `E₀` (= whitelisted host variables + BOB_CWD) ends
with exactly `E₀` plus the step variables named in `fingerprintVars`, byte for byte -/
theorem fingerprint_env_only (stepEnv : Env) (fpVars : List Str) (hn : (keys stepEnv).Nodup)
    (hid : ∀ kv ∈ stepEnv, isIdent kv.1 = true ∧ NoNul kv.2) (E₀ : Env) :
    ∃ sh, evalScript ⟨E₀, []⟩ (fingerprintPreamble (fingerprintEnvOf stepEnv fpVars)) = .ok sh ∧
      ∀ k, lookup sh.env k = if k ∈ fpVars then (lookup stepEnv k).or (lookup E₀ k) else lookup E₀ k := by
  refine ⟨_, script_text_semantics _ _ (fingerprintCmds_wf _ fun kv h => hid kv (List.mem_filter.mp h).1), fun k => ?_⟩
  rw [foldl_eval_env, fingerprintCmds_exports]
  refine ((lookup_exportsEnv E₀ [] stepEnv (fun k => fpVars.contains k)
    ((List.reverse_perm _).trans (List.mergeSort_perm _ _)) List.nodup_nil hn nofun).2 k nofun).trans ?_
  simp only [List.contains_iff_mem]

/-- the command line of a fingerprint script never makes bash read `~/.bashrc`, whatever Bob's standard input is
(F-C13-1: without `--norc` a socket stdin made `bash -c` source the user's rc file); step scripts are run as script
files, which never read it -/
theorem fingerprint_no_rc (bash script : Str) (trace stdinIsSocket : Bool) :
    bashReadsRc (setupFingerprintArgs bash trace script) stdinIsSocket = false ∧
    ∀ (abs : Str → Str) (s : Spec) (exec : Str), bash ≠ ['-', 'c'] → exec ≠ ['-', 'c'] → (∀ a ∈ s.args, abs a ≠ ['-', 'c']) →
      bashReadsRc (setupCallArgs abs s bash exec trace) stdinIsSocket = false := by
  refine ⟨bashReadsRc_false _ (Or.inl ?_), fun abs s exec h1 h2 h3 => bashReadsRc_false _ (Or.inr ?_)⟩
  · exact List.mem_append_left _ (List.mem_append_left _ (List.mem_append_right _ (by decide)))
  · cases trace <;> simpa [setupCallArgs, Ne.symm h1, Ne.symm h2] using h3

/-- every dependency mount of a step comes from a VALID declared dependency: an argument, a used tool, the
sandbox image, or an earlier step of the step's own package (`chain`) -/
theorem depMounts_declared (d : StepDesc) :
    ∀ sm ∈ d.depMounts, ∃ a : DepStep,
      (a ∈ d.args ∨ (∃ t ∈ d.tools, a = t.step) ∨ d.sandbox = some a ∨ a ∈ d.chain) ∧ a.valid = true ∧
      sm = (a.storage, a.execPath) := by
  intro sm h
  obtain ⟨a, ha, rfl⟩ := List.mem_map.mp ((depMounts_sublist d).subset h)
  obtain ⟨ha, hv⟩ := List.mem_filter.mp ha
  refine ⟨a, ?_, hv, rfl⟩
  simp only [StepDesc.allDeps, sortTools, List.mem_append, List.mem_map, List.mem_mergeSort, Option.mem_toList] at ha
  rcases ha with ((ha | ⟨t, ht, rfl⟩) | ha) | ha
  · exact Or.inl ha
  · exact Or.inr (Or.inl ⟨t, ht, rfl⟩)
  · exact Or.inr (Or.inr (Or.inl ha))
  · exact Or.inr (Or.inr (Or.inr ha))

/-- **sandbox_view** (slim sandbox: `--slim-sandbox`, and steps without image under `--dev-sandbox`, `--strict-sandbox`).
Hypotheses: the helper accepted the command line Bob built (`hparse`), and — the helper's mount contract,
ASSUMED — what a path inside the sandbox leads to is given by `resolve` on the parsed mount table (`hview`).
Then (1) the only writable places are the private whiteout directory, the step's own workspace and its env
file; (2) below the project directory (`cwd`) a path leads to the private (initially empty) whiteout, the
script, the env file, the own workspace or a dependency mount — never to any other part of the project — and
the dependency mounts are read-only. -/
theorem sandbox_view (abs : Str → Str) (tmpDir cwd : Str) (entries : List Str) (rs es : Str) (net : Bool)
    (envFile : Option Str) (wsS wsE : Str) (deps : List (Str × Str)) (cmd : List Str) (o : HelperOpts)
    (hparse : parseHelper {} (renderHArgs (slimGroups tmpDir cwd entries ++
        stepGroups abs rs es net envFile wsS wsE deps) ++ ['-', '-'] :: cmd) = .ok o)
    (view : Str → Option (Mount × List Str)) (hview : ∀ p, view p = resolve o.mounts p) :
    (∀ p m rest, view p = some (m, rest) → m.rw = true →
        m = whiteoutMount tmpDir cwd ∨ m = ⟨abs wsS, abs wsE, true⟩ ∨
        ∃ f, envFile = some f ∧ m = ⟨abs f, strOf "/bob/env", true⟩) ∧
    (∀ p m rest, (comps cwd).isPrefixOf (comps p) = true → view p = some (m, rest) →
        m = whiteoutMount tmpDir cwd ∨ m ∈ stepMounts abs rs es envFile wsS wsE deps) ∧
    (∀ m ∈ stepMounts abs rs es envFile wsS wsE deps,
        m = ⟨abs rs, es, false⟩ ∨ (∃ f, envFile = some f ∧ m = ⟨abs f, strOf "/bob/env", true⟩) ∨
        m = ⟨abs wsS, abs wsE, true⟩ ∨ ∃ d ∈ deps, m = ⟨abs d.1, abs d.2, false⟩) := by
  have hm := sandbox_mounts slimGroups_ok hparse
  rw [slimGroups_mounts] at hm
  have hstep := mem_stepMounts abs rs es envFile wsS wsE deps
  refine ⟨?_, ?_, hstep⟩
  · intro p m rest hv hrw
    rw [hview, hm] at hv
    rcases List.mem_append.mp (resolve_mem hv) with h | h
    · rcases List.mem_append.mp h with h | h
      · obtain ⟨f, _, rfl⟩ := List.mem_map.mp h
        cases hrw
      · exact Or.inl (List.mem_singleton.mp h)
    · rcases hstep m h with rfl | ⟨f, hf, rfl⟩ | rfl | ⟨d, _, rfl⟩
      · cases hrw
      · exact Or.inr (Or.inr ⟨f, hf, rfl⟩)
      · exact Or.inr (Or.inl rfl)
      · cases hrw
  · intro p m rest hpre hv
    rw [hview, hm, List.append_assoc] at hv
    exact resolve_after hv hpre

/-- the parse hypothesis is satisfiable: the helper's option parser accepts a concrete slim command line -/
example : ∃ o, parseHelper {} exSlimArgv = .ok o := ⟨_, rfl⟩

/-- **sandbox_view for an image sandbox** (`--sandbox`, and steps with image under `--dev-sandbox`, `--strict-sandbox`):
under the same contract every path leads to an entry of the sandbox image (read-only), a host mount the
sandbox recipe declared (writable only if declared `rw`), the script, the env file, the own workspace or a
dependency mount (read-only); nothing else of the host or of the project exists inside. -/
theorem sandbox_view_image (abs : Str → Str) (tmpDir rootFs : Str) (entries : List Str) (isJenkins : Bool)
    (ex : Str → Bool) (hms : List HostMount) (user : Str) (rs es : Str) (net : Bool)
    (envFile : Option Str) (wsS wsE : Str) (deps : List (Str × Str)) (cmd : List Str) (o : HelperOpts)
    (hparse : parseHelper {} (renderHArgs (fatGroups tmpDir rootFs entries isJenkins ex hms user ++
        stepGroups abs rs es net envFile wsS wsE deps) ++ ['-', '-'] :: cmd) = .ok o)
    (view : Str → Option (Mount × List Str)) (hview : ∀ p, view p = resolve o.mounts p) :
    ∀ p m rest, view p = some (m, rest) →
      (∃ f ∈ entries, m = ⟨pathJoin rootFs f, '/' :: f, false⟩) ∨
      (∃ hm ∈ hms, m.src = hm.host ∧ (m.rw = true → hm.options.contains (strOf "rw") = true)) ∨
      m ∈ stepMounts abs rs es envFile wsS wsE deps := by
  have hm := sandbox_mounts (fun g hg => (fatGroups_spec g hg).1) hparse
  intro p m rest hv
  rw [hview, hm] at hv
  rcases List.mem_append.mp (resolve_mem hv) with h | h
  · obtain ⟨g, hg, hmg⟩ := List.mem_flatMap.mp h
    exact ((fatGroups_spec g hg).2 m hmg).imp_right Or.inl
  · exact Or.inr (Or.inr h)

end C13
