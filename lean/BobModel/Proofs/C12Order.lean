import BobModel.Model.Checkout
import BobModel.Proofs.CommonSort
/-
The sort order of `checkoutsFromState` (lists of path components, compared like Python lists of
strings) is a total preorder in which a directory precedes everything below it.
-/
namespace Checkout

theorem isPrefix_iff : ∀ {p q : Comps}, isPrefix p q = true ↔ p <+: q
  | [], _ => iff_of_true rfl List.nil_prefix
  | _ :: _, [] => iff_of_false Bool.false_ne_true (by simp)
  | a :: as, b :: bs => by
    rw [isPrefix, Bool.and_eq_true, beq_iff_eq, isPrefix_iff, List.cons_prefix_cons]

theorem isPrefix_refl (p : Comps) : isPrefix p p = true := isPrefix_iff.mpr (List.prefix_refl p)

theorem lexLe_cons (x y : Char) (xs ys : List Char) :
    lexLe (x :: xs) (y :: ys) = true ↔ x.toNat < y.toNat ∨ x.toNat = y.toNat ∧ lexLe xs ys = true := by
  rw [lexLe]
  rcases Nat.lt_trichotomy x.toNat y.toNat with h | h | h
  · simp [h]
  · simp [h]
  · simp [h, Nat.lt_asymm h, Nat.ne_of_gt h]

/-- the code points of a string; `lexLe` and `compsLe` are the lexicographic orders on these keys -/
def codes (s : List Char) : List Nat := s.map Char.toNat

theorem codes_inj {a b : List Char} : codes a = codes b ↔ a = b :=
  List.map_inj_right fun _ _ => Char.toNat_inj.mp

theorem lexLe_iff : ∀ a b : List Char, lexLe a b = true ↔ codes a ≤ codes b :=
  SortKey.lexLe_iff (fun _ => rfl) (fun _ _ => rfl) lexLe_cons

theorem lexLe_refl : ∀ a : List Char, lexLe a a = true :=
  SortKey.lex_refl lexLe_iff

theorem compsLe_cons (x y : String) (xs ys : Comps) :
    compsLe (x :: xs) (y :: ys) = true ↔
      x = y ∧ compsLe xs ys = true ∨ x ≠ y ∧ lexLe x.toList y.toList = true := by
  rw [compsLe]
  by_cases h : x = y
  · simp [h]
  · simp [h]

theorem compsLe_iff : ∀ a b : Comps, compsLe a b = true ↔ a.map (codes ·.toList) ≤ b.map (codes ·.toList)
  | [], _ => iff_of_true rfl (List.nil_le _)
  | _ :: _, [] => iff_of_false Bool.false_ne_true (of_decide_eq_false rfl)
  | x :: xs, y :: ys => by
    rw [compsLe_cons, compsLe_iff xs ys, lexLe_iff, List.map_cons, List.map_cons, List.cons_le_cons_iff,
      Std.lt_iff_le_and_ne]
    simp only [ne_eq, codes_inj, String.toList_inj]
    exact ⟨fun h => h.symm.imp And.symm id, fun h => h.symm.imp id And.symm⟩

theorem compsLe_total (a b : Comps) : (compsLe a b || compsLe b a) = true := by
  rw [Bool.or_eq_true, compsLe_iff, compsLe_iff]
  exact List.le_total _ _

theorem compsLe_trans (a b c : Comps) (h1 : compsLe a b = true) (h2 : compsLe b c = true) : compsLe a c = true :=
  (compsLe_iff a c).mpr (List.le_trans ((compsLe_iff a b).mp h1) ((compsLe_iff b c).mp h2))

/-- something strictly below `q` never sorts before or equal to `q`: a prefix is smaller in the
lexicographic order, and the keys determine the path -/
theorem compsLe_below_false (q p : Comps) (hp : isPrefix q p = true) (hne : q ≠ p) : compsLe p q = false := by
  rw [Bool.eq_false_iff]
  intro hle
  have hpre : q.map (codes ·.toList) ≤ p.map (codes ·.toList) := ((isPrefix_iff.mp hp).map _).le
  have hk := List.le_antisymm hpre ((compsLe_iff p q).mp hle)
  exact hne ((List.map_inj_right fun _ _ h => String.toList_inj.mp (codes_inj.mp h)).mp hk)

variable {σ : Type}

/-- **`checkoutsFromState` is top-down**: in the sorted list no entry is preceded by an entry strictly
below it - a directory always comes before the SCM directories nested in it.  This holds for all names
because the keys are lists of path components: as strings, `+x` would sort before `.` -/
theorem sortedOld_topdown (old : List (OldEntry σ)) :
    (sortedOld old).Pairwise (fun x y =>
      ¬ (isPrefix (normComps y.dir) (normComps x.dir) = true ∧ normComps y.dir ≠ normComps x.dir)) := by
  have h := List.pairwise_mergeSort (le := fun a b : OldEntry σ => compsLe (normComps a.dir) (normComps b.dir))
    (fun a b c => compsLe_trans _ _ _) (fun a b => compsLe_total _ _) old
  unfold sortedOld
  refine h.imp ?_
  intro x y hle ⟨hp, hne⟩
  rw [compsLe_below_false _ _ hp hne] at hle
  cases hle

end Checkout
