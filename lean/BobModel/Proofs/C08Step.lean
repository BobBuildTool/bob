import BobModel.Proofs.C08Walk
/-
Confined steps.  `MStep` relates two file systems (names outside the destination unchanged, inodes
that are not referenced from inside unchanged, new references inside are fresh or copies of inside
references), `Inv` is the structural invariant, `Conf` a step with both, `Good` one that
`os.path.realpath` does not see.  The elementary updates of the name table are instances of three lemmas about the
change of one name (`Inv.setAt`, `MStep.setAt`, `sameSym_setAt`); the change of an inode (`step_setInode`) is proved directly.  On top of them every operation of the
per-member extraction (`kWrite`, `chmodFollow`, `kMkdir`, `kMknod`, `kSymlink`, `makedirs`) is a
confined step, provided `os.path.realpath` of the member (follow operations, and `mkdir`, which acts
on a missing name only) resp. of its parent directory (the other no-follow operations) lies inside
the destination; `makedirs` moreover only adds directories along the resolved parent (`OnlyNew`).
`os.link` (`kLink`) is not here: it is confined only after `__checkMember`, see `link_checked` in `C08Member`.
-/
namespace TarExtract

def Inside (dest p : Path) : Prop := dest <+: p

theorem inside_append {dest p : Path} (h : Inside dest p) (q : Path) : Inside dest (p ++ q) :=
  List.IsPrefix.trans h (List.prefix_append p q)

structure Inv (dest : Path) (fs : FS) : Prop where
  wf : WF fs
  fresh : ∀ p i, fs.look p = some (.ref i) → i < fs.next
  dirs : ∀ k, k ≤ dest.length → IsDir fs (dest.take k)

theorem Inv.root {dest : Path} {fs : FS} (h : Inv dest fs) : IsDir fs [] := by
  simpa using h.dirs 0 (Nat.zero_le _)

theorem Inv.destDir {dest : Path} {fs : FS} (h : Inv dest fs) : IsDir fs dest := by
  simpa using h.dirs dest.length (Nat.le_refl _)

/-- no inode is shared between a name inside and a name outside the destination -/
def Sep (dest : Path) (fs : FS) : Prop :=
  ∀ p q i, Inside dest p → ¬ Inside dest q → fs.look p = some (.ref i) → fs.look q ≠ some (.ref i)

structure MStep (dest : Path) (a b : FS) : Prop where
  out : ∀ q, ¬ Inside dest q → b.look q = a.look q
  ino : ∀ i, i < a.next → (∀ p, Inside dest p → a.look p ≠ some (.ref i)) → b.inode i = a.inode i
  refs : ∀ p i, Inside dest p → b.look p = some (.ref i) →
    a.next ≤ i ∨ ∃ p', Inside dest p' ∧ a.look p' = some (.ref i)
  next : a.next ≤ b.next
  dirsStay : ∀ p, IsDir a p → IsDir b p

theorem MStep.refl (dest : Path) (a : FS) : MStep dest a a :=
  ⟨fun _ _ => rfl, fun _ _ _ => rfl, fun p _ hp h => Or.inr ⟨p, hp, h⟩, Nat.le_refl _, fun _ h => h⟩

theorem MStep.trans {dest : Path} {a b c : FS} (h1 : MStep dest a b) (h2 : MStep dest b c) : MStep dest a c where
  out q hq := (h2.out q hq).trans (h1.out q hq)
  ino i hi hno := by
    rw [h2.ino i (Nat.lt_of_lt_of_le hi h1.next) ?_, h1.ino i hi hno]
    intro p hp hl
    rcases h1.refs p i hp hl with h | ⟨p', hp', hl'⟩
    · omega
    · exact hno p' hp' hl'
  refs p i hp hl := by
    rcases h2.refs p i hp hl with h | ⟨p', hp', hl'⟩
    · exact Or.inl (Nat.le_trans h1.next h)
    · exact h1.refs p' i hp' hl'
  next := Nat.le_trans h1.next h2.next
  dirsStay p h := h2.dirsStay p (h1.dirsStay p h)

theorem MStep.sep {dest : Path} {a b : FS} (h : MStep dest a b) (hf : ∀ p i, a.look p = some (.ref i) → i < a.next)
    (hs : Sep dest a) : Sep dest b := by
  intro p q i hp hq hl hlq
  rw [h.out q hq] at hlq
  rcases h.refs p i hp hl with hn | ⟨p', hp', hl'⟩
  · have := hf q i hlq; omega
  · exact hs p' q i hp' hq hl' hlq

theorem MStep.outside_inode {dest : Path} {a b : FS} (h : MStep dest a b)
    (hf : ∀ p i, a.look p = some (.ref i) → i < a.next) (hs : Sep dest a)
    (q : Path) (i : Nat) (hq : ¬ Inside dest q) (hl : a.look q = some (.ref i)) : b.inode i = a.inode i :=
  h.ino i (hf q i hl) (fun p hp hlp => hs p q i hp hq hlp hl)

theorem symTarget_congr {a b : FS} {q : Path} (hl : b.look q = a.look q)
    (hi : ∀ i, a.look q = some (.ref i) → b.inode i = a.inode i) : symTarget b q = symTarget a q := by
  unfold symTarget
  rw [hl]
  cases h : a.look q with
  | none => rfl
  | some e =>
    cases e with
    | dir m => rfl
    | ref i => simp only []; rw [hi i h]

/-! ### a change of one name

All updates of the name table that the extraction performs have one shape: the entry of one name
`D/c` in an existing directory `D` becomes `e` (`none`: the name is removed), a directory stays a
directory, and a new reference is below the new `next`. -/

section SetAt
variable {dest : Path} {a b : FS} {D : Path} {c : Name} {e : Option Entry}

theorem dirsStay_setAt (hlook : ∀ q, b.look q = if q = D ++ [c] then e else a.look q)
    (hdir : IsDir a (D ++ [c]) → ∃ m, e = some (.dir m)) (p : Path) (hp : IsDir a p) : IsDir b p := by
  by_cases hpl : p = D ++ [c]
  · obtain ⟨m, hm⟩ := hdir (hpl ▸ hp)
    exact ⟨m, by rw [hlook, if_pos hpl, hm]⟩
  · obtain ⟨m, hm⟩ := hp
    exact ⟨m, by rw [hlook, if_neg hpl, hm]⟩

theorem Inv.setAt (hinv : Inv dest a) (hD : IsDir a D)
    (hlook : ∀ q, b.look q = if q = D ++ [c] then e else a.look q)
    (hdir : IsDir a (D ++ [c]) → ∃ m, e = some (.dir m)) (hnext : a.next ≤ b.next)
    (href : ∀ i, e = some (.ref i) → i < b.next) : Inv dest b where
  wf p x e' hl := by
    refine dirsStay_setAt hlook hdir p ?_
    rw [hlook] at hl
    by_cases hpl : p ++ [x] = D ++ [c]
    · exact (List.append_inj' hpl rfl).1 ▸ hD
    · rw [if_neg hpl] at hl; exact hinv.wf p x e' hl
  fresh p i hl := by
    rw [hlook] at hl
    split at hl
    · exact href i hl
    · exact Nat.lt_of_lt_of_le (hinv.fresh p i hl) hnext
  dirs k hk := dirsStay_setAt hlook hdir _ (hinv.dirs k hk)

theorem MStep.setAt (hin : Inside dest (D ++ [c]))
    (hlook : ∀ q, b.look q = if q = D ++ [c] then e else a.look q)
    (hdir : IsDir a (D ++ [c]) → ∃ m, e = some (.dir m)) (hnext : a.next ≤ b.next)
    (hino : ∀ i, i < a.next → b.inode i = a.inode i)
    (href : ∀ i, e = some (.ref i) → a.next ≤ i ∨ ∃ p', Inside dest p' ∧ a.look p' = some (.ref i)) :
    MStep dest a b where
  out q hq := by rw [hlook]; exact if_neg (fun h : q = D ++ [c] => hq (h ▸ hin))
  ino i hi _ := hino i hi
  refs p i hp hl := by
    rw [hlook] at hl
    split at hl
    · exact href i hl
    · exact Or.inr ⟨p, hp, hl⟩
  next := hnext
  dirsStay := dirsStay_setAt hlook hdir

theorem sameSym_setAt (hlook : ∀ q, b.look q = if q = D ++ [c] then e else a.look q)
    (hino : ∀ q i, a.look q = some (.ref i) → b.inode i = a.inode i)
    (hs : symTarget b (D ++ [c]) = symTarget a (D ++ [c])) : SameSym a b := by
  intro q
  by_cases hq : q = D ++ [c]
  · rw [hq, hs]
  · exact (symTarget_congr (by rw [hlook, if_neg hq]) (hino q)).symm

end SetAt

structure Conf (dest : Path) (a b : FS) : Prop where
  step : MStep dest a b
  inv : Inv dest b

structure Good (dest : Path) (a b : FS) : Prop extends Conf dest a b where
  sym : SameSym a b

section Steps
variable {dest : Path} {a : FS}

theorem Conf.refl (h : Inv dest a) : Conf dest a a := ⟨MStep.refl _ _, h⟩

theorem Conf.trans {b c : FS} (h1 : Conf dest a b) (h2 : Conf dest b c) : Conf dest a c :=
  ⟨h1.step.trans h2.step, h2.inv⟩

theorem Good.refl (h : Inv dest a) : Good dest a a := ⟨Conf.refl h, SameSym.refl _⟩

theorem Good.trans {b c : FS} (h1 : Good dest a b) (h2 : Good dest b c) : Good dest a c :=
  ⟨h1.toConf.trans h2.toConf, h1.sym.trans h2.sym⟩

variable (hinv : Inv dest a) {D : Path} {c : Name} (hin : Inside dest (D ++ [c])) (hD : IsDir a D)
include hinv

theorem step_setInode {loc : Path} {i : Nat} {o o' : Inode}
    (hin : Inside dest loc) (hl : a.look loc = some (.ref i)) (ho : a.inode i = some o)
    (hsame : o'.target = o.target) : Good dest a (a.setInode i o') := by
  refine ⟨⟨⟨fun _ _ => rfl, ?_, fun p j hp h => Or.inr ⟨p, hp, h⟩, Nat.le_refl _, fun _ h => h⟩,
    ⟨hinv.wf, hinv.fresh, hinv.dirs⟩⟩, fun q => ?_⟩
  · intro j _ hno
    rw [inode_setInode, if_neg (fun e : j = i => hno loc hin (e ▸ hl))]
  · cases hq : a.look q with
    | none => rw [symTarget_of_look_none hq]; exact (symTarget_of_look_none (fs := a.setInode i o') hq).symm
    | some e => cases e with
      | dir m => rw [symTarget_of_isDir ⟨m, hq⟩]; exact (symTarget_of_isDir (fs := a.setInode i o') ⟨m, hq⟩).symm
      | ref j =>
        rw [symTarget_of_ref hq, symTarget_of_ref (fs := a.setInode i o') hq, inode_setInode]
        split
        · rename_i hj; rw [hj, ho]; exact hsame.symm
        · rfl

include hin hD

theorem step_setDir (mode : Nat) (hold : a.look (D ++ [c]) = none ∨ IsDir a (D ++ [c])) :
    Good dest a (a.setName (D ++ [c]) (.dir mode)) := by
  have hlook q := look_setName a (D ++ [c]) q (.dir mode)
  have hdir : IsDir a (D ++ [c]) → ∃ m, some (Entry.dir mode) = some (.dir m) := fun _ => ⟨mode, rfl⟩
  refine ⟨⟨MStep.setAt hin hlook hdir (Nat.le_refl _) (fun _ _ => rfl) nofun,
    hinv.setAt hD hlook hdir (Nat.le_refl _) nofun⟩, sameSym_setAt hlook (fun _ _ _ => rfl) ?_⟩
  rw [symTarget_of_isDir ⟨mode, by rw [hlook, if_pos rfl]⟩]
  rcases hold with h | h
  · exact (symTarget_of_look_none h).symm
  · exact (symTarget_of_isDir h).symm

theorem step_link {s : Path} {i : Nat} (hmiss : a.look (D ++ [c]) = none)
    (hsin : Inside dest s) (hs : a.look s = some (.ref i)) (hnl : symTarget a s = none) :
    Good dest a (a.setName (D ++ [c]) (.ref i)) := by
  have hlook q := look_setName a (D ++ [c]) q (.ref i)
  have hdir : IsDir a (D ++ [c]) → ∃ m, some (Entry.ref i) = some (.dir m) :=
    fun h => absurd h (not_isDir_of_look_none hmiss)
  refine ⟨⟨MStep.setAt hin hlook hdir (Nat.le_refl _) (fun _ _ => rfl) ?_,
    hinv.setAt hD hlook hdir (Nat.le_refl _) ?_⟩, sameSym_setAt hlook (fun _ _ _ => rfl) ?_⟩
  · intro j hj; cases hj; exact Or.inr ⟨s, hsin, hs⟩
  · intro j hj; cases hj; exact hinv.fresh s i hs
  · rw [symTarget_of_look_none hmiss, ← hnl, symTarget_of_ref hs]
    exact symTarget_of_ref (by rw [hlook, if_pos rfl])

theorem step_unlink (hnd : ¬ IsDir a (D ++ [c])) : Conf dest a (a.delName (D ++ [c])) :=
  have hlook := look_delName a (D ++ [c])
  ⟨MStep.setAt hin hlook (fun h => absurd h hnd) (Nat.le_refl _) (fun _ _ => rfl) nofun,
    hinv.setAt hD hlook (fun h => absurd h hnd) (Nat.le_refl _) nofun⟩

/-- A new inode `o` under a name that is no directory.  `b` is `(a.alloc o).setName ..` when the name
was missing (`open`, `mknod`) and `((a.delName ..).alloc o).setName ..` after an `unlink` (`symlink`). -/
theorem step_newInode {b : FS} {o : Inode} (hnd : ¬ IsDir a (D ++ [c]))
    (hlook : ∀ q, b.look q = if q = D ++ [c] then some (.ref a.next) else a.look q)
    (hino : ∀ j, b.inode j = if j = a.next then some o else a.inode j) (hnext : b.next = a.next + 1) :
    Conf dest a b := by
  have hle : a.next ≤ b.next := by omega
  refine ⟨MStep.setAt hin hlook (fun h => absurd h hnd) hle ?_ ?_, hinv.setAt hD hlook (fun h => absurd h hnd) hle ?_⟩
  · intro i hi; rw [hino, if_neg (Nat.ne_of_lt hi)]
  · intro i hi; cases hi; exact Or.inl (Nat.le_refl _)
  · intro i hi; cases hi; omega

/-- `unlink` (of a non-directory) followed by `symlink` -/
theorem step_symlink (o : Inode) (hnd : ¬ IsDir a (D ++ [c])) :
    Conf dest a (((a.delName (D ++ [c])).alloc o).setName (D ++ [c]) (.ref a.next)) := by
  refine step_newInode hinv hin hD hnd (fun q => ?_) (inode_alloc (a.delName (D ++ [c])) o) rfl
  rw [look_setName, look_alloc, look_delName]
  split
  · rfl
  · rfl

theorem step_create (o : Inode) (hmiss : a.look (D ++ [c]) = none) (hnl : o.target = none) :
    Good dest a ((a.alloc o).setName (D ++ [c]) (.ref a.next)) := by
  have hlook q := look_setName (a.alloc o) (D ++ [c]) q (.ref a.next)
  refine ⟨step_newInode hinv hin hD (not_isDir_of_look_none hmiss) hlook (inode_alloc a o) rfl,
    sameSym_setAt hlook ?_ ?_⟩
  · intro q i hq
    rw [inode_setName, inode_alloc, if_neg (Nat.ne_of_lt (hinv.fresh q i hq))]
  · rw [symTarget_of_look_none hmiss]
    rw [symTarget_of_ref (by rw [hlook, if_pos rfl]), inode_setName, inode_alloc, if_pos rfl]
    exact hnl

end Steps

theorem prefix_missing_inside {dest L rest : Path} {fs : FS}
    (hd : ∀ k, k ≤ dest.length → IsDir fs (dest.take k)) (hin : Inside dest (L ++ rest))
    (hmiss : fs.look L = none) : Inside dest L := by
  rcases List.prefix_or_prefix_of_prefix hin (List.prefix_append L rest) with h | h
  · exact h
  · exfalso
    have hl : L = dest.take L.length := by
      rw [List.prefix_iff_eq_take] at h; exact h
    exact not_isDir_of_look_none hmiss (hl ▸ hd L.length h.length_le)

/-- what `os.makedirs` of the upper directories does (`makedirs_good`, `P` the resolved parent): directories added at
prefixes of `P` that were missing, nothing else.  Kernel walks that end at an existing entry are the same in both
(`walk_strict_onlyNew`). -/
def OnlyNew (P : Path) (a b : FS) : Prop :=
  b.inodes = a.inodes ∧ ∀ q, b.look q = a.look q ∨ (a.look q = none ∧ q <+: P ∧ IsDir b q)

theorem OnlyNew.refl (P : Path) (a : FS) : OnlyNew P a a := ⟨rfl, fun _ => Or.inl rfl⟩

theorem OnlyNew.look_some {P : Path} {a b : FS} (h : OnlyNew P a b) {q : Path} {e : Entry} (hq : a.look q = some e) :
    b.look q = some e := by
  rcases h.2 q with h' | ⟨h', _⟩
  · rw [h', hq]
  · rw [hq] at h'; cases h'

theorem OnlyNew.look_none {P : Path} {a b : FS} (h : OnlyNew P a b) {q : Path} (hq : b.look q = none) : a.look q = none := by
  rcases h.2 q with h' | ⟨h', _⟩
  · rw [← h', hq]
  · exact h'

theorem OnlyNew.trans {P : Path} {a b c : FS} (h1 : OnlyNew P a b) (h2 : OnlyNew P b c) : OnlyNew P a c := by
  refine ⟨h2.1.trans h1.1, fun q => ?_⟩
  rcases h1.2 q with e1 | ⟨n1, p1, d1⟩
  · rcases h2.2 q with e2 | ⟨n2, p2, d2⟩
    · exact Or.inl (e2.trans e1)
    · exact Or.inr ⟨by rw [← e1]; exact n2, p2, d2⟩
  · rcases h2.2 q with e2 | ⟨n2, _, _⟩
    · obtain ⟨m, hm⟩ := d1
      exact Or.inr ⟨n1, p1, m, by rw [e2]; exact hm⟩
    · exact absurd d1 (not_isDir_of_look_none n2)

theorem symTarget_onlyNew {P : Path} {a b : FS} (h : OnlyNew P a b) {q : Path} {e : Entry} (hq : a.look q = some e) :
    symTarget b q = symTarget a q := by
  unfold symTarget
  rw [h.look_some hq, hq]
  unfold FS.inode
  rw [h.1]

theorem walk_strict_onlyNew {P : Path} {a b : FS} (h : OnlyNew P a b) {follow : Bool} {n : Nat} {cur : Path}
    {p : List Name} {L : Path} {e : Entry} (hL : a.look L = some e) :
    walk a true follow n cur p = .ok L → walk b true follow n cur p = .ok L := by
  induction n, cur, p using walk_induction a with
  | nil => simp only [walk_nil]; exact id
  | eloop => exact id
  | dot n cur p ih => simpa only [walk_dot] using ih
  | dotdot n cur p ih => simpa only [walk_dotdot] using ih
  | link n cur c p t hd hdd hs ih =>
    have hs' : symTarget b (cur ++ [c]) = some t := by
      cases hl : a.look (cur ++ [c]) with
      | none => rw [symTarget_of_look_none hl] at hs; cases hs
      | some e' => rw [symTarget_onlyNew h hl, hs]
    rw [walk_link hd hdd hs, walk_link hd hdd hs']
    split
    · exact id
    · exact ih
  | plain n cur c p hd hdd hs ih =>
    rw [walk_strict_plain hd hdd hs]
    cases hl : a.look (cur ++ [c]) with
    | none => intro hw; rw [← (stop_ok hw).2, hl] at hL; cases hL
    | some e' =>
      rw [walk_strict_plain hd hdd (by rw [symTarget_onlyNew h hl, hs]), h.look_some hl]
      cases e' with
      | dir m => exact ih
      | ref i => exact id

section Ops
variable {dest : Path} {cfg : Cfg} {a : FS} (hinv : Inv dest a)
include hinv

section Follow
variable {full : List Name} {R : Path} (hR : walk a false true cfg.fuel [] full = .ok R) (hRin : Inside dest R)
include hR hRin

/-- `open(full, "wb")` + write -/
theorem kWrite_good (data : Str) : Good dest a (kWrite a cfg full data).1 := by
  unfold kWrite kres
  cases hk : walk a true true cfg.fuel [] full with
  | error e => exact Good.refl hinv
  | ok loc =>
    cases walk_strict_eq_lenient hk hR
    dsimp only
    cases hl : a.look R with
    | none =>
      rcases walk_strict_parent hinv.wf hinv.root hinv.root hk with hd | ⟨D, c, rfl, hD⟩
      · exact absurd hd (not_isDir_of_look_none hl)
      · exact step_create hinv hRin hD _ hl rfl
    | some e => cases e with
      | dir m => exact Good.refl hinv
      | ref i =>
        dsimp only
        cases hi : a.inode i with
        | none => exact Good.refl hinv
        | some ino =>
          obtain ⟨ob, md⟩ := ino
          cases ob with
          | file d => exact step_setInode hinv hRin hl hi rfl
          | _ => exact Good.refl hinv

/-- `chown` / `chmod` / `utime` through the name -/
theorem chmodFollow_good (hdne : dest ≠ []) (mode : Nat) : Good dest a (chmodFollow a cfg full mode) := by
  unfold chmodFollow kres
  cases hk : walk a true true cfg.fuel [] full with
  | error e => exact Good.refl hinv
  | ok loc =>
    cases walk_strict_eq_lenient hk hR
    dsimp only
    cases hl : a.look R with
    | none => exact Good.refl hinv
    | some e => cases e with
      | dir m =>
        rcases eq_nil_or_snoc R with rfl | ⟨D, c, rfl⟩
        · exact absurd (List.prefix_nil.mp hRin) hdne
        · exact step_setDir hinv hRin (hinv.wf D c _ hl) mode (Or.inr ⟨m, hl⟩)
      | ref i =>
        dsimp only
        cases hi : a.inode i with
        | none => exact Good.refl hinv
        | some ino =>
          refine step_setInode hinv hRin hl hi ?_
          obtain ⟨ob, md⟩ := ino
          cases ob <;> rfl

end Follow

/-! ### operations on a name `c` in the directory `realpath(up)` -/

section NoFollow
variable {up : List Name} {c : Name} (hc : c ≠ dot ∧ c ≠ dotdot)
  {P : Path} (hP : walk a false true cfg.fuel [] up = .ok P) (hPin : Inside dest P)
include hc hP hPin

theorem nofollow_location {L : Path} (hL : walk a true false cfg.fuel [] (up ++ [c]) = .ok L) :
    L = P ++ [c] ∧ IsDir a P ∧ Inside dest (P ++ [c]) := by
  obtain ⟨D, hD, hLD, hDdir⟩ := walk_split_last hinv.wf hinv.root hc hinv.root hL
  cases walk_strict_eq_lenient hD hP
  exact ⟨hLD, hDdir, inside_append hPin _⟩

/-- `os.mkfifo(up/c)` / `os.mknod(up/c)` -/
theorem kMknod_good (o : Obj) (ho : Inode.target ⟨o, 0o644⟩ = none) :
    Good dest a (kMknod a cfg (up ++ [c]) o).1 := by
  unfold kMknod kres
  cases hk : walk a true false cfg.fuel [] (up ++ [c]) with
  | error e => exact Good.refl hinv
  | ok L =>
    obtain ⟨rfl, hD, hin⟩ := nofollow_location hinv hc hP hPin hk
    dsimp only
    cases hl : a.look (P ++ [c]) with
    | some e => exact Good.refl hinv
    | none => exact step_create hinv hin hD _ hl ho

/-- `unlink` + `symlink` at `up/c`: confined, but seen by realpath -/
theorem kSymlink_conf (target : Str) : Conf dest a (kSymlink a cfg (up ++ [c]) target).1 := by
  unfold kSymlink kres
  split
  · exact Conf.refl hinv
  cases hk : walk a true false cfg.fuel [] (up ++ [c]) with
  | error e => exact Conf.refl hinv
  | ok L =>
    obtain ⟨rfl, hD, hin⟩ := nofollow_location hinv hc hP hPin hk
    dsimp only
    split
    · exact Conf.refl hinv
    · rename_i hnd
      have hnd : ¬ IsDir a (P ++ [c]) := fun ⟨m, hm⟩ => hnd m hm
      split
      · split
        · exact step_symlink hinv hin hD _ hnd
        · exact step_unlink hinv hin hD hnd
      · exact step_unlink hinv hin hD hnd

end NoFollow

/-- `os.mkdir(q/c)`: where the location is missing, realpath of a longer path `q/c/rest…` passes through it
(`P` is that location followed by `rest`), and that is known to end inside -/
theorem kMkdir_missing_good {q rest : List Name} {c : Name} (hc : Plain c)
    (hrest : ∀ x ∈ rest, Plain x) {P : Path}
    (hP : walk a false true cfg.fuel [] (q ++ [c] ++ rest) = .ok P) (hPin : Inside dest P) (mode : Nat) :
    Good dest a (kMkdir a cfg (q ++ [c]) mode).1 ∧ OnlyNew P a (kMkdir a cfg (q ++ [c]) mode).1 ∧
    ((kMkdir a cfg (q ++ [c]) mode).2 = .ok → ∃ L, P = L ++ rest ∧ a.look L = none) := by
  unfold kMkdir kres
  cases hk : walk a true false cfg.fuel [] (q ++ [c]) with
  | error e => exact ⟨Good.refl hinv, OnlyNew.refl _ _, nofun⟩
  | ok L =>
    dsimp only
    cases hl : a.look L with
    | some e => exact ⟨Good.refl hinv, OnlyNew.refl _ _, nofun⟩
    | none =>
      obtain ⟨D, -, rfl, hD⟩ := walk_split_last hinv.wf hinv.root ⟨hc.2.1, hc.2.2⟩ hinv.root hk
      have hk' := walk_strict_lenient (walk_nofollow_follow (symTarget_of_look_none hl) hk)
      cases walk_lenient_append_missing hinv.wf hrest hl hk' hP
      refine ⟨step_setDir hinv (prefix_missing_inside hinv.dirs hPin hl) hD mode (Or.inl hl), ⟨rfl, fun p => ?_⟩,
        fun _ => ⟨_, rfl, hl⟩⟩
      rw [look_setName]
      split
      · rename_i hp
        exact Or.inr ⟨hp ▸ hl, hp ▸ List.prefix_append _ _, mode, by rw [look_setName, if_pos hp]⟩
      · exact Or.inl rfl

theorem kMkdir_good {up : List Name} {c : Name} (hc : Plain c) {R : Path}
    (hR : walk a false true cfg.fuel [] (up ++ [c]) = .ok R) (hRin : Inside dest R) (mode : Nat) :
    Good dest a (kMkdir a cfg (up ++ [c]) mode).1 :=
  (kMkdir_missing_good hinv hc (rest := []) nofun (by rwa [List.append_nil]) hRin mode).1

variable (hdp : ∀ c ∈ dest, c ≠ dot ∧ c ≠ dotdot) (hfuel : dest.length ≤ cfg.fuel)
include hdp hfuel

theorem walk_dest (strict follow : Bool) : walk a strict follow cfg.fuel [] dest = .ok dest :=
  walk_self strict follow hdp (fun k hk => hinv.dirs k (Nat.le_of_lt hk)) (symTarget_of_isDir hinv.destDir) hfuel

theorem kexists_dest : kexists a cfg dest = true := by
  obtain ⟨m, hm⟩ := hinv.destDir
  unfold kexists kres
  rw [walk_dest hinv hdp hfuel true true]
  dsimp only
  rw [hm]; rfl

omit hinv in
/-- `os.makedirs(dest/cs)`, where `_extract_member` or `makedirs` itself calls it at all, creates only inside
directories, at prefixes of `P = realpath(dest/ups)` that were missing; the recursion ends at the destination,
which exists.  When it reports success it has either not run or has created the last directory itself. -/
theorem makedirs_good {ups : List Name} (hups : ∀ c ∈ ups, Plain c) {P : Path}
    (hPin : Inside dest P) (k : Nat) (cs rest : List Name) (a : FS) (hsplit : ups = cs ++ rest)
    (hinv : Inv dest a) (hP : walk a false true cfg.fuel [] (dest ++ ups) = .ok P) {r : FS × KRes}
    (hr : (if dest ++ cs ≠ [] ∧ kexists a cfg (dest ++ cs) = false
      then makedirs a cfg k (dest ++ cs) else (a, KRes.ok)) = r) :
    Good dest a r.1 ∧ OnlyNew P a r.1 ∧ (r.2 = .ok → r.1 = a ∨ ∃ L, P = L ++ rest ∧ a.look L = none) := by
  subst hr
  have hrefl (res : KRes) (Q : Prop) : Good dest a a ∧ OnlyNew P a a ∧ (res = .ok → a = a ∨ Q) :=
    ⟨Good.refl hinv, OnlyNew.refl _ _, fun _ => Or.inl rfl⟩
  induction k generalizing cs rest with
  | zero => split <;> exact hrefl _ _
  | succ k ih =>
    split
    case isFalse => exact hrefl _ _
    rename_i hcond
    rcases eq_nil_or_snoc cs with rfl | ⟨cs', c, rfl⟩
    · rw [List.append_nil, kexists_dest hinv hdp hfuel] at hcond
      exact absurd hcond.2 (by decide)
    · have hc : Plain c := hups c (by rw [hsplit]; simp)
      have hrest : ∀ x ∈ rest, Plain x := fun x hx => hups x (by rw [hsplit]; simp [hx])
      have hlast : (dest ++ (cs' ++ [c])).getLast? = some c := by
        rw [← List.append_assoc]; simp
      have hdrop : (dest ++ (cs' ++ [c])).dropLast = dest ++ cs' := by
        rw [← List.append_assoc]; simp
      simp only [makedirs, hlast, hdrop]
      have hrec := ih cs' (c :: rest) (by rw [hsplit]; simp)
      generalize (if dest ++ cs' ≠ [] ∧ kexists a cfg (dest ++ cs') = false
          then makedirs a cfg k (dest ++ cs') else (a, KRes.ok)) = r1 at hrec ⊢
      obtain ⟨a1, res⟩ := r1
      obtain ⟨hg, hon, -⟩ := hrec
      have hP1 : walk a1 false true cfg.fuel [] (dest ++ cs' ++ [c] ++ rest) = .ok P := by
        rw [← walk_lenient_sameSym hg.sym true, ← hP, hsplit]; simp
      obtain ⟨hmg, hmo, hmn⟩ := kMkdir_missing_good hg.inv hc hrest hP1 hPin 0o755
      rw [List.append_assoc] at hmg hmo hmn
      rw [if_neg hc.2.1]
      -- the location that the last `mkdir` found missing was missing from the start
      have hnew : (kMkdir a1 cfg (dest ++ (cs' ++ [c])) 0o755).2 = .ok → ∃ L, P = L ++ rest ∧ a.look L = none :=
        fun h => have ⟨L, hPL, hl⟩ := hmn h; ⟨L, hPL, hon.look_none hl⟩
      cases res with
      | fail => exact ⟨hg, hon, nofun⟩
      | unsup => exact ⟨hg, hon, nofun⟩
      | ok => exact ⟨hg.trans hmg, hon.trans hmo, fun h => Or.inr (hnew h)⟩
      | eexist => exact ⟨hg.trans hmg, hon.trans hmo, fun h => Or.inr (hnew h)⟩

end Ops

end TarExtract
