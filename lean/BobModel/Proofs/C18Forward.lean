import BobModel.Proofs.C18Eval
/-
The loop of `LocationPath.evalForward`.  Its control flow only depends on which of the successive
context node lists are empty, so the node part is split off as `selNodes`; the empty-mode decisions
are read off the loop and related to `sem` through `mem_selNodes`.  Facts about a successful run are
proved with the loop rule `forwardLoop_induction`.
-/
namespace PathSpec

/-- the nodes an iteration adds besides the new context nodes -/
def between (g : Graph) (old ns : List Node) : Option Bool → List Node
  | some qi => findIntermediateNodes g old ns qi
  | none => ns

/-- the update of `valid` in one iteration of the loop -/
def nextValid (g : Graph) (old valid nodes : List Node) (search : Option Bool) : List Node :=
  inter (union (union valid (between g old nodes search)) nodes)
    (findReachableSubset g (union (union valid (between g old nodes search)) nodes) nodes)

theorem forwardLoop_cons (g : Graph) (mode : Mode) (ax : Axis) (test : Str) (op : OptPred) (rest : Steps)
    (old valid : List Node) (wc : Bool) :
    forwardLoop g mode (.cons ax test op rest) old valid wc =
      if (stepForward g ax test op old).1.isEmpty && mode != .nullset && !(wc || (stepForward g ax test op old).2.2)
      then .error .notFound
      else if (stepForward g ax test op old).1.isEmpty && mode != .nullset && mode == .nullfail then .error .noMatch
      else forwardLoop g mode rest (stepForward g ax test op old).1
        (nextValid g old valid (stepForward g ax test op old).1 (axisForward g ax old).2)
        (wc || (stepForward g ax test op old).2.2) := by
  -- `search` becomes a constructor once the axis is known
  cases ax <;> rfl

theorem stepForward_cq (g : Graph) (ax : Axis) (test : Str) (op : OptPred) (old : List Node) :
    (stepForward g ax test op old).2.2 = stepComplex ax test op := by
  have hSD : (axisForward g ax old).2.isSome =
      (ax == .descendant || ax == .descendantOrSelf || ax == .directDescendant || ax == .directDescendantOrSelf) := by
    cases ax <;> rfl
  simp only [stepForward, stepComplex, hSD]
  -- the test for `*` itself is subsumed by the test for a wildcard
  by_cases h1 : test = star
  · subst h1; simp [star]
  · cases test.contains '*' <;> simp [h1, Bool.or_comm]

/-- the context nodes after the steps: the node part of the loop without `valid` and the exits -/
def selNodes (g : Graph) : Steps → List Node → List Node
  | .nil, old => old
  | .cons ax test op rest, old => selNodes g rest (stepForward g ax test op old).1

theorem sem_cons_iff {g : Graph} (hwf : g.WF) {ax : Axis} {test : Str} {op : OptPred} {rest : Steps}
    {old : List Node} (hold : ∀ a ∈ old, a < g.size) (m : Node) :
    (∃ a ∈ old, sem g (.cons ax test op rest) a m) ↔
      ∃ c ∈ (stepForward g ax test op old).1, sem g rest c m := by
  simp only [sem, mem_stepForward hwf hold]
  constructor
  · rintro ⟨a, ha, c, hax, hname, hop, hrest⟩
    exact ⟨c, ⟨a, ha, hax, hname, hop⟩, hrest⟩
  · rintro ⟨c, ⟨a, ha, hax, hname, hop⟩, hrest⟩
    exact ⟨a, ha, c, hax, hname, hop, hrest⟩

theorem mem_selNodes {g : Graph} (hwf : g.WF) :
    ∀ (steps : Steps) (old : List Node), (∀ a ∈ old, a < g.size) →
      ∀ m, m ∈ selNodes g steps old ↔ ∃ a ∈ old, sem g steps a m
  | .nil, old, _, m => by simp [selNodes, sem]
  | .cons ax test op rest, old, hold, m => by
    rw [selNodes, mem_selNodes hwf rest _ (stepForward_lt hwf hold)]
    exact (sem_cons_iff hwf hold m).symm

theorem selNodes_eq_nil {g : Graph} (hwf : g.WF) {steps : Steps} {old : List Node} (hold : ∀ a ∈ old, a < g.size) :
    selNodes g steps old = [] ↔ ∀ m, ¬ ∃ a ∈ old, sem g steps a m := by
  simp only [List.eq_nil_iff_forall_not_mem, mem_selNodes hwf steps old hold]

theorem selNodes_nil {g : Graph} (hwf : g.WF) (steps : Steps) : selNodes g steps [] = [] :=
  (selNodes_eq_nil hwf (by simp)).mpr (by simp)

/-- loop rule for a run of `forwardLoop` that does not raise: an invariant of the remaining steps,
the context nodes and `valid` that survives every iteration holds at the end -/
theorem forwardLoop_induction {g : Graph} {mode : Mode} (I : Steps → List Node → List Node → Prop)
    (step : ∀ ax test op rest old valid, I (.cons ax test op rest) old valid →
      I rest (stepForward g ax test op old).1
        (nextValid g old valid (stepForward g ax test op old).1 (axisForward g ax old).2)) :
    ∀ (steps : Steps) (old valid : List Node) (wc : Bool) (nodes v : List Node),
      forwardLoop g mode steps old valid wc = .ok (nodes, v) → I steps old valid → I .nil nodes v
  | .nil, old, valid, wc, nodes, v, h, hI => by
    simp only [forwardLoop, Except.ok.injEq, Prod.mk.injEq] at h
    obtain ⟨rfl, rfl⟩ := h
    exact hI
  | .cons ax test op rest, old, valid, wc, nodes, v, h, hI => by
    rw [forwardLoop_cons] at h
    split at h
    · cases h
    · split at h
      · cases h
      · exact forwardLoop_induction I step rest _ _ _ nodes v h (step _ _ _ _ _ _ hI)

theorem forwardLoop_nodes {g : Graph} {mode : Mode} {steps : Steps} {old valid : List Node} {wc : Bool}
    {nodes v : List Node} (h : forwardLoop g mode steps old valid wc = .ok (nodes, v)) :
    nodes = selNodes g steps old :=
  forwardLoop_induction (fun s o _ => selNodes g s o = selNodes g steps old) (fun _ _ _ _ _ _ hI => hI)
    steps old valid wc nodes v h rfl

theorem forwardLoop_error (g : Graph) (mode : Mode) :
    ∀ (steps : Steps) (old valid : List Node) (wc : Bool) (e : QErr),
      forwardLoop g mode steps old valid wc = .error e →
      mode ≠ .nullset ∧ (e = .notFound → wc = false) ∧ (e = .noMatch → mode = .nullfail)
  | .nil, old, valid, wc, e, h => by simp [forwardLoop] at h
  | .cons ax test op rest, old, valid, wc, e, h => by
    rw [forwardLoop_cons] at h
    split at h
    · rename_i hc
      cases h
      simp only [Bool.and_eq_true, bne_iff_ne, Bool.not_eq_true', Bool.or_eq_false_iff] at hc
      exact ⟨hc.1.2, fun _ => hc.2.1, fun h => by cases h⟩
    · split at h
      · rename_i hc
        cases h
        simp only [Bool.and_eq_true, bne_iff_ne, beq_iff_eq] at hc
        exact ⟨hc.1.2, fun h => (by cases h), fun _ => hc.2⟩
      · obtain ⟨h1, h2, h3⟩ := forwardLoop_error g mode rest _ _ _ e h
        exact ⟨h1, fun he => (Bool.or_eq_false_iff.mp (h2 he)).1, h3⟩

/-- "Package not found" is raised exactly if some prefix of the path consists of simple steps
only and already selects nothing -/
theorem forwardLoop_notFound (g : Graph) {mode : Mode} (hmode : mode ≠ .nullset) :
    ∀ (steps : Steps) (old valid : List Node), old ≠ [] →
      (forwardLoop g mode steps old valid false = .error .notFound ↔
        ∃ k, (steps.take k).anyComplex = false ∧ selNodes g (steps.take k) old = [])
  | .nil, old, valid, hne => by
    constructor
    · intro h; simp [forwardLoop] at h
    · rintro ⟨k, _, hem⟩
      cases k <;> exact absurd hem hne
  | .cons ax test op rest, old, valid, hne => by
    have hmode' : (mode != Mode.nullset) = true := by simpa using hmode
    -- a prefix that selects nothing is not the empty one
    have hrhs : (∃ k, ((Steps.cons ax test op rest).take k).anyComplex = false ∧
          selNodes g ((Steps.cons ax test op rest).take k) old = []) ↔
        stepComplex ax test op = false ∧ ∃ k, (rest.take k).anyComplex = false ∧
          selNodes g (rest.take k) (stepForward g ax test op old).1 = [] := by
      constructor
      · rintro ⟨k, hk, hem⟩
        cases k with
        | zero => exact absurd hem hne
        | succ k =>
          simp only [Steps.take, Steps.anyComplex, Bool.or_eq_false_iff] at hk
          exact ⟨hk.1, k, hk.2, hem⟩
      · rintro ⟨hC, k, hk, hem⟩
        exact ⟨k + 1, by simp [Steps.take, Steps.anyComplex, hC, hk], hem⟩
    rw [hrhs, forwardLoop_cons, stepForward_cq]
    simp only [hmode', Bool.and_true, Bool.false_or]
    cases hC : stepComplex ax test op with
    | true =>
      simp only [Bool.not_true, Bool.and_false, Bool.false_eq_true, if_false, reduceCtorEq, false_and, iff_false]
      split
      · simp
      · exact fun h => by cases (forwardLoop_error g _ _ _ _ _ _ h).2.1 rfl
    | false =>
      simp only [Bool.not_false, Bool.and_true, true_and]
      cases hE : (stepForward g ax test op old).1.isEmpty with
      | true =>
        simp only [Bool.true_and, if_true, true_iff]
        exact ⟨0, rfl, List.isEmpty_iff.mp hE⟩
      | false =>
        simp only [Bool.false_and, Bool.false_eq_true, if_false]
        exact forwardLoop_notFound g hmode rest _ _ (fun h => by simp [h] at hE)

theorem forwardLoop_nullfail {g : Graph} (hwf : g.WF) :
    ∀ (steps : Steps) (old valid : List Node) (wc : Bool), old ≠ [] →
      ((∃ e, forwardLoop g .nullfail steps old valid wc = .error e) ↔ selNodes g steps old = [])
  | .nil, old, valid, wc, hne => by
    simp [forwardLoop, selNodes, hne]
  | .cons ax test op rest, old, valid, wc, hne => by
    rw [forwardLoop_cons, selNodes]
    cases hE : (stepForward g ax test op old).1.isEmpty with
    | true =>
      simp only [List.isEmpty_iff.mp hE, selNodes_nil hwf, iff_true]
      cases wc || (stepForward g ax test op old).2.2
      · exact ⟨.notFound, rfl⟩
      · exact ⟨.noMatch, rfl⟩
    | false =>
      simp only [Bool.false_and, Bool.false_eq_true, if_false]
      exact forwardLoop_nullfail hwf rest _ _ _ (fun h => by simp [h] at hE)

end PathSpec
