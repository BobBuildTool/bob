import BobModel.Proofs.C09Inv
/-
C09: what a single step can do to the name table, lifted to schedules.
A `step` (run, injected error, kill, or no-op of a dead process) has one of the three shapes of `Shape`
(`step_shape`); names, inodes and the other fields of the process records are read off the shape.  The `killed`
flag is not part of it: where `gaveUp` or a dead process matters, `step` is unfolded.
-/
namespace ArchiveFS
variable {prog : Pid → Params} {s : State}

theorem run_append (prog : Pid → Params) (s : State) (a b : Sched) :
    run prog s (a ++ b) = run prog (run prog s a) b := by
  induction a generalizing s with
  | nil => rfl
  | cons x rest ih => simp [run, ih]

theorem Shape.refl {pr : Params} {p : Pid} {f : Bool} : Shape pr s p f s :=
  .quiet (.inl rfl) rfl rfl ⟨rfl, rfl, rfl⟩ rfl (.inl rfl) Flow.refl (fun _ _ => rfl)

theorem step_shape (prog : Pid → Params) (s : State) (p : Pid) (c : Choice) :
    Shape (prog p) s p (c != .run) (step prog s p c) := by
  unfold step
  split
  · exact .refl
  · cases c with
    | run => exact exec_shape ..
    | fail => exact exec_shape ..
    | kill => exact .kill

theorem run_art_stable (h : Inv prog s) (sched : Sched) (i : Ino) (ha : s.names .art = some i) :
    (run prog s sched).names .art = some i ∧ (run prog s sched).inodes i = s.inodes i := by
  induction sched generalizing s with
  | nil => exact ⟨ha, rfl⟩
  | cons x rest ih =>
    have h1 := (step_shape prog s x.1 x.2).art_stable h ha
    have h2 := ih (step_inv x.1 x.2 h) h1.1
    exact ⟨h2.1, h2.2.trans h1.2⟩

/-- the process will never publish: it was killed, is on the failure edge of `__exit__`, has lost the
race, or has returned -/
def gaveUp (q : Proc) : Bool :=
  q.killed ||
  match q.pc with
  | .fClose | .fUnlink | .done _ | .close false | .unlink .lost | .unlink .err => true
  | _ => false

theorem gaveUp_eq (q : Proc) : gaveUp q = (q.killed || q.pc.gaveUp) := by
  unfold gaveUp PC.gaveUp
  split <;> simp_all

theorem step_gaveUp (p p' : Pid) (c : Choice)
    (hg : gaveUp (s.procs p') = true) (hl : (s.procs p').linked = false) :
    gaveUp ((step prog s p c).procs p') = true ∧ ((step prog s p c).procs p').linked = false := by
  by_cases hp : p' = p
  · subst hp
    by_cases hk : (s.procs p').killed = true
    · simpa [step, hk] using ⟨hg, hl⟩
    · have hpc : (s.procs p').pc.gaveUp = true := by simpa [gaveUp_eq, hk] using hg
      cases c with
      | kill => simp [step, hk, gaveUp_eq, upd_self, hl]
      | run | fail =>
        -- a process that gave up is past the only pcs (`create`, `publish`) whose operation is not a `Flow`
        cases step_shape prog s p' _ with
        | quiet _ _ _ _ e _ hf => exact ⟨by rw [gaveUp_eq, hf.gaveUp hpc, Bool.or_true], e ▸ hl⟩
        | create hc => rw [hc.pc] at hpc; cases hpc
        | publish _ hq => rw [hq] at hpc; cases hpc
  · rw [(step_shape prog s p c).frame _ hp]; exact ⟨hg, hl⟩

theorem run_gaveUp (sched : Sched) (p' : Pid)
    (hg : gaveUp (s.procs p') = true) (hl : (s.procs p').linked = false) :
    gaveUp ((run prog s sched).procs p') = true ∧ ((run prog s sched).procs p').linked = false := by
  induction sched generalizing s with
  | nil => exact ⟨hg, hl⟩
  | cons x rest ih =>
    have h1 := step_gaveUp (prog := prog) x.1 p' x.2 hg hl
    exact ih h1.1 h1.2

theorem step_rebind (h : Inv prog s) (p : Pid) (c : Choice) (n : Name) (i : Ino) (hn : s.names n = some i) :
    (∀ j, (step prog s p c).names n = some j → j ≠ i →
      ∃ x, n = .md x ∧ (prog p).kind = .md x ∧ (s.procs p).pc = .publish) ∧
    ((step prog s p c).names n = none → ∃ k, n = .tmp k) := by
  generalize step prog s p c = s', step_shape prog s p c = hs
  -- the name table at `n` is as before, except where a `upd` hits `n`
  have same (e : s'.names n = s.names n) :
      (∀ j, s'.names n = some j → j ≠ i → ∃ x, n = .md x ∧ (prog p).kind = .md x ∧ (s.procs p).pc = .publish) ∧
      (s'.names n = none → ∃ k, n = .tmp k) := by
    rw [e, hn]; exact ⟨fun j hj hne => absurd (Option.some.inj hj).symm hne, fun hx => nomatch hx⟩
  cases hs with
  | quiet e =>
    rcases e with e | e
    · exact same (e ▸ rfl)
    · by_cases ht : n = .tmp (s.procs p).tmp
      · rw [e, ht, upd_self]; exact ⟨fun j hj => (nomatch hj), fun _ => ⟨_, rfl⟩⟩
      · exact same (by rw [e, upd_ne _ _ ht])
  | create hc =>
    refine same (by rw [hc.names, upd_ne]; rintro rfl; exact Nat.lt_irrefl _ (h.tmp_lt _ _ hn))
  | publish _ hpc _ e =>
    rcases e with ⟨ho, e⟩ | ⟨hd, e⟩
    · obtain ⟨x, hx⟩ := overwrite_kind _ ho
      by_cases ht : n = .tmp (s.procs p).tmp
      · rw [e, ht, upd_self]; exact ⟨fun j hj => (nomatch hj), fun _ => ⟨_, rfl⟩⟩
      · by_cases hd : n = dest (prog p).kind
        · rw [e, upd_ne _ _ ht, hd, upd_self]
          exact ⟨fun j _ _ => ⟨x, by rw [hx]; rfl, hx, hpc⟩, fun hx => nomatch hx⟩
        · exact same (by rw [e, upd_ne _ _ ht, upd_ne _ _ hd])
    · exact same (by rw [e, upd_ne]; rintro rfl; rw [hn] at hd; cases hd)

theorem step_sets_linked (p p' : Pid) (c : Choice)
    (h0 : (s.procs p').linked = false) (h1 : ((step prog s p c).procs p').linked = true) :
    p' = p ∧ c = .run ∧ (s.procs p).pc = .publish ∧ (s.procs p).killed = false := by
  have hp : p' = p := by
    refine Classical.byContradiction fun hp => ?_
    rw [(step_shape prog s p c).frame _ hp, h0] at h1; cases h1
  subst hp
  have hk : (s.procs p').killed = false := by
    cases hk : (s.procs p').killed
    · rfl
    · simp [step, hk, h0] at h1
  have old (e : ((step prog s p' c).procs p').linked = (s.procs p').linked) : False := by
    rw [e, h0] at h1; cases h1
  cases step_shape prog s p' c with
  | quiet _ _ _ _ e => exact (old e).elim
  | create hc => exact (old hc.linked).elim
  | publish hrun hpc => exact ⟨rfl, by cases c <;> simp_all, hpc, hk⟩

end ArchiveFS
