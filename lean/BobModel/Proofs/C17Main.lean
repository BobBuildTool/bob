import BobModel.Proofs.C17Sem
/-
C17: `parse (render t) = eval t` (`C17.subst_render_eval`) — the mutual structural induction over fragment trees (`pFrag`,
`pList`, `pArgs`) with the quoting lemmas it needs, and a second one for untaken branches (`evalF_off`, `evalL_off`, `evalArgs_off`).
-/
namespace C17
open StringParser SubstSpec

/-- what a delimiter context must satisfy so that every fragment can be written inside it -/
structure GoodDelims (E : List Char) : Prop where
  sq : E.contains '\'' = false
  dollar : E.contains '$' = false
  bs : E.contains '\\' = false
  noName : ∀ c ∈ E, Consts.C17.nameChars.contains c = false

theorem good_top : GoodDelims ctxTop := ⟨by decide, by decide, by decide, by decide +kernel⟩
theorem good_dq : GoodDelims ctxDq := ⟨by decide, by decide, by decide, by decide +kernel⟩
theorem good_name : GoodDelims ctxName := ⟨by decide, by decide, by decide, by decide +kernel⟩
theorem good_branch : GoodDelims ctxBranch := ⟨by decide, by decide, by decide, by decide +kernel⟩
theorem good_word : GoodDelims ctxWord := ⟨by decide, by decide, by decide, by decide +kernel⟩

/-- the text after a fragment list: end of input (if allowed) or a closing delimiter -/
def Term (E : List Char) (o : Bool) (tail : Str) : Prop :=
  (tail = [] ∧ o = true) ∨ (∃ c t, tail = c :: t ∧ E.contains c = true)

def closeRest (k : Bool) (tail : Str) : Str :=
  match tail with
  | [] => []
  | c :: t => if k then c :: t else t

theorem closeRest_true (T : Str) : closeRest true T = T := by cases T <;> rfl

/-- `X` does not extend a bare variable name written directly in front of it -/
def okNext (X : Str) : Prop :=
  match X with
  | [] => True
  | c :: _ => Consts.C17.nameChars.contains c = false

theorem term_cons {E : List Char} {o : Bool} {c : Char} {t : Str} (h : E.contains c = true) :
    Term E o (c :: t) := Or.inr ⟨c, t, rfl, h⟩

theorem term_colon (colon : Bool) {op : Char} {t : Str} (h : ctxName.contains op = true) :
    Term ctxName false (colonStr colon ++ op :: t) := by
  cases colon
  · exact term_cons h
  · exact term_cons (by decide)

theorem GS_term {cfg : Cfg} {E : List Char} {o k sb : Bool} {tail : Str} (h : Term E o tail) :
    GS cfg E o k sb tail (.ok ([], closeRest k tail)) := by
  rcases h with ⟨rfl, rfl⟩ | ⟨c, t, rfl, hc⟩
  · exact GS_eos
  · exact GS_close hc

theorem getRestOfName_app (nm X : Str) (hnm : nm.all Consts.C17.nameChars.contains = true)
    (hX : okNext X) : getRestOfName (nm ++ X) = (nm, X) := by
  induction nm with
  | nil =>
    cases X with
    | nil => rfl
    | cons c t =>
      simp only [okNext] at hX
      simp only [List.nil_append, getRestOfName, hX, Bool.false_eq_true, if_false]
  | cons c nm ih =>
    simp only [List.all_cons, Bool.and_eq_true] at hnm
    simp only [List.cons_append, getRestOfName, hnm.1, if_true, ih hnm.2]

theorem meta_not_name : ∀ c ∈ metaChars, Consts.C17.nameChars.contains c = false := by decide +kernel

theorem okNext_render (E : List Char) (hG : GoodDelims E) (o : Bool) (fs : List Frag) (tail : Str)
    (hs : startOk fs = true) (ht : Term E o tail) : okNext (renderL E fs ++ tail) := by
  cases fs with
  | nil =>
    rcases ht with ⟨rfl, _⟩ | ⟨c, t, rfl, hc⟩
    · trivial
    · exact hG.noName c (by simpa using hc)
  | cons f fs =>
    -- every fragment but an unescaped literal starts with one of `\ ' " $`
    cases f with
    | lit c =>
      simp only [startOk, Bool.not_eq_true'] at hs
      simp only [renderL, Frag.render, renderLit]
      split
      · exact meta_not_name _ (by decide)
      · exact hs
    | esc _ | sq _ | dq _ | bare _ | var _ | dflt _ _ _ | altv _ _ _ | call _ _ => exact meta_not_name _ (by decide)

/-- motive for one fragment: `X` is the text after it and `RX` what `getString` eventually returns on `X`.
A bare `$NAME` would swallow a name character at the head of `X`, hence `okNext`. -/
def PFrag (cfg : Cfg) (f : Frag) : Prop :=
  ∀ E, GoodDelims E → f.wf E = true → ∀ (o k sb : Bool) (X : Str) (RX : Res),
    (isBare f = true → okNext X) → GS cfg E o k sb X RX →
    GS cfg E o k sb (f.render E ++ X) (bindE (f.eval cfg sb) fun v => cat v RX)

def PList (cfg : Cfg) (fs : List Frag) : Prop :=
  ∀ E, GoodDelims E → wfL E fs = true → ∀ (o k sb : Bool) (tail : Str), Term E o tail →
    GS cfg E o k sb (renderL E fs ++ tail) (bindE (evalL cfg sb fs) fun v => .ok (v, closeRest k tail))

/-- motive for the arguments of a call, read by `getCommand` one word behind: `wtxt` is the rendered word in
front of `as` (the function name or the previous argument), `Rw` its value (the hypothesis: `wtxt` parses to
`Rw` before every `,` or `)`), `acc` the words before it in reverse, `X` the text after the closing `)` -/
def PArgs (cfg : Cfg) (as : List (List Frag)) : Prop :=
  wfArgs as = true → ∀ (sb : Bool) (acc : List Str) (X wtxt : Str) (Rw : Except PErr Str),
    (∀ T, Term ctxWord false T →
      GS cfg ctxWord false true sb (wtxt ++ T) (bindE Rw fun v => .ok (v, T))) →
    GC cfg sb (wtxt ++ (renderArgs as ++ ')' :: X)) acc
      (bindE Rw fun v => bindE (evalArgs cfg sb as) fun vs => finish cfg sb (vs.reverse ++ v :: acc) X)

section literals
variable {cfg : Cfg} {E : List Char} (hG : GoodDelims E) {o k sb : Bool} (c : Char) {X : Str} {R : Res}
  (h : GS cfg E o k sb X R)
include hG h

theorem GS_bs : GS cfg E o k sb ('\\' :: c :: X) (cat [c] R) := by
  have hd : isDelim E '\\' = false := by
    unfold isDelim
    rw [← esc_is_backslash, base_esc, esc_is_backslash, hG.bs]; rfl
  exact GS_litstep '\\' [c] X c hd (by intro acc; rw [scan.eq_def]; simp [hd, esc_is_backslash]) h

theorem GS_renderLit : GS cfg E o k sb (renderLit E c ++ X) (cat [c] R) := by
  unfold renderLit
  cases hm : (metaChars.contains c || E.contains c) with
  | true => exact GS_bs hG c h
  | false =>
    have hp := plain_lit E c hm
    exact GS_lit hp.1 hp.2 h

end literals

section evalEqs
variable (cfg : Cfg) (sb : Bool) (K : Str → Res)

theorem eval_var (name : List Frag) :
    bindE ((Frag.var name).eval cfg sb) K =
      bindE (evalL cfg sb name) fun n => bindE (varValue cfg sb n) K := by
  rw [Frag.eval]; cases evalL cfg sb name <;> rfl

theorem eval_dflt (name d : List Frag) (colon : Bool) :
    bindE ((Frag.dflt name colon d).eval cfg sb) K =
      bindE (evalL cfg sb name) fun n => bindE (evalL cfg (sb && isUnset cfg colon n) d) fun dv =>
        K (if isUnset cfg colon n then dv else (lookup cfg.env n).getD []) := by
  rw [Frag.eval]
  cases evalL cfg sb name with
  | error e => rfl
  | ok n => dsimp only [bindE_ok]; cases evalL cfg (sb && isUnset cfg colon n) d <;> rfl

theorem eval_altv (name a : List Frag) (colon : Bool) :
    bindE ((Frag.altv name colon a).eval cfg sb) K =
      bindE (evalL cfg sb name) fun n => bindE (evalL cfg (sb && !isUnset cfg colon n) a) fun av =>
        K (if isUnset cfg colon n then [] else av) := by
  rw [Frag.eval]
  cases evalL cfg sb name with
  | error e => rfl
  | ok n => dsimp only [bindE_ok]; cases evalL cfg (sb && !isUnset cfg colon n) a <;> rfl

theorem eval_call (f : List Frag) (args : List (List Frag)) :
    bindE ((Frag.call f args).eval cfg sb) K =
      bindE (evalL cfg sb f) fun fn => bindE (SubstSpec.evalArgs cfg sb args) fun as =>
        bindE (if sb then callFun cfg fn as else .ok []) K := by
  rw [Frag.eval]
  cases evalL cfg sb f with
  | error e => rfl
  | ok fn => dsimp only [bindE_ok]; cases SubstSpec.evalArgs cfg sb args <;> rfl

theorem evalL_cons (f : Frag) (fs : List Frag) :
    bindE (evalL cfg sb (f :: fs)) K =
      bindE (f.eval cfg sb) fun v => bindE (evalL cfg sb fs) fun r => K (v ++ r) := by
  rw [evalL]
  cases f.eval cfg sb with
  | error e => rfl
  | ok v => dsimp only [bindE_ok]; cases evalL cfg sb fs <;> rfl

theorem evalArgs_cons (a : List Frag) (as : List (List Frag)) (K : List Str → Res) :
    bindE (SubstSpec.evalArgs cfg sb (a :: as)) K =
      bindE (evalL cfg sb a) fun v => bindE (SubstSpec.evalArgs cfg sb as) fun vs => K (v :: vs) := by
  rw [SubstSpec.evalArgs]
  cases evalL cfg sb a with
  | error e => rfl
  | ok v => dsimp only [bindE_ok]; cases SubstSpec.evalArgs cfg sb as <;> rfl

/-- `getCommand` at the closing parenthesis with the words `fn :: vs` calls the function -/
theorem finish_call (fn : Str) (vs : List Str) (X : Str) :
    finish cfg sb (vs.reverse ++ [fn]) X =
      bindE (if sb then callFun cfg fn vs else .ok []) fun v => .ok (v, X) := by
  cases sb with
  | false => rfl
  | true =>
    simp only [finish, Bool.not_true, Bool.false_eq_true, if_false, List.reverse_append,
      List.reverse_cons, List.reverse_nil, List.nil_append, List.reverse_reverse, List.singleton_append,
      if_true]
    cases callFun cfg fn vs <;> rfl

end evalEqs

/-- a word of a call (function name or argument) in front of any `,` or `)` -/
theorem word_of_pList {cfg : Cfg} {a : List Frag} (h : PList cfg a) (hwf : wfL ctxWord a = true) (sb : Bool)
    (T : Str) (hT : Term ctxWord false T) :
    GS cfg ctxWord false true sb (renderL ctxWord a ++ T) (bindE (evalL cfg sb a) fun v => .ok (v, T)) := by
  have := h ctxWord good_word hwf false true sb T hT
  rwa [closeRest_true] at this

mutual

theorem pFrag (cfg : Cfg) : (f : Frag) → PFrag cfg f
  | .lit c => fun _ hG _ _ _ _ _ _ _ hRX => GS_renderLit hG c hRX
  | .esc c => fun _ hG _ _ _ _ _ _ _ hRX => GS_bs hG c hRX
  | .sq s => by
    intro E hG hwf o k sb X RX _ hRX
    simp only [Frag.wf, Bool.not_eq_true'] at hwf
    have := GS_item base_sq hG.sq (.ok s) (GI_sq X hwf) hRX
    simpa [Frag.render, Frag.eval] using this
  | .dq fs => by
    intro E hG hwf o k sb X RX _ hRX
    simp only [Frag.wf, Bool.and_eq_true, Bool.not_eq_true'] at hwf
    have ih := pList cfg fs ctxDq good_dq hwf.2 false false sb ('"' :: X) (term_cons (by decide))
    have := GS_item base_dq hwf.1 (evalL cfg sb fs) (GI_dq ih) hRX
    simpa [Frag.render, Frag.eval] using this
  | .bare name => by
    intro E hG hwf o k sb X RX hX hRX
    cases name with
    | nil => simp [Frag.wf, isName] at hwf
    | cons d nm =>
      simp only [Frag.wf, isName, Bool.and_eq_true] at hwf
      have hr := getRestOfName_app nm X hwf.2 (hX rfl)
      exact GS_item base_dollar hG.dollar _ (GI_bare hwf.1 hr) hRX
  | .var name => by
    intro E hG hwf o k sb X RX _ hRX
    simp only [Frag.wf] at hwf
    have ih := pList cfg name ctxName good_name hwf false true sb ('}' :: X) (term_cons (by decide))
    have hv := GV_op false '}' (by decide) ih fun _ => GO_close
    rw [← eval_var] at hv
    have := GS_item base_dollar hG.dollar _ (GI_var hv) hRX
    simpa [Frag.render] using this
  | .dflt name colon d => by
    intro E hG hwf o k sb X RX _ hRX
    simp only [Frag.wf, Bool.and_eq_true] at hwf
    have ih := pList cfg name ctxName good_name hwf.1 false true sb
      (colonStr colon ++ '-' :: (renderL ctxBranch d ++ '}' :: X)) (term_colon colon (by decide))
    rw [closeRest_true] at ih
    have hv := GV_op colon '-' (by decide) ih fun n => GO_dflt (X := X)
      (pList cfg d ctxBranch good_branch hwf.2 false false _ ('}' :: X) (term_cons (by decide)))
    rw [← eval_dflt cfg sb fun v => .ok (v, X)] at hv
    have := GS_item base_dollar hG.dollar _ (GI_var hv) hRX
    simpa [Frag.render] using this
  | .altv name colon a => by
    intro E hG hwf o k sb X RX _ hRX
    simp only [Frag.wf, Bool.and_eq_true] at hwf
    have ih := pList cfg name ctxName good_name hwf.1 false true sb
      (colonStr colon ++ '+' :: (renderL ctxBranch a ++ '}' :: X)) (term_colon colon (by decide))
    rw [closeRest_true] at ih
    have hv := GV_op colon '+' (by decide) ih fun n => GO_altv (X := X)
      (pList cfg a ctxBranch good_branch hwf.2 false false _ ('}' :: X) (term_cons (by decide)))
    rw [← eval_altv cfg sb fun v => .ok (v, X)] at hv
    have := GS_item base_dollar hG.dollar _ (GI_var hv) hRX
    simpa [Frag.render] using this
  | .call f args => by
    intro E hG hwf o k sb X RX _ hRX
    simp only [Frag.wf, Bool.and_eq_true] at hwf
    have hc := pArgs cfg args hwf.2 sb [] X (renderL ctxWord f) (evalL cfg sb f)
      (word_of_pList (pList cfg f) hwf.1 sb)
    simp only [finish_call] at hc
    rw [← eval_call] at hc
    have := GS_item base_dollar hG.dollar _ (GI_cmd hc) hRX
    simpa [Frag.render] using this

theorem pList (cfg : Cfg) : (fs : List Frag) → PList cfg fs
  | [] => fun _ _ _ _ _ _ _ ht => GS_term ht
  | f :: fs => by
    intro E hG hwf o k sb tail ht
    simp only [wfL, Bool.and_eq_true, Bool.or_eq_true, Bool.not_eq_true'] at hwf
    have ihs := pList cfg fs E hG hwf.2 o k sb tail ht
    have hX : isBare f = true → okNext (renderL E fs ++ tail) := by
      intro hb
      rcases hwf.1.2 with h | h
      · rw [hb] at h; cases h
      · exact okNext_render E hG o fs tail h ht
    have ihf := pFrag cfg f E hG hwf.1.1 o k sb _ _ hX ihs
    simpa [renderL, evalL_cons, cat_bindE] using ihf

theorem pArgs (cfg : Cfg) : (as : List (List Frag)) → PArgs cfg as
  | [] => fun _ _ _ X _ _ hw => GC_last (hw (')' :: X) (term_cons (by decide)))
  | a :: as => by
    intro hwf sb acc X wtxt Rw hw
    simp only [wfArgs, Bool.and_eq_true] at hwf
    have h := hw (',' :: (renderL ctxWord a ++ (renderArgs as ++ ')' :: X))) (term_cons (by decide))
    have := GC_more h fun v =>
      pArgs cfg as hwf.2 sb (v :: acc) X (renderL ctxWord a) (evalL cfg sb a) (word_of_pList (pList cfg a) hwf.1 sb)
    simpa [renderArgs, evalArgs_cons] using this

end

theorem varValue_off (cfg : Cfg) (name : Str) : ∃ v, varValue cfg false name = .ok v := by
  unfold varValue
  cases lookup cfg.env name with
  | none => exact ⟨_, rfl⟩
  | some v => exact ⟨_, rfl⟩

mutual
theorem evalF_off (cfg : Cfg) : (f : Frag) → ∃ v, f.eval cfg false = .ok v
  | .lit c => ⟨_, rfl⟩
  | .esc c => ⟨_, rfl⟩
  | .sq s => ⟨_, rfl⟩
  | .dq fs => by
    obtain ⟨v, hv⟩ := evalL_off cfg fs
    exact ⟨v, by simp only [Frag.eval, hv]⟩
  | .bare name => varValue_off cfg name
  | .var name => by
    obtain ⟨n, hn⟩ := evalL_off cfg name
    simp only [Frag.eval, hn]
    exact varValue_off cfg n
  | .dflt name colon d => by
    obtain ⟨n, hn⟩ := evalL_off cfg name
    obtain ⟨dv, hd⟩ := evalL_off cfg d
    exact ⟨_, by simp only [Frag.eval, hn, Bool.false_and, hd]; rfl⟩
  | .altv name colon a => by
    obtain ⟨n, hn⟩ := evalL_off cfg name
    obtain ⟨av, ha⟩ := evalL_off cfg a
    exact ⟨_, by simp only [Frag.eval, hn, Bool.false_and, ha]; rfl⟩
  | .call f args => by
    obtain ⟨fn, hf⟩ := evalL_off cfg f
    obtain ⟨vs, hvs⟩ := evalArgs_off cfg args
    exact ⟨_, by simp only [Frag.eval, hf, hvs, Bool.false_eq_true, if_false]; rfl⟩

theorem evalL_off (cfg : Cfg) : (fs : List Frag) → ∃ v, evalL cfg false fs = .ok v
  | [] => ⟨_, rfl⟩
  | f :: fs => by
    obtain ⟨v, hv⟩ := evalF_off cfg f
    obtain ⟨r, hr⟩ := evalL_off cfg fs
    exact ⟨_, by simp only [evalL, hv, hr]; rfl⟩

theorem evalArgs_off (cfg : Cfg) : (as : List (List Frag)) → ∃ vs, SubstSpec.evalArgs cfg false as = .ok vs
  | [] => ⟨_, rfl⟩
  | a :: as => by
    obtain ⟨v, hv⟩ := evalL_off cfg a
    obtain ⟨r, hr⟩ := evalArgs_off cfg as
    exact ⟨_, by simp only [SubstSpec.evalArgs, hv, hr]; rfl⟩
end

/-- a text that consists of one item -/
theorem parse_item {cfg : Cfg} {c : Char} {rest s : Str} (hb : Consts.C17.baseDelims.contains c = true)
    (h : GI cfg true c rest (.ok (s, []))) : parse cfg (c :: rest) = .ok s := by
  have := GS_item (E := []) (o := true) (k := false) hb rfl (.ok s) h GS_eos
  rw [parse_of_eventually this]
  simp [valOf]

theorem GS_escAll (cfg : Cfg) (s : Str) : GS cfg [] true false true (escAll s) (.ok (s, [])) := by
  induction s with
  | nil => exact GS_eos
  | cons c s ih => exact GS_bs good_top c ih

/-- inside double quotes `escMeta` escapes what `render` escapes -/
theorem escMeta_cons (c : Char) (s : Str) : escMeta (c :: s) = renderLit ctxDq c ++ escMeta s := by
  have : (metaChars.contains c || ctxDq.contains c) = metaChars.contains c := by
    cases hq : ctxDq.contains c with
    | false => exact Bool.or_false _
    | true =>
      have : c = '"' := by simpa [ctxDq] using hq
      subst this; rfl
  rw [renderLit, this]
  simp [escMeta]

theorem GS_escMeta (cfg : Cfg) (sb : Bool) (s X : Str) :
    GS cfg ctxDq false false sb (escMeta s ++ '"' :: X) (.ok (s, X)) := by
  induction s with
  | nil => exact GS_close (by decide)
  | cons c s ih =>
    rw [escMeta_cons, List.append_assoc]
    exact GS_renderLit good_dq c ih

end C17
