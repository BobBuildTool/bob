import BobModel.Proofs.C20Final
/-
C20: `_genJenkinsJobs` / `getUpstreamJobs` -- which packages are visited, how they are grouped into
jobs and what the upstream sets contain; `genJenkinsBuildOrder` reports "Jobs are cyclic" only if the job
graph has a cycle.
-/
namespace Jenkins

/-- reachability along valid dependencies (what has to be built for a root) -/
abbrev VReach (g : Graph) : Nat → Nat → Prop := Reach (fun a b => b ∈ g.vdeps a)

theorem mem_expand {g : Graph} {vis : List Nat} {x : Nat} :
    x ∈ expand g vis ↔ x ∈ vis ∨ ∃ v ∈ vis, x ∈ g.vdeps v :=
  mem_foldl_iff (P := fun v x => x ∈ g.vdeps v) (fun _ _ _ => mem_union) vis vis x

theorem mem_visited_zero {g : Graph} {roots : List Nat} {x : Nat} : x ∈ visited g roots 0 ↔ x ∈ roots :=
  (mem_foldl_iff (P := fun r x => x ∈ [r]) (fun _ _ _ => mem_union) roots [] x).trans (by simp)

theorem visited_mono {g : Graph} {roots : List Nat} {x : Nat} : ∀ {k k' : Nat}, k ≤ k' → x ∈ visited g roots k →
    x ∈ visited g roots k' := by
  intro k k' h
  induction h with
  | refl => exact id
  | step _ ih => intro hx; exact mem_expand.mpr (Or.inl (ih hx))

theorem visited_sound {g : Graph} {roots : List Nat} : ∀ (k : Nat) (x : Nat), x ∈ visited g roots k →
    ∃ r ∈ roots, VReach g r x := by
  intro k
  induction k with
  | zero => intro x hx; exact ⟨x, mem_visited_zero.mp hx, Reach.refl _⟩
  | succ k ih =>
    intro x hx
    rcases mem_expand.mp hx with hx | ⟨v, hv, hx⟩
    · exact ih x hx
    · obtain ⟨r, hr, hrv⟩ := ih v hv
      exact ⟨r, hr, Reach.tail hrv hx⟩

/-- a package step `x` below the root `r` is visited after `rank r - rank x` expansions at the latest -/
theorem visited_complete {g : Graph} {roots : List Nat} {rank : Nat → Nat} {n : Nat}
    (hr : ∀ v, ∀ d ∈ g.vdeps v, rank d < rank v) (hrk : ∀ v, rank v ≤ n) {r x : Nat} (hroot : r ∈ roots)
    (h : VReach g r x) : x ∈ visited g roots n := by
  have key : x ∈ visited g roots (rank r - rank x) := by
    induction h with
    | refl => exact visited_mono (Nat.zero_le _) (mem_visited_zero.mpr hroot)
    | @tail b c hb e ih =>
      have h1 := hr b c e
      have h2 : rank b ≤ rank r := (hb.rank_lt hr).elim (· ▸ Nat.le_refl _) Nat.le_of_lt
      have : c ∈ visited g roots (rank r - rank b + 1) := mem_expand.mpr (Or.inr ⟨b, ih, e⟩)
      exact visited_mono (by omega) this
  exact visited_mono (by have := hrk r; omega) key

theorem WF.visited {g : Graph} {n : Nat} {roots : List Nat} (wf : WF g n roots) {r v : Nat} (hr : r ∈ roots)
    (hrv : VReach g r v) : v ∈ visited g roots n := by
  obtain ⟨rank, hrk1, hrk2⟩ := wf.dag
  exact visited_complete (fun a d hd => hrk1 a d (wf.vdeps a d hd)) hrk2 hr hrv

theorem mem_insertNew {l : List Str} {x y : Str} : y ∈ insertNew l x ↔ y ∈ l ∨ y = x := mem_addNew

/-- the job names `genJobs` collects (the `names` of its body), in order of first occurrence -/
def jobNames (nameOf : Nat → Option Str) (vis : List Nat) : List Str :=
  vis.foldl (fun acc v => match nameOf v with | some nm => insertNew acc nm | none => acc) []

theorem mem_jobNames {nameOf : Nat → Option Str} {vis : List Nat} {y : Str} :
    y ∈ jobNames nameOf vis ↔ ∃ v ∈ vis, nameOf v = some y := by
  refine (mem_foldl_iff (P := fun v y => nameOf v = some y) (fun acc v y => ?_) vis [] y).trans (by simp)
  cases nameOf v with
  | none => simp
  | some nm => simp [mem_insertNew, eq_comm]

theorem nodup_jobNames {nameOf : Nat → Option Str} {vis : List Nat} : (jobNames nameOf vis).Nodup := by
  refine List.foldlRecOn vis _ List.nodup_nil fun acc h v _ => ?_
  cases nameOf v with
  | none => exact h
  | some nm => exact nodup_addNew h

theorem mem_upstream {g : Graph} {nameOf : Nat → Option Str} {vis : List Nat} {nm u : Str} :
    u ∈ upstream g nameOf vis nm ↔
      ∃ v ∈ vis, nameOf v = some nm ∧ ∃ d ∈ g.vdeps v, nameOf d = some u ∧ u ≠ nm := by
  refine (mem_foldl_iff (P := fun v u => nameOf v = some nm ∧ ∃ d ∈ g.vdeps v, nameOf d = some u ∧ u ≠ nm)
    (fun acc v u => ?_) vis [] u).trans (by simp)
  split
  · next hv =>
    -- the dependencies of one package step of the job
    refine (mem_foldl_iff (P := fun d u => nameOf d = some u ∧ u ≠ nm) (fun acc d u => ?_) _ acc u).trans
      (by simp [hv])
    cases hd : nameOf d with
    | none => simp
    | some dn =>
      by_cases hdn : dn = nm
      · simp only [if_pos hdn]
        exact ⟨Or.inl, fun h => h.elim id fun ⟨e, hne⟩ => absurd ((Option.some.inj e).symm.trans hdn) hne⟩
      · simp only [if_neg hdn, mem_insertNew, Option.some.injEq]
        exact or_congr_right ⟨fun e => ⟨e.symm, e ▸ hdn⟩, fun e => e.1.symm⟩
  · next hv => simp [hv]

/-- the jobs `genJobs` returns when every visited package step has a name -/
def mkJobs (g : Graph) (nameOf : Nat → Option Str) (vis : List Nat) : List JJob :=
  (jobNames nameOf vis).map fun nm => ⟨nm, vis.filter (fun v => nameOf v = some nm), upstream g nameOf vis nm⟩

section genJobs
variable {g : Graph} {n : Nat} {pfx : Str} {pn : PkgNames} {roots : List Nat}

theorem genJobs_eq (h : ∀ v ∈ visited g roots n, (internalName pfx pn v).isSome = true) :
    genJobs g n pfx pn roots = some (mkJobs g (internalName pfx pn) (visited g roots n)) :=
  if_pos (List.all_eq_true.mpr h)

theorem genJobs_some {jobs : List JJob} (h : genJobs g n pfx pn roots = some jobs) :
    jobs = mkJobs g (internalName pfx pn) (visited g roots n) := by
  by_cases hall : ∀ v ∈ visited g roots n, (internalName pfx pn v).isSome = true
  · exact Option.some.inj (h.symm.trans (genJobs_eq hall))
  · exact nomatch h.symm.trans (if_neg (mt List.all_eq_true.mp hall))

end genJobs

theorem mem_mkJobs {g : Graph} {nameOf : Nat → Option Str} {vis : List Nat} {j : JJob} :
    j ∈ mkJobs g nameOf vis ↔ ∃ nm, (∃ v ∈ vis, nameOf v = some nm) ∧
      j = ⟨nm, vis.filter (fun v => nameOf v = some nm), upstream g nameOf vis nm⟩ := by
  simp only [mkJobs, List.mem_map, mem_jobNames, eq_comm]

theorem mem_pkgs_mkJobs {g : Graph} {nameOf : Nat → Option Str} {vis : List Nat} {j : JJob}
    (hj : j ∈ mkJobs g nameOf vis) {v : Nat} : v ∈ j.pkgs ↔ v ∈ vis ∧ nameOf v = some j.name := by
  obtain ⟨nm, _, rfl⟩ := mem_mkJobs.mp hj
  simp only [List.mem_filter, decide_eq_true_eq]

theorem mkJobs_ext {g : Graph} {nameOf : Nat → Option Str} {vis : List Nat} {j j' : JJob}
    (hj : j ∈ mkJobs g nameOf vis) (hj' : j' ∈ mkJobs g nameOf vis) (h : j.name = j'.name) : j = j' := by
  obtain ⟨nm, _, rfl⟩ := mem_mkJobs.mp hj
  obtain ⟨nm', _, rfl⟩ := mem_mkJobs.mp hj'
  cases h; rfl

theorem mkJobs_names_nodup {g : Graph} {nameOf : Nat → Option Str} {vis : List Nat} :
    ((mkJobs g nameOf vis).map (·.name)).Nodup := by
  rw [mkJobs, List.map_map]
  exact (List.map_id _).symm ▸ nodup_jobNames

/-- an edge of the job graph: job `a` has `b` among its upstream jobs -/
def UpEdge (jobs : List JJob) (a b : Str) : Prop := ∃ j ∈ jobs, j.name = a ∧ b ∈ j.up

theorem upEdge_lift {g : Graph} {nameOf : Nat → Option Str} {vis : List Nat} {a b : Str}
    (h : UpEdge (mkJobs g nameOf vis) a b) :
    ∃ v ∈ vis, ∃ d ∈ g.vdeps v, nameOf v = some a ∧ nameOf d = some b ∧ b ≠ a := by
  obtain ⟨j, hj, hn, hb⟩ := h
  obtain ⟨nm, _, rfl⟩ := mem_mkJobs.mp hj
  simp only at hn hb
  subst hn
  obtain ⟨v, hv, h1, d, hd, h2, h3⟩ := mem_upstream.mp hb
  exact ⟨v, hv, d, hd, h1, h2, h3⟩

/-- the job graph has no cycle when names separate the abstract jobs -/
theorem job_graph_acyclic_core {g : Graph} {n : Nat} {s : St} {nameOf : Nat → Option Str} {vis : List Nat}
    (h : Inv g n s) (hvis : ∀ v ∈ vis, s.v2j v ≠ none) (hvd : ∀ v, ∀ d ∈ g.vdeps v, d ∈ g.deps v)
    (hwd : ∀ v w, SameJobV s.v2j v w → nameOf v = nameOf w)
    (hsep : ∀ v w, s.v2j v ≠ none → s.v2j w ≠ none → nameOf v = nameOf w → SameJobV s.v2j v w) :
    ∀ a c, UpEdge (mkJobs g nameOf vis) a c → ¬ Reach (UpEdge (mkJobs g nameOf vis)) c a := by
  -- an edge of the job graph lifts to a path in the quotient graph, from any package step of its job
  have edge : ∀ a c, UpEdge (mkJobs g nameOf vis) a c → ∀ x, s.v2j x ≠ none → nameOf x = some a →
      ∃ y, s.v2j y ≠ none ∧ nameOf y = some c ∧ QReachV g s.v2j x y := by
    intro a c e x hx hn
    obtain ⟨v, hv, d, hd, h1, h2, _⟩ := upEdge_lift e
    have hvk := hvis v hv
    exact ⟨d, h.closed v hvk d (hvd v d hd), h2,
      Reach.tail (hsep x v hx hvk (hn.trans h1.symm)).reach (Or.inr ⟨hvk, hvd v d hd⟩)⟩
  -- and so does a path
  have lift : ∀ c b, Reach (UpEdge (mkJobs g nameOf vis)) c b → ∀ x, s.v2j x ≠ none → nameOf x = some c →
      ∃ y, s.v2j y ≠ none ∧ nameOf y = some b ∧ QReachV g s.v2j x y := by
    intro c b r
    induction r with
    | refl => intro x hx hn; exact ⟨x, hx, hn, Reach.refl _⟩
    | tail _ e ih =>
      intro x hx hn
      obtain ⟨y, hy, hyn, rxy⟩ := ih x hx hn
      obtain ⟨z, hz, hzn, ryz⟩ := edge _ _ e y hy hyn
      exact ⟨z, hz, hzn, rxy.trans ryz⟩
  intro a c e r
  obtain ⟨v, hv, _, _, h1, _, hne⟩ := upEdge_lift e
  have hvk := hvis v hv
  -- a cycle `a -> c ->* a` lifts to `v ->* y ->* z` with `z` in the job of `v`
  obtain ⟨y, hy, hyn, rvy⟩ := edge a c e v hvk h1
  obtain ⟨z, hz, hzn, ryz⟩ := lift c a r y hy hyn
  have := hwd v y (h.acyclic v y rvy (ryz.trans (hsep z v hz hvk (hzn.trans h1.symm)).reach) hvk)
  rw [h1, hyn] at this
  exact hne (Option.some.inj this).symm

theorem foldlM_isSome {σ : Type} (f : σ → Str → Option σ) : ∀ (l : List Str) (st : σ),
    (∀ st d, d ∈ l → (f st d).isSome = true) → (l.foldlM f st).isSome = true := by
  intro l
  induction l with
  | nil => intro st _; simp [List.foldlM_nil, pure]
  | cons a l ih =>
    intro st h
    rw [List.foldlM_cons]
    have ha := h st a (by simp)
    cases hfa : f st a with
    | none => rw [hfa] at ha; cases ha
    | some st' =>
      show (l.foldlM f st').isSome = true
      exact ih st' (fun st d hd => h st d (List.mem_cons_of_mem _ hd))

theorem upOf_edge {jobs : List JJob} {a d : Str} (h : d ∈ upOf jobs a) : UpEdge jobs a d := by
  unfold upOf at h
  cases hf : jobs.find? (fun j => j.name = a) with
  | none => rw [hf] at h; cases h
  | some j =>
    rw [hf] at h
    have hn := List.find?_some hf
    exact ⟨j, List.mem_of_find?_eq_some hf, by simpa using hn, h⟩

/-- The recursion stack `processing` consists of jobs that reach the visited job by at least one edge, so a
job found on the stack closes a cycle.  `visitJob` also answers `some` when its fuel runs out: this says
"no cycle is reported", not that the order is complete.  (The fuel `keys.length + 1` of `buildOrder` does
suffice, the stack holding distinct pending keys; no lemma states it.) -/
theorem visitJob_isSome {jobs : List JJob} (hac : ∀ a c, UpEdge jobs a c → ¬ Reach (UpEdge jobs) c a) :
    ∀ (fuel : Nat) (j : Str) (processing : List Str) (st : List Str × List Str),
      (∀ p ∈ processing, ∃ c, UpEdge jobs p c ∧ Reach (UpEdge jobs) c j) →
      (visitJob jobs fuel j processing st).isSome = true := by
  intro fuel
  induction fuel with
  | zero => intro j processing st _; rfl
  | succ f ih =>
    intro j processing st hp
    simp only [visitJob]
    split
    · next hc =>
      obtain ⟨c, e, r⟩ := hp j (List.contains_iff_mem.mp hc)
      exact absurd r (hac j c e)
    · split
      · have hfold := foldlM_isSome (fun st d => visitJob jobs f d (j :: processing) st) (upOf jobs j) st
          fun st' d hd => ih d (j :: processing) st' fun p hpm => by
            have ed := upOf_edge hd
            rcases List.mem_cons.mp hpm with rfl | hpm
            · exact ⟨d, ed, Reach.refl _⟩
            · obtain ⟨c, e, r⟩ := hp p hpm
              exact ⟨c, e, Reach.tail r ed⟩
        split
        · rfl
        · next hres => rw [hres] at hfold; cases hfold
      · rfl

theorem buildOrder_isSome {jobs : List JJob} (hac : ∀ a c, UpEdge jobs a c → ¬ Reach (UpEdge jobs) c a) :
    (buildOrder jobs).isSome = true := by
  have hfold := foldlM_isSome (fun st j => visitJob jobs ((jobs.map (·.name)).length + 1) j [] st)
    (jobs.map (·.name)) (jobs.map (·.name), []) fun st d _ => visitJob_isSome hac _ d [] st fun p hp => nomatch hp
  simp only [buildOrder]
  split
  · rfl
  · next hres => rw [hres] at hfold; cases hfold

end Jenkins
