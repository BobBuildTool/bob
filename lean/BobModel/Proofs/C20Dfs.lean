import BobModel.Proofs.C20NameMap
import BobModel.Proofs.C20Sets
/-
C20: the first phase of `sanitize` (`addStep` from the roots) establishes the invariant of the
merge phase on every DAG: one job per package step, `childs` = reachable package steps,
`parents` = direct dependents.  Here one call of `addStep` (`addStep_spec`); the loop over the roots and the passage to
`Inv` are in `C20Final`.  While the graph is spanned, what is recorded for a known node is sound, and
every known node that is not on the recursion stack is done (`DfsInv`, with the stack as a parameter); what
is recorded only grows (`Stab`), so a done node stays done.
-/
namespace Jenkins

abbrev DReach (g : Graph) : Nat → Nat → Prop := Reach (fun a b => b ∈ g.deps a)

/-- what is recorded in the job `jb` of the known node `v` is sound (`m` = `vidToJob`) -/
structure NodeOk (g : Graph) (n : Nat) (m : Nat → Option Nat) (v : Nat) (jb : AJob) : Prop where
  lt : v < n
  pkgs : jb.pkgs = [v]
  parents : ∀ p ∈ jb.parents, m p = some p ∧ v ∈ g.deps p
  childs : ∀ w ∈ jb.childs, DReach g v w

theorem NodeOk.mono {g : Graph} {n : Nat} {m m' : Nat → Option Nat} {v : Nat} {jb : AJob} (h : NodeOk g n m v jb)
    (hm : ∀ p, m p = some p → m' p = some p) : NodeOk g n m' v jb :=
  { h with parents := fun p hp => ⟨hm p (h.parents p hp).1, (h.parents p hp).2⟩ }

/-- a node whose dependencies have all been processed -/
def Done (g : Graph) (s : St) (v : Nat) : Prop :=
  s.v2j v = some v ∧ (∀ w, DReach g v w → w ∈ (s.job v).childs) ∧
    (∀ d ∈ g.deps v, s.v2j d = some d ∧ v ∈ (s.job d).parents)

/-- `A` holds of the nodes in progress (the recursion stack of `addStep`) -/
structure DfsInv (g : Graph) (n : Nat) (A : Nat → Prop) (s : St) : Prop where
  id : ∀ v k, s.v2j v = some k → k = v
  node : ∀ v, s.v2j v = some v → NodeOk g n s.v2j v (s.job v)
  names : NamesOk s.names s
  done : ∀ v, s.v2j v = some v → ¬ A v → Done g s v

def Stab (s s' : St) : Prop :=
  ∀ u, s.v2j u = some u → s'.v2j u = some u ∧ (∀ w ∈ (s.job u).childs, w ∈ (s'.job u).childs) ∧
    (∀ p ∈ (s.job u).parents, p ∈ (s'.job u).parents)

theorem Stab.refl (s : St) : Stab s s := fun _ h => ⟨h, fun _ h => h, fun _ h => h⟩

theorem Stab.trans {s1 s2 s3 : St} (a : Stab s1 s2) (b : Stab s2 s3) : Stab s1 s3 := by
  intro u hu
  obtain ⟨a1, a2, a3⟩ := a u hu
  obtain ⟨b1, b2, b3⟩ := b u a1
  exact ⟨b1, fun w hw => b2 w (a2 w hw), fun p hp => b3 p (a3 p hp)⟩

theorem Done.stab {g : Graph} {s s' : St} {v : Nat} (h : Done g s v) (st : Stab s s') : Done g s' v := by
  obtain ⟨h1, h2, h3⟩ := h
  obtain ⟨a1, a2, _⟩ := st v h1
  refine ⟨a1, fun w hw => a2 w (h2 w hw), fun d hd => ?_⟩
  obtain ⟨d1, d2⟩ := h3 d hd
  obtain ⟨b1, _, b3⟩ := st d d1
  exact ⟨b1, b3 v d2⟩

/-- `job.pkgs | job.childs`, what `addStep` returns, is what a done node reaches -/
theorem Done.ret {g : Graph} {n : Nat} {s : St} {v : Nat} (h : Done g s v) (hn : NodeOk g n s.v2j v (s.job v)) (w : Nat) :
    w ∈ union (s.job v).pkgs (s.job v).childs ↔ DReach g v w := by
  rw [mem_union, hn.pkgs, List.mem_singleton]
  exact ⟨fun hw => hw.elim (· ▸ Reach.refl _) (hn.childs w), fun hw => Or.inr (h.2.1 w hw)⟩

/-- replacing the job of a known node by a sound one with larger `childs` and `parents`
(`setChilds`, and `job.parents |= parentJob.pkgs` for a node met again) -/
theorem updJob_facts {g : Graph} {n : Nat} {A : Nat → Prop} {s : St} {v : Nat} {jb : AJob} (h : DfsInv g n A s)
    (hjb : NodeOk g n s.v2j v jb) (hcg : ∀ w ∈ (s.job v).childs, w ∈ jb.childs)
    (hpg : ∀ p ∈ (s.job v).parents, p ∈ jb.parents) :
    DfsInv g n A { s with job := upd s.job v jb } ∧ Stab s { s with job := upd s.job v jb } := by
  have job : ∀ u, upd s.job v jb u = if u = v then jb else s.job u := fun _ => rfl
  have st : Stab s { s with job := upd s.job v jb } := fun u hu => ⟨hu, by
    show (∀ w ∈ (s.job u).childs, w ∈ (upd s.job v jb u).childs) ∧
      ∀ p ∈ (s.job u).parents, p ∈ (upd s.job v jb u).parents
    rw [job]; split
    · next e => exact e ▸ ⟨hcg, hpg⟩
    · exact ⟨fun _ hw => hw, fun _ hp => hp⟩⟩
  refine ⟨⟨h.id, fun u hu => ?_, ⟨h.names.keys, h.names.nodup, h.names.live⟩, fun u hu hA => (h.done u hu hA).stab st⟩, st⟩
  show NodeOk g n s.v2j u (upd s.job v jb u)
  rw [job]; split
  · next e => exact e ▸ hjb
  · exact h.node u hu

/-- a package step met for the first time: `job = AbstractJob([vid], parentJob.pkgs)`, listed under `nm`; it
is in progress from now on -/
theorem newNode_facts {g : Graph} {n : Nat} {A : Nat → Prop} {s : St} {v : Nat} {pp : List Nat} (nm : Str)
    (h : DfsInv g n A s) (hv : s.v2j v = none) (hvn : v < n) (hpp : ∀ p ∈ pp, s.v2j p = some p ∧ v ∈ g.deps p) :
    let s1 : St := { v2j := upd s.v2j v (some v), job := upd s.job v ⟨[v], pp, []⟩, names := extendName s.names nm [v] }
    DfsInv g n (fun u => A u ∨ u = v) s1 ∧ Stab s s1 := by
  intro s1
  have hv1 : s1.v2j v = some v := upd_same ..
  have v1o : ∀ u, u ≠ v → s1.v2j u = s.v2j u := fun u hu => upd_other _ _ hu
  have j1v : s1.job v = ⟨[v], pp, []⟩ := upd_same ..
  have j1o : ∀ u, s.v2j u = some u → s1.job u = s.job u := fun u hu =>
    upd_other _ _ fun e => by rw [e, hv] at hu; cases hu
  have hlive1 : ∀ u, s1.v2j u = some u ↔ (s.v2j u = some u ∨ u = v) := by
    intro u
    by_cases huv : u = v
    · subst huv; simp [hv1]
    · rw [v1o u huv]; simp [huv]
  have keep : ∀ u, s.v2j u = some u → s1.v2j u = some u := fun u hu => (hlive1 u).mpr (Or.inl hu)
  have st : Stab s s1 := fun u hu => ⟨keep u hu, fun w hw => by rwa [j1o u hu], fun p hp => by rwa [j1o u hu]⟩
  refine ⟨⟨fun u k hu => ?_, fun u hu => ?_, ?_, fun u hu hA => ?_⟩, st⟩
  · by_cases huv : u = v
    · subst huv; rw [hv1] at hu; cases hu; rfl
    · rw [v1o u huv] at hu; exact h.id u k hu
  · rcases (hlive1 u).mp hu with hu' | rfl
    · rw [j1o u hu']; exact (h.node u hu').mono keep
    · rw [j1v]; exact ⟨hvn, rfl, fun p hp => ⟨keep p (hpp p hp).1, (hpp p hp).2⟩, fun _ hw => nomatch hw⟩
  · have hF := (h.names.listing.add (by simp [hv]) hlive1).perm
      (allJobs_extendName_perm (M := s.names) (nm := nm)).symm
    exact ⟨nodup_keys_extendName h.names.keys, hF.1, hF.2⟩
  · have hA' := not_or.mp hA
    exact (h.done u (((hlive1 u).mp hu).resolve_right hA'.2) hA'.1).stab st

section dfs
variable {g : Graph} {iso : Str → Bool} {rank : Nat → Nat} {n : Nat} {A : Nat → Prop}

theorem setChilds_facts {s : St} {v : Nat} {c : List Nat} (h : DfsInv g n A s) (hv : s.v2j v = some v)
    (hsound : ∀ w ∈ c, DReach g v w) (hgrow : ∀ w ∈ (s.job v).childs, w ∈ c) :
    DfsInv g n A (setChilds s v c) ∧ Stab s (setChilds s v c) :=
  updJob_facts h { h.node v hv with childs := hsound } hgrow fun _ hp => hp

/-- specification of one `addStep` call -/
structure StepPost (g : Graph) (n : Nat) (A : Nat → Prop) (v : Nat) (pp : List Nat) (s : St) (r : St × List Nat) :
    Prop where
  inv : DfsInv g n A r.1
  done : Done g r.1 v
  ret : ∀ w, w ∈ r.2 ↔ DReach g v w
  parents : ∀ p ∈ pp, p ∈ (r.1.job v).parents
  stab : Stab s r.1

/-- the loop over the dependencies of `v`, given the specification of the recursive calls -/
theorem addDeps_spec (step : Nat → List Nat → St → St × List Nat) (v : Nat)
    (hstep : ∀ d s, d ∈ g.deps v → DfsInv g n A s → s.v2j v = some v →
      StepPost g n A d (s.job v).pkgs s (step d (s.job v).pkgs s)) :
    ∀ (ds : List Nat) (s : St), (∀ d ∈ ds, d ∈ g.deps v) → DfsInv g n A s → s.v2j v = some v →
      DfsInv g n A (addDeps step v ds s) ∧ Stab s (addDeps step v ds s) ∧
      (∀ d ∈ ds, (addDeps step v ds s).v2j d = some d ∧ v ∈ ((addDeps step v ds s).job d).parents ∧
        ∀ w, DReach g d w → w ∈ ((addDeps step v ds s).job v).childs) := by
  intro ds
  induction ds with
  | nil =>
    intro s _ h _
    exact ⟨h, Stab.refl s, fun d hd => nomatch hd⟩
  | cons d ds ih =>
    intro s hds h hv
    simp only [addDeps]
    have hd : d ∈ g.deps v := hds d List.mem_cons_self
    have p := hstep d s hd h hv
    have hpk : (s.job v).pkgs = [v] := (h.node v hv).pkgs
    generalize step d (s.job v).pkgs s = r at p ⊢
    have hv1 : r.1.v2j v = some v := (p.stab v hv).1
    -- `job.childs |= addStep(d, job)`
    obtain ⟨q1, q2⟩ := setChilds_facts (c := union (r.1.job v).childs r.2) p.inv hv1
      (fun w hw => (mem_union.mp hw).elim ((p.inv.node v hv1).childs w) fun hw => Reach.head hd ((p.ret w).mp hw))
      (fun w hw => mem_union.mpr (Or.inl hw))
    obtain ⟨r1, r3, r5⟩ := ih _ (fun x hx => hds x (List.mem_cons_of_mem _ hx)) q1 hv1
    refine ⟨r1, (p.stab.trans q2).trans r3, fun x hx => ?_⟩
    rcases List.mem_cons.mp hx with rfl | hx
    · -- the dependency processed in this step
      have hpv : v ∈ (r.1.job x).parents := p.parents v (by simp [hpk])
      obtain ⟨a1, _, a3⟩ := q2 x p.done.1
      obtain ⟨b1, _, b3⟩ := r3 x a1
      refine ⟨b1, b3 v (a3 v hpv), fun w hw => (r3 v hv1).2.1 w ?_⟩
      rw [setChilds_job_same]
      exact mem_union.mpr (Or.inr ((p.ret w).mpr hw))
    · exact r5 x hx

/-- `addStep` on a DAG: the nodes in progress rank above `v`, so `v` is not one of them; the fuel bounds the
rank of `v` -/
theorem addStep_spec (hr : ∀ v, ∀ d ∈ g.deps v, rank d < rank v) (hwf : ∀ v, ∀ d ∈ g.deps v, d < n) :
    ∀ (fuel : Nat) (v : Nat) (pp : List Nat) (s : St) (A : Nat → Prop), rank v < fuel → (∀ a, A a → rank v < rank a) →
      v < n → DfsInv g n A s → (∀ p ∈ pp, s.v2j p = some p ∧ v ∈ g.deps p) →
      StepPost g n A v pp s (addStep g iso fuel v pp s) := by
  intro fuel
  induction fuel with
  | zero => intro v pp s A hf; omega
  | succ f ih =>
    intro v pp s A hf hA hvn h hpp
    have hvA : ¬ A v := fun a => Nat.lt_irrefl _ (hA v a)
    rw [addStep]
    split
    · -- the node is known: it is done, its parents are extended
      next j hv =>
      obtain rfl : j = v := h.id v j hv
      have hdone : Done g s j := h.done j hv hvA
      extract_lets jb
      have hn := h.node j hv
      obtain ⟨a1, a2⟩ := updJob_facts (v := j) (jb := { jb with parents := union jb.parents pp }) h
        { hn with parents := fun p hp => (mem_union.mp hp).elim (hn.parents p) (hpp p) } (fun _ hw => hw)
        fun p hp => mem_union.mpr (Or.inl hp)
      refine ⟨a1, hdone.stab a2, hdone.ret hn, fun p hp => ?_, a2⟩
      show p ∈ (upd s.job j _ j).parents
      rw [upd_same]; exact mem_union.mpr (Or.inr hp)
    · next hv =>
      extract_lets nm s1 s2 s3
      obtain ⟨h1, st01⟩ := newNode_facts nm h hv hvn hpp
      have hv1 : s1.v2j v = some v := upd_same ..
      have hpp1 : ∀ p ∈ pp, p ∈ (s1.job v).parents := fun p hp => by
        show p ∈ (upd s.job v ⟨[v], pp, []⟩ v).parents
        rwa [upd_same]
      have hstep : ∀ d s', d ∈ g.deps v → DfsInv g n (fun u => A u ∨ u = v) s' → s'.v2j v = some v →
          StepPost g n (fun u => A u ∨ u = v) d (s'.job v).pkgs s' (addStep g iso f d (s'.job v).pkgs s') := by
        intro d s' hd h' hv'
        have hrd := hr v d hd
        refine ih d (s'.job v).pkgs s' _ (by omega) (fun a ha => ?_) (hwf v d hd) h' fun p hp => ?_
        · exact ha.elim (fun ha => Nat.lt_trans hrd (hA a ha)) (· ▸ hrd)
        · rw [(h'.node v hv').pkgs, List.mem_singleton] at hp
          exact hp ▸ ⟨hv', hd⟩
      obtain ⟨q1, q3, q5⟩ := addDeps_spec (addStep g iso f) v hstep (g.deps v) s1 (fun d hd => hd) h1 hv1
      -- after the loop: add the job's own packages (pass-through of the build step)
      have hv2 : s2.v2j v = some v := (q3 v hv1).1
      have hpk2 : (s2.job v).pkgs = [v] := (q1.node v hv2).pkgs
      have hcm : ∀ w, w ∈ union (s2.job v).childs (union (s2.job v).pkgs (s2.job v).childs) ↔
          (w ∈ (s2.job v).childs ∨ w = v) := by
        intro w
        rw [mem_union, mem_union, hpk2, List.mem_singleton]
        exact ⟨fun h' => h'.elim Or.inl (·.symm), fun h' => h'.elim Or.inl fun e => Or.inr (Or.inl e)⟩
      obtain ⟨t1, t2⟩ := setChilds_facts q1 hv2
        (fun w hw => ((hcm w).mp hw).elim ((q1.node v hv2).childs w) (· ▸ Reach.refl _))
        (fun w hw => (hcm w).mpr (Or.inl hw))
      have t5 : (s3.job v).childs = _ := congrArg AJob.childs setChilds_job_same
      have hv3 : s3.v2j v = some v := hv2
      have hdone3 : Done g s3 v := by
        refine ⟨hv3, fun w hw => ?_, fun d hd => ?_⟩
        · rw [t5, hcm]
          rcases hw.head_cases with rfl | ⟨d, hd, r⟩
          · exact Or.inr rfl
          · exact Or.inl ((q5 d hd).2.2 w r)
        · obtain ⟨a, b, _⟩ := q5 d hd
          obtain ⟨c1, _, c3⟩ := t2 d a
          exact ⟨c1, c3 v b⟩
      have st13 : Stab s1 s3 := q3.trans t2
      -- `v` is no longer in progress
      refine ⟨⟨t1.id, t1.node, t1.names, fun u hu hAu => ?_⟩, hdone3, hdone3.ret (t1.node v hv3),
        fun p hp => (st13 v hv1).2.2 p (hpp1 p hp), st01.trans st13⟩
      by_cases huv : u = v
      · exact huv ▸ hdone3
      · exact t1.done u hu fun h' => h'.elim hAu huv

end dfs

end Jenkins
