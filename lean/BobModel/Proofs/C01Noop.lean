import BobModel.Proofs.C01Done
/-
An immediately repeated invocation re-executes nothing but indeterministic checkouts:
in a state where every step is `Done` and `Settled` the cook functions take their skip branches
(and an indeterministic checkout that is re-run reproduces exactly the stored state).
-/
namespace Builder

variable {E : Env}

/-- `st` is `S` up to clock and attic list (`Touch []`, see there): a re-run indeterministic checkout
forges a result with a new clock value and restores everything else -/
def Same (S st : St) : Prop :=
  ∀ q, st.results q = S.results q ∧ st.inputs q = S.inputs q ∧ st.dirStates q = S.dirStates q ∧
    st.variantIds q = S.variantIds q ∧ st.disk q = S.disk q

theorem Same.refl (S : St) : Same S S := fun _ => ⟨rfl, rfl, rfl, rfl, rfl⟩

theorem Same.trans {a b c : St} (h1 : Same a b) (h2 : Same b c) : Same a c := by
  intro q
  obtain ⟨a1, a2, a3, a4, a5⟩ := h1 q
  obtain ⟨b1, b2, b3, b4, b5⟩ := h2 q
  exact ⟨b1.trans a1, b2.trans a2, b3.trans a3, b4.trans a4, b5.trans a5⟩

theorem same_resultsOf {S st : St} (h : Same S st) (ds : List Step) : resultsOf st ds = resultsOf S ds := by
  unfold resultsOf
  apply List.map_congr_left
  intro d _
  exact (h d.path).1

theorem same_inputHashes {S st : St} (h : Same S st) (i : Info) (ds : List Step) :
    inputHashes st i ds = inputHashes S i ds := by
  unfold inputHashes
  rw [same_resultsOf h]

theorem same_ivid {S st : St} (h : Same S st) (i : Info) (ds : List Step) : ivid st i ds = ivid S i ds := by
  unfold ivid
  congr 1
  apply List.map_congr_left
  intro d _
  rw [(h d.path).2.2.2.1]

theorem same_hashOf {S st : St} (h : Same S st) (p : Path) : hashOf E st p = hashOf E S p := by
  unfold hashOf
  rw [(h p).2.2.2.2]

theorem Same.done {S st : St} (h : Same S st) {u : Step} (hd : Done E u S) : Done E u st :=
  ⟨(h u.path).2.2.2.2.trans hd.1, (h u.path).1.trans hd.2⟩

theorem Same.settled {S st : St} (h : Same S st) {t : Step} (hs : Settled E t S) : Settled E t st := by
  obtain ⟨s1, s2, s3, s4, _⟩ := h t.info.path
  simp only [Settled, s1, s2, s3, s4, same_ivid h, same_inputHashes h, same_resultsOf h, same_hashOf h]
  exact hs

/-- operations an immediately repeated invocation may perform: no prune, no directory creation,
no attic move, and scripts only of indeterministic checkouts of the project -/
def QuietOp (T : Step) : Op → Prop
  | .scriptBegin q => ∃ u ∈ subtrees T, u.path = q ∧ u.kind = .checkout ∧ u.info.det = false
  | .emptyDir _ => False
  | .atticMove _ _ => False
  | .mkDir _ => False
  | _ => True

def Quiet (T : Step) (log : List Op) : Prop := ∀ op ∈ log, QuietOp T op

/-- the run is still in the state `S` the invocation started from, and its log is quiet -/
structure NInv (T : Step) (S : St) (r : Run) : Prop where
  same : Same S r.st
  quiet : Quiet T r.log

theorem wp_prim_quiet {T : Step} {op : Op} {f : St → St} {Q : Unit → Run → Prop} {r : Run} (ho : QuietOp T op)
    (hl : Quiet T r.log) (hq : ∀ r1, r1.st = f r.st → Quiet T r1.log → Q () r1) :
    wp (prim op f) Q (fun _ => True) r := by
  rw [wp_prim]
  refine ⟨fun _ => trivial, fun k _ => hq { r with st := f r.st, fuel := k, log := r.log ++ [op] } rfl ?_⟩
  intro o hm
  rcases List.mem_append.mp hm with h | h
  · exact hl o h
  · rw [List.mem_singleton.mp h]
    exact ho

section
variable {cfg : Cfg} {T : Step} {S : St} {i : Info} {pre ds : List Step} {r : Run}

theorem constructDir_existing (p : Path) (r : Run) (c : Content) (hd : r.st.disk p = some c) (Q : Bool → Run → Prop)
    (A : Run → Prop) (h : Q false r) : wp (constructDir p) Q A r := by
  unfold constructDir
  simp only [wp_bind, wp_getSt, hd, Option.isNone_some, Bool.false_eq_true, if_false, wp_pure]
  exact h

theorem cookBuild_skip (hforce : cfg.force = false) (hk : i.sig.kind = .build) (hdone : Done E (.mk i pre ds) r.st)
    (hset : Settled E (.mk i pre ds) r.st) (hr : NInv T S r) :
    wp (cookBuild E cfg i ds) (fun _ r' => NInv T S r') (fun _ => True) r := by
  simp only [Settled, Step.info.eq_1, Step.deps.eq_1, hk] at hset
  obtain ⟨hdir, hin⟩ := hset
  have hd : r.st.disk i.path = some _ := hdone.1
  have hres : r.st.results i.path = some _ := hdone.2
  unfold cookBuild
  simp only [wp_bind, wp_getSt]
  apply constructDir_existing _ _ _ hd
  simp only [hdir, ne_eq, not_true_eq_false, decide_false, Bool.or_self, Bool.false_eq_true, if_false, wp_pure, hin,
    hforce, Bool.not_false, decide_true, Bool.and_self, if_true]
  cases hcb : cfg.cleanBuild with
  | true => simp only [Bool.not_true, wp_whenM_false]; exact hr
  | false =>
    simp only [Bool.not_false, wp_whenM_true]
    refine wp_prim_quiet trivial hr.quiet fun r1 hs1 hq1 => ⟨hr.same.trans ?_, hq1⟩
    intro q
    rw [hs1]
    refine ⟨?_, rfl, rfl, rfl, rfl⟩
    show (r.st.setResult i.path (hashOf E r.st i.path)).results q = r.st.results q
    simp only [St.setResult, hashOf, hd, Option.getD_some]
    by_cases hq : q = i.path
    · subst hq; simp [hres]
    · simp [upd, hq]

theorem preparePackage_skip (hk : i.sig.kind = .package) (hdone : Done E (.mk i pre ds) r.st)
    (hset : Settled E (.mk i pre ds) r.st) (Q : Unit → Run → Prop) (A : Run → Prop) (h : Q () r) :
    wp (preparePackage i ds) Q A r := by
  simp only [Settled, Step.info.eq_1, Step.deps.eq_1, hk] at hset
  have hd : r.st.disk i.path = some _ := hdone.1
  unfold preparePackage
  simp only [wp_bind, wp_getSt, hd, hset.1, Option.isSome_some, ne_eq, not_true_eq_false, decide_false, Bool.and_false,
    Bool.false_eq_true, if_false, wp_pure, Bool.not_true, wp_whenM_false]
  exact h

theorem cookPackage_skip (hforce : cfg.force = false) (hk : i.sig.kind = .package) (hdone : Done E (.mk i pre ds) r.st)
    (hset : Settled E (.mk i pre ds) r.st) (Q : Unit → Run → Prop) (A : Run → Prop) (h : Q () r) :
    wp (cookPackage E cfg i pre ds) Q A r := by
  simp only [Settled, Step.info.eq_1, Step.pre.eq_1, Step.deps.eq_1, hk] at hset
  unfold cookPackage
  simp only [wp_bind, wp_getSt]
  apply constructDir_existing _ _ _ hdone.1
  simp only [hset.2, hforce, Bool.not_false, decide_true, Bool.and_self, if_true, wp_pure]
  exact h

theorem collides_self (c : Content) (scms : List (Dir × Digest)) (hf : FunScm scms) : collides E c scms scms = false := by
  unfold collides
  rw [List.any_eq_false]
  intro x hx
  have : lookupScm scms x.1 = some x.2 := lookupScm_of_mem hf (by simpa using hx)
  simp [this]

/-- `_cookCheckoutStep`: a deterministic checkout is skipped, an indeterministic one is run again and
reproduces exactly what is stored -/
theorem cookCheckout_settled (hforce : cfg.force = false) (hk : i.sig.kind = .checkout)
    (hdone : Done E (.mk i pre ds) r.st) (hset : Settled E (.mk i pre ds) r.st) (hr : NInv T S r)
    (hf : FunScm i.scms) (hacyc : ∀ d ∈ ds, d.path ≠ i.path) (hscr : i.det = false → QuietOp T (.scriptBegin i.path))
    (hsem : ∀ c', E.sem i.sig i.world (value E (.mk i pre ds)) (contentsOf r.st ds) = .ok c' →
      c' = value E (.mk i pre ds)) :
    wp (cookCheckout E cfg i ds) (fun _ r' => NInv T S r') (fun _ => True) r := by
  simp only [Settled, Step.info.eq_1, Step.deps.eq_1, hk] at hset
  obtain ⟨⟨bo, hdir⟩, hin, -, hnd⟩ := hset
  have hd : r.st.disk i.path = some _ := hdone.1
  have hres : r.st.results i.path = some _ := hdone.2
  unfold cookCheckout
  simp only [wp_bind, wp_getSt]
  apply constructDir_existing _ _ _ hd
  cases hdet : i.det with
  | true =>
    have hreason : checkoutReason E cfg i ds false (coParts (r.st.dirStates i.path)) r.st (resultsOf r.st ds) = false := by
      simp [checkoutReason, hforce, hdet, hdir, coParts, hin, hres, hashOf, hd]
    simp only [Bool.false_eq_true, if_false, wp_whenM_false, hreason, wp_pure]
    have : (decide (some (hashOf E r.st i.path) ≠ r.st.results i.path) || cfg.force) = false := by
      simp [hashOf, hd, hres, hforce]
    rw [this, wp_whenM_false]
    exact hr
  | false =>
    obtain ⟨hdir, hvid⟩ := hnd hdet
    have hreason : checkoutReason E cfg i ds false (coParts (r.st.dirStates i.path)) r.st (resultsOf r.st ds) = true := by
      simp [checkoutReason, hdet]
    simp only [Bool.false_eq_true, if_false, wp_whenM_false, hreason, if_true]
    unfold checkoutRun
    simp only [wp_bind, wp_getSt, hdir, coParts]
    rw [atticLoop_noop cfg i.path i.scms hf _ _ i.scms i.scms (fun _ h => h)]
    simp only [wp_pure, collides_self _ _ hf, Bool.false_eq_true, if_false, wp_bind, wp_getSt]
    -- setDir without the variant-id key
    refine wp_prim_quiet trivial hr.quiet ?_
    intro r1 hs1 hq1
    have hr1 : (r1.st.results i.path).isSome = true := by rw [hs1]; simp [St.setDir, hres]
    simp only [hr1, if_true, wp_bind, wp_pure]
    -- forge
    refine wp_prim_quiet trivial hq1 ?_
    intro r2 hs2 hq2
    -- the script
    unfold runScript
    simp only [wp_bind, wp_getSt, Bool.false_eq_true, if_false]
    refine wp_prim_quiet (hscr hdet) hq2 ?_
    intro r3 hs3 hq3
    have hold : (r2.st.disk i.path).getD emptyC = value E (.mk i pre ds) := by
      rw [hs2, hs1]; simp [St.forge, St.setDir, hd]
    have hcont : contentsOf r1.st ds = contentsOf r.st ds := by rw [hs1, contentsOf_setDir]
    rw [hold, hcont]
    cases hs : E.sem i.sig i.world (value E (.mk i pre ds)) (contentsOf r.st ds) with
    | fail c' =>
      simp only [wp_bind]
      refine wp_prim_quiet trivial hq3 ?_
      intro r4 _ _
      simp only [wp_abort]
    | ok c' =>
      simp only []
      refine wp_prim_quiet trivial hq3 ?_
      intro r4 hs4 hq4
      refine wp_prim_quiet trivial hq4 ?_
      intro r5 hs5 hq5
      refine wp_prim_quiet trivial hq5 ?_
      intro r6 hs6 hq6
      refine wp_prim_quiet trivial hq6 ?_
      intro r7 hs7 hq7
      -- the final hash differs from the forged one: it is stored again
      have hne : (decide (some (hashOf E r7.st i.path) ≠ some (RH.forged r1.st.clock)) || cfg.force) = true := by
        simp [hashOf]
      rw [hne, wp_whenM_true]
      refine wp_prim_quiet trivial hq7 ?_
      intro r8 hs8 hq8
      refine ⟨hr.same.trans ?_, hq8⟩
      -- the state is what it was
      have hiv : ivid r6.st i ds = ivid r.st i ds := by
        rw [hs6, hs5, hs4, hs3, hs2, hs1]
        exact ivid_agree ((((((agree_setDir _ _ _).trans (agree_forge _ _)).trans (agree_setDisk _ _ _)).trans
          (agree_setDisk _ _ _)).trans (agree_setDir _ _ _)).trans (agree_setInputs _ _ _)) i ds hacyc
      intro q
      rw [hs8, hs7, hiv, hs6, hs5, hs4, hs3, hs2, hs1, hsem c' hs]
      by_cases hq : q = i.path
      · subst hq
        simp [St.setResult, St.setVid, St.setInputs, St.setDir, St.setDisk, St.forge, hashOf, hres, hin, hdir, hvid, hd]
      · simp [St.setResult, St.setVid, St.setInputs, St.setDir, St.setDisk, St.forge, upd, hq]

end

variable {dev : Bool} {Γ : Path → List (Dir × Digest)}

/-- the state the second invocation starts from: everything reachable is done and settled -/
def Stable (E : Env) (T : Step) (S : St) : Prop := ∀ u ∈ reach T, Done E u S ∧ Settled E u S

theorem Stable.same {T : Step} {S st : St} (hs : Stable E T S) (h : Same S st) : Stable E T st :=
  fun u hu => ⟨h.done (hs u hu).1, h.settled (hs u hu).2⟩

/-- `S` is the state the repeated invocation starts in -/
structure NHyp (E : Env) (dev : Bool) (Γ : Path → List (Dir × Digest)) (cfg : Cfg) (T : Step) (S : St) : Prop where
  sem : SemHyp E dev T
  wf : TreeWF Γ T
  force : cfg.force = false
  stable : Stable E T S

/-- in a stable state every cook function takes its skip branch (an indeterministic checkout
reproduces what is stored); the bookkeeping does not matter -/
theorem noop_spec {cfg : Cfg} {T : Step} {S : St} (H : NHyp E dev Γ cfg T S) :
    DriverSpec E cfg (fun t => ∀ u ∈ reach t, u ∈ reach T) (· = false) (NInv T S) (fun _ => True) (fun _ _ => True)
      (fun _ _ => True) (fun _ _ => True) (fun _ _ => True) where
  sub w d hd u hu := w u (List.mem_cons_of_mem _ (mem_reachL.mpr ⟨d, hd, hu⟩))
  okFalse := rfl
  ofMem _ := trivial
  trans _ _ := trivial
  gMono _ _ := trivial
  nLocal _ _ _ := trivial
  skip _ _ _ := trivial
  was _ _ hr := wp_wasAlreadyRun _ _ _ _ _ fun _ _ _ => ⟨⟨hr.same, hr.quiet⟩, trivial, fun _ => trivial, fun _ => trivial⟩
  mark _ _ hr _ _ := wp_setAlreadyRun _ _ _ _ _ _ fun _ _ => ⟨⟨hr.same, hr.quiet⟩, trivial, trivial⟩
  skipMark _ _ _ _ := trivial
  checkout := @fun i pre ds r w hk hr _ _ => by
    have hst := H.stable.same hr.same
    have htR := w _ (self_mem_reach _)
    have ht := reach_sub_subtrees T _ htR
    have hco := (H.wf.wf _ ht).co (by simp [Step.kind, Step.info, hk])
    obtain rfl := pre_nil H.wf ht (by rw [hk]; exact Kind.noConfusion)
    refine wp_post (fun _ _ h' => ⟨h', trivial⟩) (cookCheckout_settled H.force hk (hst _ htR).1 (hst _ htR).2 hr
      (hco.scms ▸ hco.funscm) (acyc_of_wf (H.wf.wf _ ht)) (fun hdet => ⟨_, ht, rfl, hk, hdet⟩) fun c' hc' => ?_)
    rw [contentsOf_done fun d hd => (hst d (w d (List.mem_cons_of_mem _ (mem_reachL_of_mem hd)))).1] at hc'
    exact value_of_ran H.sem i hk ds c' _ hc'
  build := @fun i pre ds r w hk hr _ _ => by
    obtain ⟨hdone, hset⟩ := H.stable.same hr.same _ (w _ (self_mem_reach _))
    exact wp_post (fun _ _ h' => ⟨h', trivial⟩) (cookBuild_skip H.force hk hdone hset hr)
  package := @fun i pre ds r w hk hr _ => by
    obtain ⟨hdone, hset⟩ := H.stable.same hr.same _ (w _ (self_mem_reach _))
    refine preparePackage_skip hk hdone hset _ _ ⟨hr, fun r3 hr3 _ _ _ _ => ?_⟩
    obtain ⟨hdone, hset⟩ := H.stable.same hr3.same _ (w _ (self_mem_reach _))
    exact cookPackage_skip H.force hk hdone hset _ _ ⟨hr3, trivial⟩

end Builder
