import BobModel.Proofs.C20Merge
import BobModel.Proofs.C20NameMap
/-
C20: the merge loops of `sanitize` keep the invariant for every order in which names and jobs are
processed.  A loop is given some of the jobs of a listing of the live jobs; the jobs it merges away cease to be
live, and what it returns, with the rest of the listing, is a listing again (`LoopPost.list`).
-/
namespace Jenkins

theorem mergeInto_known {n i j : Nat} {s : St} {k : Nat} (h : s.v2j k ≠ none) : (mergeInto n i j s).v2j k ≠ none := by
  unfold mergeInto
  simp only
  split
  · simp
  · rw [addChilds_v2j]; exact h

theorem inner_known {n i : Nat} : ∀ (rem todo : List Nat) (s : St) (k : Nat), s.v2j k ≠ none →
    (inner n i rem todo s).1.v2j k ≠ none := by
  intro rem todo s k h
  fun_induction inner n i rem todo s with
  | case1 => exact h
  | case2 _ _ _ _ _ ih => exact ih h
  | case3 _ _ _ _ _ ih => exact ih (mergeInto_known h)

theorem mergeLoop_known {n : Nat} : ∀ (fuel : Nat) (todo jobs : List Nat) (s : St) (k : Nat), s.v2j k ≠ none →
    (mergeLoop n fuel todo jobs s).1.v2j k ≠ none := by
  intro fuel todo jobs s k h
  fun_induction mergeLoop n fuel todo jobs s with
  | case1 => exact h
  | case2 => exact h
  | case3 _ _ _ _ _ _ ih => exact ih (inner_known _ _ _ k h)

theorem mergeAll_known {n : Nat} (L : List Str) : ∀ (s : St) (k : Nat), s.v2j k ≠ none →
    (L.foldl (mergeName n) s).v2j k ≠ none :=
  fun _ k h => List.foldlRecOn L (mergeName n) (motive := fun t => t.v2j k ≠ none) h
    fun t ht _ _ => mergeLoop_known _ _ _ t k ht

theorem Inv.with_names {g : Graph} {n : Nat} {s : St} (h : Inv g n s) (M : NameMap) :
    Inv g n { s with names := M } :=
  { lt := h.lt, rep := h.rep, closed := h.closed, pkgs := h.pkgs, parents := h.parents, childs := h.childs,
    acyclic := h.acyclic }

/-- `L` are the jobs that `inner` or `mergeLoop` is given, `L ++ R` lists the live jobs -/
structure LoopPost (g : Graph) (n : Nat) (s : St) (L R : List Nat) (r : St × List Nat) : Prop where
  inv : Inv g n r.1
  names : r.1.names = s.names
  sub : r.2.Sublist L
  list : Listing (r.2 ++ R) r.1

theorem inner_spec {g : Graph} {n : Nat} (i : Nat) (rem todo : List Nat) (s : St) (R : List Nat) (h : Inv g n s)
    (hL : Listing (todo ++ rem ++ R) s) (hi : i ∈ R) : LoopPost g n s (todo ++ rem) R (inner n i rem todo s) := by
  fun_induction inner n i rem todo s with
  | case1 todo s => rw [List.append_nil] at hL ⊢; exact ⟨h, rfl, .refl _, hL⟩
  | case2 j rem todo s hc ih =>
    -- `j` is kept for a later iteration of `mergeLoop`
    have e : (todo ++ [j]) ++ rem = todo ++ j :: rem := List.append_cons .. |>.symm
    exact e ▸ ih h (e ▸ hL)
  | case3 j rem todo s hc ih =>
    -- `j` is merged into `i` and ceases to be live
    have hjm : j ∈ todo ++ j :: rem := List.mem_append_right _ List.mem_cons_self
    have hij : i ≠ j := fun e => (List.nodup_append.mp hL.1).2.2 j hjm i hi e.symm
    have hil := (hL.2 i).mp (List.mem_append_right _ hi)
    obtain ⟨hI, hv, hn⟩ := inv_mergeInto h hil ((hL.2 j).mp (List.mem_append_left _ hjm)) hij (by simpa using hc)
    have hL' : Listing (todo ++ rem ++ R) (mergeInto n i j s) :=
      (hL.perm ((List.perm_middle (l₁ := todo)).append_right R)).drop fun k => by rw [hv]; exact live_mrg hil hij k
    have r := ih hI hL'
    exact ⟨r.inv, r.names.trans hn, r.sub.trans ((List.sublist_cons_self j rem).append_left todo), r.list⟩

theorem mergeLoop_spec {g : Graph} {n : Nat} (fuel : Nat) (todo jobs : List Nat) (s : St) (R : List Nat) (h : Inv g n s)
    (hL : Listing (jobs ++ todo ++ R) s) (hf : todo.length < fuel) :
    LoopPost g n s (jobs ++ todo) R (mergeLoop n fuel todo jobs s) := by
  fun_induction mergeLoop n fuel todo jobs s with
  | case1 => omega
  | case2 _ jobs s => rw [List.append_nil] at hL ⊢; exact ⟨h, rfl, .refl _, hL⟩
  | case3 f i rest jobs s _ ih =>
    -- one iteration: the jobs of `rest` that are comparable with `i` remain
    have e : jobs ++ i :: rest = (jobs ++ [i]) ++ rest := List.append_cons ..
    have q := inner_spec (g := g) (n := n) i rest [] s ((jobs ++ [i]) ++ R) h
      ((List.append_assoc ..) ▸ (e ▸ hL).perm (List.perm_append_comm.append_right R)) (by simp)
    have qsub : (inner n i rest [] s).2.Sublist rest := q.sub
    have r := ih q.inv ((q.list.perm (List.append_assoc .. ▸ List.perm_append_comm.append_right R)))
      (Nat.lt_of_le_of_lt qsub.length_le (Nat.lt_of_succ_lt_succ hf))
    exact ⟨r.inv, r.names.trans q.names, e ▸ r.sub.trans (qsub.append_left _), r.list⟩

theorem mergeName_spec {g : Graph} {n : Nat} {s : St} (nm : Str) (h : Inv g n s) (hN : NamesOk s.names s) :
    Inv g n (mergeName n s nm) ∧ NamesOk (mergeName n s nm).names (mergeName n s nm) := by
  -- the listing is `lookup s.names nm ++ R`, it becomes (what `mergeLoop` returns) `++ R`
  obtain ⟨R, p1, p2⟩ := allJobs_setName_perm s.names nm
  have r := mergeLoop_spec (g := g) (n := n) ((lookup s.names nm).length + 1) (lookup s.names nm) [] s R h
    (hN.listing.perm p1) (Nat.lt_succ_self _)
  have hF := r.list.perm (p2 _ fun k hk => r.sub.subset hk).symm
  refine ⟨r.inv.with_names _, ?_⟩
  show NamesOk (setName (mergeLoop n _ _ [] s).1.names nm (mergeLoop n _ _ [] s).2) _
  rw [r.names]
  exact ⟨keys_setName.symm ▸ hN.keys, hF.1, hF.2⟩

/-- `mergeAll` is the case `L = isort strLe (s.names.map (·.1))`: the order of the names plays no role. -/
theorem mergeAll_spec {g : Graph} {n : Nat} (L : List Str) {s : St} (h : Inv g n s) (hN : NamesOk s.names s) :
    Inv g n (L.foldl (mergeName n) s) ∧ NamesOk (L.foldl (mergeName n) s).names (L.foldl (mergeName n) s) :=
  List.foldlRecOn L (mergeName n) (motive := fun t => Inv g n t ∧ NamesOk t.names t) ⟨h, hN⟩
    fun _ ht nm _ => mergeName_spec nm ht.1 ht.2

end Jenkins
