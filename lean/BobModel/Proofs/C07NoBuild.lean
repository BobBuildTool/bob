import BobModel.Proofs.C07Cook
/-
C07: what was uploaded is downloaded without building - for every download depth, by induction over the package
tree.
-/
namespace Download

/-- the workspace was never used or only for downloads -/
def DLOnly (l : Loc) : Prop := (l.inp = none ∧ l.res = none) ∨ ∃ b, l.inp = some (.downloaded b)

theorem dl_succeeds (E : Env) (cfg : Cfg) (depth : Nat) (i : PInfo) (b : BuildId) (l : Loc) (c : Content)
    (ht : tryDownload cfg.dl depth i = true) (hc : cfg.canDownload = true) (hl : DLOnly l) :
    (dlOps E cfg depth i b l (some (.good c (some (E.H c))))).2 = .downloaded := by
  have hf : (dlFetchOps E cfg depth i b (fetch cfg (some (.good c (some (E.H c)))))).2 = .downloaded := by
    rw [fetch_some hc, dlFetchOps_good]
  cases hp : dlPrune cfg b (dissect l.inp)
  · cases hr : l.res with
    | none => rw [dlOps_fetch ht hp hr]; exact hf
    | some r =>
      rw [dlOps_keep ht hp hr]
      rcases hl with ⟨_, h2⟩ | h2
      · rw [hr] at h2; cases h2
      · rw [(wasDownloaded_iff _).mpr h2]; rfl
  · rw [dlOps_prune ht hp]; exact hf

def Op.isRun : Op → Bool
  | .runPackage _ _ => true
  | _ => false

theorem prepOps_norun (i : PInfo) (l : Loc) : ∀ op ∈ prepOps i l, op.isRun = false :=
  forall_mem_prepOps (fun _ => rfl) rfl

theorem dlOps_norun (E : Env) (cfg : Cfg) (depth : Nat) (i : PInfo) (b : BuildId) (l : Loc) (x : Option Artifact) :
    ∀ op ∈ (dlOps E cfg depth i b l x).1, op.isRun = false :=
  forall_mem_dlOps rfl (fun _ => rfl) rfl rfl
    (forall_mem_dlFetchOps rfl rfl rfl rfl (fun _ => rfl) rfl)

theorem prep_dlonly (E : Env) (i : PInfo) (l : Loc) (h : DLOnly l) : DLOnly ((prepOps i l).foldl (locOp E) l) := by
  rcases prepOps_cases i l with ⟨_, e⟩ | ⟨_, e⟩ | ⟨_, _, e⟩ <;> rw [e]
  · exact Or.inl ⟨rfl, rfl⟩
  · exact Or.inl ⟨rfl, rfl⟩
  · exact h

mutual
/-- the packages above the download depth: those `_downloadPackage` may not even try to fetch -/
def shallowP (dl : DlCfg) (depth : Nat) : Pkg → List Path
  | .mk i ds => if tryDownload dl depth i then [] else i.path :: shallowL dl (depth + 2) ds
def shallowL (dl : DlCfg) (depth : Nat) : List Pkg → List Path
  | [] => []
  | d :: ds => shallowP dl depth d ++ shallowL dl depth ds
end

/-- every package of the project has an extractable, self-consistent artifact under its Build-Id -/
def Full (E : Env) (a : Archive) (N : List Pkg) : Prop := ∀ u ∈ N, ∃ c, a (tb E u) = some (.good c (some (E.H c)))

/-- a package is not its own (transitive) dependency -/
def Acyc (N : List Pkg) : Prop := ∀ i ds, Pkg.mk i ds ∈ N → ∀ u ∈ nodesL ds, u.path ≠ i.path

theorem acyc_iff (N : List Pkg) : Acyc N ↔ ∀ t ∈ N, ∀ u ∈ nodesL t.deps, u.path ≠ t.path :=
  ⟨fun h t => by cases t with | mk i ds => exact h i ds, fun h i ds => h (.mk i ds)⟩

/-- every package that is not cooked yet and not being cooked (`A`) has not been tried and has a download-only
workspace -/
def Acc (N : List Pkg) (A : List Path) (r : Run) : Prop :=
  ∀ u ∈ N, r.mem.wasRun u.path = none → u.path ∉ A → r.mem.tried u.path = false ∧ DLOnly (r.st.loc u.path)

theorem Acc.step {N : List Pkg} {A A' : List Path} {p : Option Path} {r r' : Run} (hA : Acc N A r) (hS : StepAt p r r')
    (hsub : ∀ q ∈ A, q ∈ A') (hp : ∀ q, p = some q → r'.mem.wasRun q ≠ none ∨ q ∈ A') : Acc N A' r' := by
  intro u hu hwu hnu
  have hne : some u.path ≠ p := by
    intro e
    rcases hp _ e.symm with h | h
    · exact h hwu
    · exact hnu h
  have hw0 : r.mem.wasRun u.path = none := by
    cases h : r.mem.wasRun u.path with
    | none => rfl
    | some v => rw [hS.mono _ _ h] at hwu; cases hwu
  rw [hS.tried _ hne hwu, hS.frame _ hne hwu]
  exact hA u hu hw0 (fun h => hnu (hsub _ h))

/-- the package scripts executed between `r` and `r'` belong to workspaces in `S` -/
def NewRuns (r r' : Run) (S : List Path) : Prop :=
  ∀ p c, Op.runPackage p c ∈ r'.log → Op.runPackage p c ∈ r.log ∨ p ∈ S

theorem NewRuns.refl (r : Run) (S : List Path) : NewRuns r r S := fun _ _ h => Or.inl h

theorem NewRuns.trans {a b c : Run} {S : List Path} (h1 : NewRuns a b S) (h2 : NewRuns b c S) : NewRuns a c S :=
  fun p x h => (h2 p x h).elim (h1 p x) Or.inr

theorem NewRuns.mono {a b : Run} {S T : List Path} (h : NewRuns a b S) (hs : ∀ p ∈ S, p ∈ T) : NewRuns a b T :=
  fun p x hm => (h p x hm).imp_right (hs p)

theorem newRuns_exec (E : Env) (r : Run) (ops : List Op) (S : List Path) (h : ∀ op ∈ ops, op.isRun = false ∨ op.path ∈ S) :
    NewRuns r (r.exec E ops) S := by
  intro p c hm
  rcases List.mem_append.mp (show Op.runPackage p c ∈ r.log ++ ops from hm) with h1 | h1
  · exact Or.inl h1
  · exact (h _ h1).elim (fun h2 => by cases h2) Or.inr

section steps
variable (E : Env) (cfg : Cfg) (depth : Nat) (i : PInfo) (ds : List Pkg) (b : BuildId) (r : Run)

theorem preDl_arch : (preDl E i ds r).2.arch = r.arch :=
  exec_arch (prepOps_path i _)

theorem preDl_newRuns (S : List Path) : NewRuns r (preDl E i ds r).2 S :=
  newRuns_exec E r _ S (fun op h => Or.inl (prepOps_norun i _ op h))

theorem dlPhase_arch : (dlPhase E cfg depth i b r).2.arch = r.arch :=
  dlPhase_ind (P := fun x => x.arch = r.arch) rfl (exec_arch (dlOps_path E cfg depth i b _ _)) (fun _ h => h)

theorem dlPhase_newRuns (S : List Path) : NewRuns r (dlPhase E cfg depth i b r).2 S :=
  dlPhase_ind (P := fun x => NewRuns r x S) (NewRuns.refl _ _)
    (newRuns_exec E r _ S fun op h => Or.inl (dlOps_norun E cfg depth i b _ _ op h)) (fun _ h => h)

theorem dlPhase_outcome (htr : r.mem.tried i.path = false) :
    (dlPhase E cfg depth i b r).1 = (dlOps E cfg depth i b (r.st.loc i.path) (r.arch b)).2 := by
  rcases dlPhase_cases E cfg depth i b r with ⟨h, _⟩ | ⟨_, h, e⟩ | ⟨_, _, e⟩
  · rw [htr] at h; cases h
  · rw [e, h]
  · rw [e]

theorem finish_newRuns {S : List Path} (hS : i.path ∈ S) : NewRuns r (finishPkg E cfg depth i ds b r).run S := by
  refine finish_ind (P := fun x => NewRuns r x S) ?_ (fun r0 _ _ h => ?_) (fun r1 h => ?_)
  · obtain ⟨w, h⟩ := war_frame i r
    rw [h]
    exact NewRuns.refl _ _
  · exact h.trans (newRuns_exec E r0 _ S fun op ho => Or.inr ((pkgOps_path E cfg i b _ _ _ op ho).1 ▸ hS))
  · exact h.trans (newRuns_exec E r1 _ S fun op ho => Or.inl (List.mem_singleton.mp ho ▸ rfl))

/-- `_openUploadFile(…, overwrite=False)`: an artifact that is there stays -/
theorem finish_arch {x : Artifact} (hx : r.arch b = some x) : (finishPkg E cfg depth i ds b r).run.arch = r.arch := by
  refine finish_ind (P := fun y => y.arch = r.arch) ?_ (fun r0 _ _ h => ?_) (fun r1 h => ?_)
  · obtain ⟨w, h⟩ := war_frame i r
    rw [h]
  · exact (exec_arch (pkgOps_path E cfg i b _ _ _)).trans h
  · show (applyOp E (r1.st, r1.arch) (.upload i.path b)).2 = r.arch
    rcases applyOp_upload E r1.st r1.arch i.path b with ⟨_, e⟩ | ⟨_, _, h2, e⟩
    · rw [e]; exact h
    · rw [h, hx] at h2; cases h2

theorem checkSrc_none (hp : i.pred = none) : checkSrc i r = none :=
  (checkSrc_cases i r).elim (·.2) (fun h => absurd (by simp [srcNow, hp]) h.1)

end steps

section
variable {E : Env} {ρ : Vid → RSig} {N : List Pkg}

/-- `A` = the packages that are being cooked further up -/
def NB (E : Env) (ρ : Vid → RSig) (N : List Pkg) (cfg : Cfg) (t : Pkg) : Prop :=
  ∀ depth r A, (∀ u ∈ nodes t, u ∈ N) → G E ρ N r → Acc N A r → (∀ u ∈ nodes t, u.path ∉ A) → Full E r.arch N →
    ∃ r', cookPkg E cfg depth t r = .ok r' ∧ r'.arch = r.arch ∧ NewRuns r r' (shallowP cfg.dl depth t)

def NBL (E : Env) (ρ : Vid → RSig) (N : List Pkg) (cfg : Cfg) (ds : List Pkg) : Prop :=
  ∀ depth r A, (∀ u ∈ nodesL ds, u ∈ N) → G E ρ N r → Acc N A r → (∀ u ∈ nodesL ds, u.path ∉ A) → Full E r.arch N →
    ∃ r', cookList E cfg depth ds r = .ok r' ∧ r'.arch = r.arch ∧ NewRuns r r' (shallowL cfg.dl depth ds)

theorem nbl_cons (hB : BidSound E) (hH : Function.Injective E.H) (hNA : NoAlias N) (hV : VidOK ρ N) (cfg : Cfg)
    (d : Pkg) (ds : List Pkg) (hd : NB E ρ N cfg d) (hds : NBL E ρ N cfg ds) : NBL E ρ N cfg (d :: ds) := by
  intro depth r A hsub hG hA hnA hF
  have hsd : ∀ u ∈ nodes d, u ∈ N := fun u hu => hsub u (by simp [nodesL, hu])
  obtain ⟨r1, e1, ar1, n1⟩ := hd depth r A hsd hG hA (fun u hu => hnA u (by simp [nodesL, hu])) hF
  have hk := kpkg_all hB hH hNA hV cfg d depth r hsd hG
  rw [e1] at hk
  obtain ⟨r2, e2, ar2, n2⟩ := hds depth r1 A (fun u hu => hsub u (by simp [nodesL, hu])) hk.1
    (hA.step hk.2.1 (fun _ h => h) (fun _ e => by cases e)) (fun u hu => hnA u (by simp [nodesL, hu])) (by rw [ar1]; exact hF)
  exact ⟨r2, by simp only [cookList, e1, e2], by rw [ar2, ar1],
    (n1.mono fun _ h => List.mem_append_left _ h).trans (n2.mono fun _ h => List.mem_append_right _ h)⟩

theorem nb_mk (hB : BidSound E) (hNA : NoAlias N) (hAc : Acyc N)
    (hnp : ∀ u ∈ N, u.info.pred = none) (cfg : Cfg) (hc : cfg.canDownload = true)
    (i : PInfo) (ds : List Pkg) (ih : NBL E ρ N cfg ds) : NB E ρ N cfg (.mk i ds) := by
  intro depth r A hsub hG hA hnA hF
  have htN : Pkg.mk i ds ∈ N := hsub _ (self_mem_nodes _)
  have hdsN : ∀ u ∈ nodesL ds, u ∈ N := fun u hu => hsub u (by simp [nodes, hu])
  rcases war_spec hNA hG i ds htN with ⟨hw, hrun⟩ | ⟨hw, hrun⟩
  · rw [cookPkg_done hw]
    exact ⟨r, rfl, rfl, NewRuns.refl _ _⟩
  · rw [cookPkg_go hw rfl rfl]
    obtain ⟨htr0, hdl0⟩ := hA _ htN hrun (hnA _ (self_mem_nodes _))
    -- `_preparePackageStep`, `_getBuildId`: the Build-Id is the one the archive has the artifact under
    obtain ⟨hG2, hS2, hw2, hP2, hb2⟩ := preDl_spec hNA hG i ds hsub hrun
    have har2 := preDl_arch E i ds r
    have hn2 := preDl_newRuns E i ds r (shallowP cfg.dl depth (.mk i ds))
    have htr2 : (preDl E i ds r).2.mem.tried i.path = false := (congrFun (gb_frame E _ _).2.2 i.path).trans htr0
    have hdl2 : DLOnly ((preDl E i ds r).2.st.loc i.path) := by
      show DLOnly ((r.exec E _).st.loc i.path)
      rw [exec_loc_same (prepOps_path i _)]
      exact prep_dlonly E i _ hdl0
    have hb2' := hb2
    rw [eff_id _ _ (fun u hu => Or.inr (Or.inl (hnp u (hsub u hu))))] at hb2'
    generalize preDl E i ds r = pb at hG2 hS2 hw2 hP2 hb2 hb2' har2 hn2 htr2 hdl2 ⊢
    obtain ⟨cA, hcA⟩ := hF _ htN
    have harch2 : pb.2.arch pb.1 = some (.good cA (some (E.H cA))) := by rw [har2, hb2']; exact hcA
    obtain ⟨_, d3, _⟩ := dlPhase_spec hB hG2 cfg depth i ds pb.1 hw2 hP2 hb2
    have har3 := (dlPhase_arch E cfg depth i pb.1 pb.2).trans har2
    have hn3 := hn2.trans (dlPhase_newRuns E cfg depth i pb.1 pb.2 _)
    have ho := dlPhase_outcome E cfg depth i pb.1 pb.2 htr2
    rw [harch2] at ho
    generalize dlPhase E cfg depth i pb.1 pb.2 = d at d3 har3 hn3 ho ⊢
    obtain ⟨o, r3⟩ := d
    cases htry : tryDownload cfg.dl depth i
    · -- above the download depth: the dependencies are cooked, the package is built
      rw [dlOps_skip htry] at ho
      cases ho
      obtain ⟨hG3, hS3, -, -⟩ := d3 (fun e => by cases e)
      simp only [checkSrc_none i r3 (hnp _ htN)]
      have hnA3 : ∀ u ∈ nodesL ds, u.path ∉ i.path :: A := by
        intro u hu hm
        rcases List.mem_cons.mp hm with h | h
        · exact hAc i ds htN u hu h
        · exact hnA u (by simp [nodes, hu]) h
      obtain ⟨r5, e5, ar5, n5⟩ := ih (depth + 2) r3 (i.path :: A) hdsN hG3
        (hA.step (hS2.trans hS3) (fun _ h => List.mem_cons_of_mem _ h) (fun q e => Or.inr (by cases e; simp))) hnA3
        (by rw [har3]; exact hF)
      simp only [e5]
      rw [finish_ok]
      refine ⟨_, rfl, ?_, ?_⟩
      · rw [finish_arch E cfg depth i ds pb.1 r5 (by rw [ar5, har3, hb2']; exact hcA), ar5, har3]
      · have hsh : shallowP cfg.dl depth (.mk i ds) = i.path :: shallowL cfg.dl (depth + 2) ds := by
          rw [shallowP, htry]; rfl
        rw [hsh] at hn3 ⊢
        exact (hn3.trans (n5.mono fun _ h => List.mem_cons_of_mem _ h)).trans
          (finish_newRuns E cfg depth i ds pb.1 r5 List.mem_cons_self)
    · -- at or below the download depth: downloaded, nothing else happens
      rw [dl_succeeds E cfg depth i pb.1 _ cA htry hc hdl2] at ho
      cases ho
      exact ⟨_, rfl, har3, hn3⟩

/-- **every package at or below the download depth is downloaded, no script at or below it is executed** -/
theorem nb_all (hB : BidSound E) (hH : Function.Injective E.H) (hNA : NoAlias N) (hV : VidOK ρ N) (hAc : Acyc N)
    (hnp : ∀ u ∈ N, u.info.pred = none) (cfg : Cfg) (hc : cfg.canDownload = true) (t : Pkg) : NB E ρ N cfg t :=
  Pkg.rec (motive_1 := fun t => NB E ρ N cfg t) (motive_2 := fun ds => NBL E ρ N cfg ds)
    (fun i ds ih => nb_mk hB hNA hAc hnp cfg hc i ds ih) (fun _ r _ _ _ _ _ _ => ⟨r, rfl, rfl, NewRuns.refl _ _⟩)
    (fun d ds hd hds => nbl_cons hB hH hNA hV cfg d ds hd hds) t

end

end Download
