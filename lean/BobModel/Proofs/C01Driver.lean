import BobModel.Proofs.C05Ops
/-
The depth-first driver (`_cook`, `_cookStep`, `_getBuildId`), walked once.  A property of the driver
is an invariant `I` of the run together with what cooking a step achieves (`G`); `DriverSpec` lists
what has to be shown about the bookkeeping (`_wasAlreadyRun`, `_setAlreadyRun`) and about the four
cook functions, each taken alone, and `DriverSpec.cook` concludes it for `cookStep`, `cookList`
and `bidDeps` by structural induction over the step tree.  That a cook function writes only the
components of its own path (`Confined`) is used here once, so that what is known about the own
workspace of a step survives the cooking of its dependencies (`Steps`).
-/
namespace Builder

variable {E : Env}

/-- only the paths in `S` may differ between `st` and `st'` (clock and attic list are free);
`AgreeOff p` (C01Base) is `Touch [p]` -/
def Touch (S : List Path) (st st' : St) : Prop :=
  ∀ q, q ∉ S → st'.results q = st.results q ∧ st'.inputs q = st.inputs q ∧ st'.dirStates q = st.dirStates q
    ∧ st'.disk q = st.disk q ∧ st'.variantIds q = st.variantIds q

theorem Touch.refl (S : List Path) (st : St) : Touch S st st := fun _ _ => ⟨rfl, rfl, rfl, rfl, rfl⟩

theorem Touch.trans {S : List Path} {a b c : St} (h1 : Touch S a b) (h2 : Touch S b c) : Touch S a c := by
  intro q hq
  obtain ⟨a1, a2, a3, a4, a5⟩ := h1 q hq
  obtain ⟨b1, b2, b3, b4, b5⟩ := h2 q hq
  exact ⟨b1.trans a1, b2.trans a2, b3.trans a3, b4.trans a4, b5.trans a5⟩

theorem Touch.mono {S S' : List Path} {a b : St} (hs : ∀ q, q ∈ S → q ∈ S') (h : Touch S a b) : Touch S' a b :=
  fun q hq => h q (fun hm => hq (hs q hm))

theorem touch_of_agree {p : Path} {S : List Path} {a b : St} (hp : p ∈ S) (h : AgreeOff p a b) : Touch S a b :=
  fun q hq => h q (fun he => hq (he ▸ hp))

def paths (t : Step) : List Path := (subtrees t).map Step.path
def pathsL (ds : List Step) : List Path := (subtreesL ds).map Step.path

theorem paths_mk (i : Info) (pre ds : List Step) :
    paths (.mk i pre ds) = i.path :: (pathsL pre ++ pathsL ds) := by
  simp [paths, pathsL, subtrees, Step.path, Step.info]

theorem pathsL_sub_mk {i : Info} {pre ds : List Step} (q : Path) (hq : q ∈ pathsL ds) : q ∈ paths (.mk i pre ds) := by
  rw [paths_mk]
  simp [hq]

theorem pathsL_cons (d : Step) (ds : List Step) : pathsL (d :: ds) = paths d ++ pathsL ds := by
  simp [paths, pathsL, subtreesL]

theorem self_mem_subtrees (t : Step) : t ∈ subtrees t := by
  cases t with
  | mk i pre ds => simp [subtrees]

theorem mem_subtreesL_iff {u : Step} {ds : List Step} : u ∈ subtreesL ds ↔ ∃ d ∈ ds, u ∈ subtrees d := by
  induction ds with
  | nil => simp [subtreesL]
  | cons x xs ih => simp [subtreesL, ih]

theorem mem_subtreesL {d : Step} {ds : List Step} (h : d ∈ ds) : d ∈ subtreesL ds :=
  mem_subtreesL_iff.mpr ⟨d, h, self_mem_subtrees d⟩

theorem subtrees_of_dep {i : Info} {pre ds : List Step} {d u : Step} (hd : d ∈ ds) (hu : u ∈ subtrees d) :
    u ∈ subtrees (.mk i pre ds) := by
  rw [subtrees]
  exact List.mem_cons_of_mem _ (List.mem_append_right _ (mem_subtreesL_iff.mpr ⟨d, hd, hu⟩))

theorem path_mem_pathsL {d : Step} {ds : List Step} (h : d ∈ ds) : d.path ∈ pathsL ds :=
  List.mem_map.mpr ⟨d, mem_subtreesL h, rfl⟩

/-- what the driver may change while it works on the steps whose workspace paths are `P`: the
components of these paths and their `__wasRun` entries; the log grows -/
structure Steps (P : List Path) (r r' : Run) : Prop where
  st : Touch P r.st r'.st
  mem : ∀ q, q ∉ P → r'.mem.wasRun q = r.mem.wasRun q
  log : ∃ l, r'.log = r.log ++ l

theorem Steps.refl (P : List Path) (r : Run) : Steps P r r := ⟨Touch.refl _ _, fun _ _ => rfl, [], by simp⟩

theorem Steps.trans {P : List Path} {a b c : Run} (h1 : Steps P a b) (h2 : Steps P b c) : Steps P a c := by
  obtain ⟨l1, e1⟩ := h1.log
  obtain ⟨l2, e2⟩ := h2.log
  exact ⟨h1.st.trans h2.st, fun q hq => (h2.mem q hq).trans (h1.mem q hq), l1 ++ l2, by rw [e2, e1, List.append_assoc]⟩

theorem Steps.mono {P P' : List Path} {a b : Run} (hs : ∀ q, q ∈ P → q ∈ P') (h : Steps P a b) : Steps P' a b :=
  ⟨h.st.mono hs, fun q hq => h.mem q (fun hm => hq (hs q hm)), h.log⟩

theorem Confined.steps {p : Path} {α : Type} {m : M α} (hc : Confined p m) (r : Run) :
    wp m (fun _ r' => Steps [p] r r' ∧ r'.mem = r.mem) (fun _ => True) r := by
  refine wp_post ?_ (wp_frame (hc (frame_closed p) r) (hc (logmono_own p) r))
  intro _ r' ⟨⟨ha, hm⟩, hl⟩
  exact ⟨⟨touch_of_agree (List.mem_singleton_self p) ha, fun _ _ => by rw [hm], hl⟩, hm⟩

/-! ## the bookkeeping operations write `__wasRun` / `__wasSkipped` of the step's path only -/

theorem wp_wasAlreadyRun (t : Step) (so : Bool) (Q : Bool → Run → Prop) (A : Run → Prop) (r : Run)
    (h : ∀ b m, (∀ q, q ≠ t.path → m.wasRun q = r.mem.wasRun q) → Q b { r with mem := m }) :
    wp (wasAlreadyRun t so) Q A r := by
  unfold wasAlreadyRun
  simp only [wp_bind, wp_getMem]
  cases hw : r.mem.wasRun t.path with
  | none => simp only [wp_pure]; exact h false r.mem fun _ _ => rfl
  | some x =>
    obtain ⟨v, c⟩ := x
    simp only []
    split
    · simp only [wp_bind, wp_setMem, wp_pure]; exact h _ _ fun q hq => upd_other _ _ _ _ hq
    · split
      · simp only [wp_pure]; exact h false r.mem fun _ _ => rfl
      · simp only [wp_pure]; exact h true r.mem fun _ _ => rfl

theorem wp_setAlreadyRun (t : Step) (c s : Bool) (Q : Unit → Run → Prop) (A : Run → Prop) (r : Run)
    (h : ∀ m, (∀ q, q ≠ t.path → m.wasRun q = r.mem.wasRun q) → Q () { r with mem := m }) :
    wp (setAlreadyRun t c s) Q A r := by
  unfold setAlreadyRun
  simp only [wp_bind, wp_getMem, wp_setMem]
  exact h _ fun q hq => upd_other _ _ _ _ hq

theorem steps_mem {r : Run} {m : Mem} {p : Path} (h : ∀ q, q ≠ p → m.wasRun q = r.mem.wasRun q) :
    Steps [p] r { r with mem := m } :=
  ⟨Touch.refl _ _, fun q hq => h q (fun he => hq (he ▸ List.mem_singleton_self p)), [], by simp⟩

variable {cfg : Cfg} {W : Step → Prop} {okc : Bool → Prop} {I A : Run → Prop} {R : Run → Run → Prop}
  {G Gp N : Step → Run → Prop}

/-- what is to be shown, operation by operation, for a property of the driver: on the steps `W`
(closed under dependencies) and in the `--checkout-only` modes `okc`,
* `I` is the invariant of the run and `A` what holds when it is cut;
* `R` relates an earlier run to a later one (transitive, and true when the bookkeeping is untouched);
* `G t` is what having cooked `t` achieves; it is kept along `R`;
* `N t` is known of a step that `_wasAlreadyRun` has just reported as not cooked; it speaks of the
  step's own path only (`nLocal`);
* `Gp t` is what the cook function of `t` achieves and `_setAlreadyRun` then turns into `G t`. -/
structure DriverSpec (E : Env) (cfg : Cfg) (W : Step → Prop) (okc : Bool → Prop) (I A : Run → Prop)
    (R : Run → Run → Prop) (G Gp N : Step → Run → Prop) : Prop where
  sub : ∀ {i pre ds}, W (.mk i pre ds) → ∀ d ∈ ds, W d
  okFalse : okc false
  ofMem : ∀ {r r' : Run}, r'.mem = r.mem → R r r'
  trans : ∀ {a b c : Run}, R a b → R b c → R a c
  gMono : ∀ {d r r'}, G d r → R r r' → G d r'
  nLocal : ∀ {t r r'}, W t → N t r → Steps (pathsL t.deps) r r' → N t r'
  /-- with `--no-deps` dependencies are left out: nothing can then be promised per step -/
  skip : cfg.noDeps = true → ∀ d r, G d r
  was : ∀ {t co r}, W t → okc co → I r →
    wp (wasAlreadyRun t co) (fun b r' => I r' ∧ R r r' ∧ (b = true → G t r') ∧ (b = false → N t r')) A r
  mark : ∀ {t c s r}, W t → okc s → I r → Gp t r → (∀ d ∈ t.deps, G d r) →
    wp (setAlreadyRun t c s) (fun _ r' => I r' ∧ R r r' ∧ G t r') A r
  /-- `--checkout-only`: build and package steps are marked without being cooked -/
  skipMark : ∀ {t r}, W t → okc true → t.kind ≠ .checkout → I r → Gp t r
  checkout : ∀ {i pre ds r}, W (.mk i pre ds) → i.sig.kind = .checkout → I r → N (.mk i pre ds) r →
    (∀ d ∈ ds, G d r) → wp (cookCheckout E cfg i ds) (fun _ r' => I r' ∧ Gp (.mk i pre ds) r') A r
  build : ∀ {i pre ds r}, W (.mk i pre ds) → i.sig.kind = .build → I r → N (.mk i pre ds) r →
    (∀ d ∈ ds, G d r) → wp (cookBuild E cfg i ds) (fun _ r' => I r' ∧ Gp (.mk i pre ds) r') A r
  /-- `_preparePackageStep` runs before the dependencies are cooked, `_cookPackageStep` after them, from
  a run `r3` that differs from `r1` only in the workspaces of the dependencies and by a longer log
  (not `Steps`: the `_wasAlreadyRun` in between may drop the step's own `__wasRun` entry) -/
  package : ∀ {i pre ds r}, W (.mk i pre ds) → i.sig.kind = .package → I r → N (.mk i pre ds) r →
    wp (preparePackage i ds) (fun _ r1 => I r1 ∧
      ∀ r3, I r3 → Touch (pathsL ds) r1.st r3.st → (∃ l, r3.log = r1.log ++ l) → N (.mk i pre ds) r3 →
        (∀ d ∈ ds, G d r3) → wp (cookPackage E cfg i pre ds) (fun _ r' => I r' ∧ Gp (.mk i pre ds) r') A r3) A r

/-- from a run satisfying `I`, the program `m` keeps `I`, changes only what the steps at `P` may
change, and achieves `Gr` -/
def Sp (I A : Run → Prop) (R : Run → Run → Prop) (P : List Path) (Gr : Run → Prop) (m : M Unit) : Prop :=
  ∀ r, I r → wp m (fun _ r' => I r' ∧ R r r' ∧ Steps P r r' ∧ Gr r') A r

theorem Sp.mono {P P' : List Path} {Gr : Run → Prop} {m : M Unit} (hp : ∀ q, q ∈ P → q ∈ P')
    (hm : Sp I A R P Gr m) : Sp I A R P' Gr m :=
  fun r hI => wp_post (fun _ _ ⟨h1, h2, h3, h4⟩ => ⟨h1, h2, h3.mono hp, h4⟩) (hm r hI)

namespace DriverSpec

variable (h : DriverSpec E cfg W okc I A R G Gp N)
include h

theorem sp_pure (P : List Path) {Gr : Run → Prop} (hg : ∀ r, Gr r) : Sp I A R P Gr (pure ()) :=
  fun _ hI => (wp_pure _ _ _ _).mpr ⟨hI, h.ofMem rfl, Steps.refl _ _, hg _⟩

theorem gAll {ds : List Step} {r r' : Run} (g : ∀ d ∈ ds, G d r) (q : R r r') : ∀ d ∈ ds, G d r' :=
  fun d hd => h.gMono (g d hd) q

/-- sequencing: the second program starts from what the first has achieved at the paths `P1`; what it
achieves relative to its own start holds relative to the start of the first -/
theorem seq {α : Type} {P1 P : List Path} {G1 : α → Run → Prop} {Gr : Run → Prop} {m1 : M α} {m2 : α → M Unit}
    {a : Run} (hp : ∀ q, q ∈ P1 → q ∈ P) (h1 : wp m1 (fun x b => I b ∧ R a b ∧ Steps P1 a b ∧ G1 x b) A a)
    (h2 : ∀ x b, I b → R a b → Steps P1 a b → G1 x b → wp (m2 x) (fun _ c => I c ∧ R b c ∧ Steps P b c ∧ Gr c) A b) :
    wp (m1 >>= m2) (fun _ c => I c ∧ R a c ∧ Steps P a c ∧ Gr c) A a := by
  rw [wp_bind]
  refine wp_post ?_ h1
  intro x b ⟨ib, qb, sb, gb⟩
  refine wp_post ?_ (h2 x b ib qb sb gb)
  intro _ c ⟨ic, qc, sc, gc⟩
  exact ⟨ic, h.trans qb qc, (sb.mono hp).trans sc, gc⟩

theorem sp_seq {P1 P2 : List Path} {G1 G2 Gr : Run → Prop} {m1 m2 : M Unit} (h1 : Sp I A R P1 G1 m1)
    (h2 : Sp I A R P2 G2 m2) (hg : ∀ r r', G1 r → R r r' → G2 r' → Gr r') :
    Sp I A R (P1 ++ P2) Gr (do m1; m2) := by
  intro r hI
  refine h.seq (fun _ => List.mem_append_left _) (h1 r hI) fun _ r1 i1 _ _ g1 => ?_
  refine wp_post ?_ (h2 r1 i1)
  intro _ r2 ⟨i2, q2, s2, g2⟩
  exact ⟨i2, q2, s2.mono fun _ => List.mem_append_right _, hg _ _ g1 q2 g2⟩

theorem confined {p : Path} {Gr : Run → Prop} {m : M Unit} {r : Run} (hc : Confined p m)
    (hm : wp m (fun _ r' => I r' ∧ Gr r') A r) : wp m (fun _ r' => I r' ∧ R r r' ∧ Steps [p] r r' ∧ Gr r') A r :=
  wp_post (fun _ _ ⟨⟨i', g⟩, s, e⟩ => ⟨i', h.ofMem e, s, g⟩) (wp_frame hm (hc.steps r))

theorem list_cons {co : Bool} {parent : String} {d : Step} {ds : List Step}
    (hd : Sp I A R (paths d) (G d) (cookStep E cfg co d))
    (hl : Sp I A R (pathsL ds) (fun r => ∀ x ∈ ds, G x r) (cookList E cfg co parent ds)) :
    Sp I A R (pathsL (d :: ds)) (fun r => ∀ x ∈ d :: ds, G x r) (cookList E cfg co parent (d :: ds)) := by
  have key : ∀ r r', G d r → R r r' → (∀ x ∈ ds, G x r') → ∀ x ∈ d :: ds, G x r' := by
    intro r r' g1 q g2 x hx
    rcases List.mem_cons.mp hx with rfl | hx
    · exact h.gMono g1 q
    · exact g2 x hx
  rw [pathsL_cons, cookList]
  split
  · rename_i hc
    exact h.sp_seq (h.sp_pure _ (h.skip (Bool.and_eq_true _ _ ▸ hc).1 d)) hl key
  · exact h.sp_seq hd hl key

theorem bid_cons {d : Step} {ds : List Step}
    (hd : Sp I A R (paths d) (G d) (cookStep E cfg false d))
    (hdb : Sp I A R (paths d) (fun _ => True) (bidDeps E cfg d.deps))
    (hb : Sp I A R (pathsL ds) (fun _ => True) (bidDeps E cfg ds)) :
    Sp I A R (pathsL (d :: ds)) (fun _ => True) (bidDeps E cfg (d :: ds)) := by
  cases d with
  | mk i pre dd =>
    rw [pathsL_cons, bidDeps]
    split
    · exact h.sp_seq hd hb fun _ _ _ _ _ => trivial
    · exact h.sp_seq hdb hb fun _ _ _ _ _ => trivial

theorem step_mk (i : Info) (pre ds : List Step) (wt : W (.mk i pre ds))
    (hl : ∀ co, okc co → ∀ parent, Sp I A R (pathsL ds) (fun r => ∀ d ∈ ds, G d r) (cookList E cfg co parent ds))
    (hb : Sp I A R (pathsL ds) (fun _ => True) (bidDeps E cfg ds)) (co : Bool) (hco : okc co) :
    Sp I A R (paths (.mk i pre ds)) (G (.mk i pre ds)) (cookStep E cfg co (.mk i pre ds)) := by
  have hself : ∀ q, q ∈ [i.path] → q ∈ paths (.mk i pre ds) := by intro q hq; rw [paths_mk]; simp_all
  -- the goal, relative to the run `a` a part of the step starts from
  let Post : Run → Unit → Run → Prop := fun a _ r' =>
    I r' ∧ R a r' ∧ Steps (paths (.mk i pre ds)) a r' ∧ G (.mk i pre ds) r'
  -- `_wasAlreadyRun`: a hit ends the step
  have unlessRun : ∀ {m : M Unit} {r1 : Run}, I r1 →
      (∀ r2, I r2 → R r1 r2 → r2.st = r1.st → r2.log = r1.log → N (.mk i pre ds) r2 → wp m (Post r2) A r2) →
      wp (do if ← wasAlreadyRun (.mk i pre ds) co then pure () else m) (Post r1) A r1 := by
    intro m r1 i1 hm
    rw [wp_bind]
    refine wp_post ?_ (wp_frame (h.was wt hco i1)
      (wp_wasAlreadyRun _ co (fun _ r2 => Steps [i.path] r1 r2 ∧ r2.st = r1.st ∧ r2.log = r1.log) _ r1
        fun _ _ hm => ⟨steps_mem hm, rfl, rfl⟩))
    intro b r2 ⟨⟨i2, q2, hg, hn⟩, s2, e2, l2⟩
    cases b with
    | true => rw [if_pos rfl, wp_pure]; exact ⟨i2, q2, s2.mono hself, hg rfl⟩
    | false =>
      rw [if_neg Bool.false_ne_true]
      exact wp_post (fun _ _ ⟨i', q', s', g'⟩ => ⟨i', h.trans q2 q', (s2.mono hself).trans s', g'⟩)
        (hm r2 i2 q2 e2 l2 (hn rfl))
  have mark : ∀ {c s : Bool} {r1 : Run}, okc s → I r1 → Gp (.mk i pre ds) r1 → (∀ d ∈ ds, G d r1) →
      wp (setAlreadyRun (.mk i pre ds) c s) (Post r1) A r1 := by
    intro c s r1 hs i1 gp gd
    refine wp_post ?_ (wp_frame (h.mark wt hs i1 gp gd)
      (wp_setAlreadyRun _ c s (fun _ r2 => Steps [i.path] r1 r2) _ r1 fun _ hm => steps_mem hm))
    intro _ r2 ⟨⟨i2, q2, g2⟩, s2⟩
    exact ⟨i2, q2, s2.mono hself, g2⟩
  -- the step's own cook function `m`, then `_setAlreadyRun`
  have cookMark : ∀ {m : M Unit} {c s : Bool} {r1 : Run}, okc s → Confined i.path m → I r1 → (∀ d ∈ ds, G d r1) →
      wp m (fun _ r' => I r' ∧ Gp (.mk i pre ds) r') A r1 →
      wp (do m; setAlreadyRun (.mk i pre ds) c s) (Post r1) A r1 :=
    fun hs hc _ gd hm => h.seq hself (h.confined hc hm) fun _ _ i2 q2 _ gp =>
      mark hs i2 gp (h.gAll gd q2)
  intro r hI
  rw [cookStep]
  refine unlessRun hI fun r0 i0 _ _ _ n0 => ?_
  split
  · rename_i hk
    refine h.seq pathsL_sub_mk (hl false h.okFalse i.pkg r0 i0) fun _ r1 i1 _ _ g1 =>
      unlessRun i1 fun r2 i2 q2 _ _ n2 => ?_
    have g2 := h.gAll g1 q2
    exact cookMark h.okFalse (confined_cookCheckout cfg i ds) i2 g2 (h.checkout wt hk i2 n2 g2)
  · rename_i hk
    refine h.seq pathsL_sub_mk (hl co hco i.pkg r0 i0) fun _ r1 i1 _ _ g1 => unlessRun i1 fun r2 i2 q2 _ _ n2 => ?_
    have g2 := h.gAll g1 q2
    cases co with
    | true =>
      simp only [Bool.not_true, Bool.false_eq_true, if_false]
      exact mark hco i2 (h.skipMark wt hco (by simp [Step.kind, Step.info, hk]) i2) g2
    | false =>
      simp only [Bool.not_false, if_true]
      refine h.seq pathsL_sub_mk (hb r2 i2) fun _ r3 i3 q3 s3 _ => ?_
      have g3 := h.gAll g2 q3
      exact cookMark hco (confined_cookBuild cfg i ds) i3 g3 (h.build wt hk i3 (h.nLocal wt n2 s3) g3)
  · rename_i hk
    refine h.seq hself (h.confined (confined_preparePackage i ds) (h.package wt hk i0 n0)) fun _ r1 i1 _ _ hpk => ?_
    cases co with
    | true =>
      simp only [Bool.not_true, Bool.false_eq_true, if_false]
      refine h.seq pathsL_sub_mk (hl true hco i.pkg r1 i1) fun _ r3 i3 _ _ g3 => unlessRun i3 fun r4 i4 q4 _ _ _ => ?_
      exact mark hco i4 (h.skipMark wt hco (by simp [Step.kind, Step.info, hk]) i4) (h.gAll g3 q4)
    | false =>
      simp only [Bool.not_false, if_true]
      refine h.seq pathsL_sub_mk (hb r1 i1) fun _ r2 i2 _ s2 _ => ?_
      refine h.seq pathsL_sub_mk (hl false hco i.pkg r2 i2) fun _ r3 i3 _ s3 g3 =>
        unlessRun i3 fun r4 i4 q4 e4 l4 n4 => ?_
      have g4 := h.gAll g3 q4
      exact cookMark hco (confined_cookPackage cfg i pre ds) i4 g4
        (hpk r4 i4 (by rw [e4]; exact s2.st.trans s3.st) (by rw [l4]; exact (s2.trans s3).log) n4 g4)

/-- **the driver**: what `DriverSpec` lists, shown for the cook functions and the bookkeeping, holds
for `cookStep` (first component) and `bidDeps` of the dependencies (second) of every step in `W` -/
theorem cook (t : Step) : W t → (∀ co, okc co → Sp I A R (paths t) (G t) (cookStep E cfg co t)) ∧
    Sp I A R (paths t) (fun _ => True) (bidDeps E cfg t.deps) :=
  Step.rec
    (motive_1 := fun t => W t → (∀ co, okc co → Sp I A R (paths t) (G t) (cookStep E cfg co t)) ∧
      Sp I A R (paths t) (fun _ => True) (bidDeps E cfg t.deps))
    (motive_2 := fun ds => (∀ d ∈ ds, W d) →
      (∀ co, okc co → ∀ parent, Sp I A R (pathsL ds) (fun r => ∀ d ∈ ds, G d r) (cookList E cfg co parent ds)) ∧
      Sp I A R (pathsL ds) (fun _ => True) (bidDeps E cfg ds))
    (fun i pre ds _ hds wt =>
      have ⟨hl, hb⟩ := hds (h.sub wt)
      ⟨h.step_mk i pre ds wt hl hb, Sp.mono pathsL_sub_mk hb⟩)
    (fun _ => ⟨fun _ _ _ => by rw [cookList]; exact h.sp_pure _ fun _ _ hd => (nomatch hd),
      by rw [bidDeps]; exact h.sp_pure _ fun _ => trivial⟩)
    (fun d ds hd hds hw =>
      have ⟨hd1, hd2⟩ := hd (hw d (List.mem_cons_self ..))
      have ⟨hl, hb⟩ := hds fun x hx => hw x (List.mem_cons_of_mem _ hx)
      ⟨fun co hco parent => h.list_cons (hd1 co hco) (hl co hco parent), h.bid_cons (hd1 false h.okFalse) hd2 hb⟩)
    t

end DriverSpec

end Builder
