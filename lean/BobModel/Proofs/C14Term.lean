import BobModel.Proofs.C14Validate
/-
C14: termination of the worklist loop of `getReferencedBuildIds`.

The source keeps no `done` set, so an id may be pushed (and popped) once per reference path that leads to it.
The loop still terminates on an acyclic reference graph: give every id the weight

    cost i = 1 + Σ_{r ∈ references of the record of i} cost r        (1 when `i` has no record)

(the number of nodes of the unfolding of the graph below `i`); every iteration replaces `cur` by at most its
references, so the total weight of the worklist drops by at least one.  `cost` is defined with a depth fuel
(`costF`) and read at depth `rank i`; the only facts needed are that it is monotone in the depth and that
`rank` strictly decreases along references.
-/
namespace Audit
open Consts.C14

def wsum (f : Id → Nat) : List Id → Nat
  | [] => 0
  | x :: t => f x + wsum f t

theorem wsum_append (f : Id → Nat) (s t : List Id) : wsum f (s ++ t) = wsum f s + wsum f t := by
  induction s with
  | nil => exact (Nat.zero_add _).symm
  | cons x s ih => simp only [List.cons_append, wsum, ih, Nat.add_assoc]

theorem wsum_mono {f g : Id → Nat} {l : List Id} (h : ∀ x ∈ l, f x ≤ g x) : wsum f l ≤ wsum g l := by
  induction l with
  | nil => exact Nat.le_refl _
  | cons x l ih => exact Nat.add_le_add (h x List.mem_cons_self) (ih fun y hy => h y (List.mem_cons_of_mem _ hy))

theorem wsum_setAdd_le (f : Id → Nat) (s : List Id) (x : Id) : wsum f (setAdd s x) ≤ wsum f s + f x := by
  unfold setAdd
  split
  · omega
  · rw [wsum_append]; simp [wsum]

theorem wsum_setUnion_le (f : Id → Nat) (t : List Id) : ∀ s : List Id, wsum f (setUnion s t) ≤ wsum f s + wsum f t := by
  induction t with
  | nil => intro s; simp [setUnion, wsum]
  | cons x t ih =>
    intro s
    have h1 := ih (setAdd s x)
    have h2 := wsum_setAdd_le f s x
    simp only [setUnion, wsum]
    omega

/-- the size of the unfolding below `i`, cut at depth `n` -/
def costF (refs : List (Id × Artifact)) : Nat → Id → Nat
  | 0, _ => 1
  | n + 1, i => 1 + match lookupRef refs i with
    | none => 0
    | some c => wsum (costF refs n) c.getReferences

theorem costF_pos (refs : List (Id × Artifact)) (n : Nat) (i : Id) : 1 ≤ costF refs n i := by
  cases n <;> simp only [costF] <;> omega

theorem costF_succ_some {refs : List (Id × Artifact)} {i : Id} {c : Artifact} (n : Nat)
    (h : lookupRef refs i = some c) : costF refs (n + 1) i = 1 + wsum (costF refs n) c.getReferences := by
  simp only [costF, h]

theorem costF_mono_succ (refs : List (Id × Artifact)) : ∀ (n : Nat) (i : Id), costF refs n i ≤ costF refs (n + 1) i := by
  intro n
  induction n with
  | zero => intro i; simp only [costF]; omega
  | succ n ih =>
    intro i
    cases hl : lookupRef refs i with
    | none => simp only [costF, hl]; omega
    | some c =>
      rw [costF_succ_some n hl, costF_succ_some (n + 1) hl]
      have := wsum_mono (l := c.getReferences) (fun x _ => ih x)
      omega

theorem costF_mono (refs : List (Id × Artifact)) (i : Id) {n m : Nat} (h : n ≤ m) : costF refs n i ≤ costF refs m i := by
  induction h with
  | refl => exact Nat.le_refl _
  | step _ ih => exact Nat.le_trans ih (costF_mono_succ refs _ i)

def Acyclic (refs : List (Id × Artifact)) (rank : Id → Nat) : Prop :=
  ∀ j c i, lookupRef refs j = some c → i ∈ c.getReferences → rank i < rank j

def cost (refs : List (Id × Artifact)) (rank : Id → Nat) (i : Id) : Nat := costF refs (rank i) i

theorem cost_pos (refs : List (Id × Artifact)) (rank : Id → Nat) (i : Id) : 1 ≤ cost refs rank i :=
  costF_pos _ _ _

theorem cost_step {refs : List (Id × Artifact)} {rank : Id → Nat} (hr : Acyclic refs rank) {j : Id} {c : Artifact}
    (hl : lookupRef refs j = some c) : 1 + wsum (cost refs rank) c.getReferences ≤ cost refs rank j := by
  unfold cost
  cases hn : rank j with
  | zero =>
    cases hg : c.getReferences with
    | nil => simp only [wsum, costF]; omega
    | cons x t =>
      have := hr j c x hl (by rw [hg]; simp)
      omega
  | succ n =>
    rw [costF_succ_some n hl]
    have := wsum_mono (f := fun i => costF refs (rank i) i) (g := costF refs n) (l := c.getReferences)
      (fun x hx => costF_mono refs x (by have := hr j c x hl hx; omega))
    omega

namespace Audit

theorem rbiLoop_fuel {refs : List (Id × Artifact)} {rank : Id → Nat} (hr : Acyclic refs rank) (fuel : Nat)
    (wl acc : List Id) (h : wsum (cost refs rank) wl ≤ fuel) : rbiLoop refs fuel wl acc ≠ .outOfFuel := by
  fun_induction rbiLoop refs fuel wl acc with
  | case1 | case3 | case4 | case5 => nofun
  | case2 cur =>
    have := cost_pos refs rank cur
    simp only [wsum] at h
    omega
  | case6 _ cur _ _ _ _ _ _ _ ih =>
    have := cost_pos refs rank cur
    simp only [wsum] at h
    exact ih (by omega)
  | case7 _ cur rest _ c hl _ _ _ ih =>
    have h1 := cost_step hr hl
    have h2 := wsum_setUnion_le (cost refs rank) c.getReferences rest
    simp only [wsum] at h
    exact ih (by omega)

def rbiFuel (a : Audit) (rank : Id → Nat) : Nat := wsum (cost a.references rank) a.artifact.getReferences

theorem getReferencedBuildIds_fuel {a : Audit} {rank : Id → Nat} (hr : Acyclic a.references rank) {fuel : Nat}
    (hf : rbiFuel a rank ≤ fuel) : getReferencedBuildIds fuel a ≠ .outOfFuel := by
  unfold getReferencedBuildIds
  have := rbiLoop_fuel hr fuel a.artifact.getReferences [] hf
  cases hres : rbiLoop a.references fuel a.artifact.getReferences [] with
  | ok ids => simp
  | keyError => simp
  | outOfFuel => exact absurd hres this

/-- every stored record carries a step label, and the stop (`dist`) records a decodable build-id -/
def Labelled (a : Audit) : Prop :=
  ∀ p ∈ a.references, ∃ s, p.2.step = some s ∧ (s = stopLabel.toList → ∃ b, p.2.buildId = some b)

theorem path_reach {a : Audit} {s j : Id} (hs : Reach a s) (hp : Path a.references s j) : Reach a j := by
  induction hp with
  | refl => exact hs
  | step _ hl _ hm ih => exact Reach.step ih hl hm

theorem not_broken_of_closed_labelled {a : Audit} (hc : Closed a) (hlab : Labelled a) :
    ¬ Broken a.references a.artifact.getReferences := by
  rintro ⟨s, hs, j, hp, hbr⟩
  have hreach : Reach a j := path_reach (Reach.base hs) hp
  rcases hbr with hnone | ⟨c, hl, hbad⟩
  · exact lookupRef_eq_none_iff.1 hnone (hc j hreach)
  · obtain ⟨st, hst, hbid⟩ := hlab (j, c) (lookupRef_mem hl)
    rcases hbad with h | ⟨h1, h2⟩
    · cases h.symm.trans hst
    · cases Option.some.inj (h1.symm.trans hst)
      obtain ⟨b, hb⟩ := hbid rfl
      cases h2.symm.trans hb

/-! ### a concrete three-record DAG (non-vacuity of the termination and total-correctness theorems)

`pkg → [3, 1]`, `1 → [2]`, `2 → [3]`, `3` is the `dist` record: id `3` is popped twice (4 pops for 3 records),
which is the revisiting the source's loop without a `done` set does. -/

def exRec (step : String) (args : List Id) : Artifact :=
  { other := [("meta".toList, .map [("step".toList, .str step.toList)]), ("build-id".toList, .str "ab".toList)],
    args := some args, tools := none, sandbox := none, cachedId := none }

def exAudit : Audit :=
  { artifact := exRec "package" [[3], [1]],
    references := [([1], exRec "package" [[2]]), ([2], exRec "build" [[3]]), ([3], exRec "dist" [])] }

def exRank : Id → Nat
  | [1] => 2
  | [2] => 1
  | _ => 0

theorem exRec_step (step : String) (args : List Id) : (exRec step args).step = some step.toList := by
  simp [exRec, Artifact.step, dictGet]

theorem exRec_buildId (step : String) (args : List Id) : (exRec step args).buildId = some [0xab] := by
  simp [exRec, Artifact.buildId, dictGet]
  decide

theorem mem_exRec_getReferences {step : String} {args : List Id} {i : Id} :
    i ∈ (exRec step args).getReferences ↔ i ∈ args := by
  simp [Artifact.mem_getReferences, exRec]

theorem exAudit_labelled : Labelled exAudit := by
  intro p hp
  simp only [exAudit, List.mem_cons, List.not_mem_nil, or_false] at hp
  rcases hp with rfl | rfl | rfl <;> exact ⟨_, exRec_step _ _, fun _ => ⟨_, exRec_buildId _ _⟩⟩

theorem exAudit_acyclic : Acyclic exAudit.references exRank := by
  intro j c i hl hi
  have hm := lookupRef_mem hl
  simp only [exAudit, List.mem_cons, List.not_mem_nil, or_false, Prod.mk.injEq] at hm
  rcases hm with ⟨rfl, rfl⟩ | ⟨rfl, rfl⟩ | ⟨rfl, rfl⟩ <;> rw [mem_exRec_getReferences] at hi
  · cases List.mem_singleton.1 hi; decide
  · cases List.mem_singleton.1 hi; decide
  · cases hi

end Audit

end Audit
