import BobModel.Model.FileIndex
import BobModel.Proofs.C11Order
/-
The hash cache.  A generic transparency lemma for `DirHasher` parametrised by an index object, the
invariant of `FileIndex`, and soundness of the rewritten index for later states of a history.
-/
namespace DirHash

mutual
/-- only regular files and symlinks are looked up in the index -/
theorem Tree.leaves_mode : ∀ (t : Tree) (path : Bytes), ∀ x ∈ t.leaves path, x.2.mode ≠ 0
  | .file p _ | .link p _ => fun _ x hx => by
    cases List.mem_singleton.mp hx
    exact Nat.ne_of_gt (Nat.add_pos_left (by decide) p)
  | .dir _ es => Forest.leaves_mode es
  | .dev .. | .fifo .. | .other .. => fun _ _ hx => nomatch hx
theorem Forest.leaves_mode : ∀ (f : Forest) (path : Bytes), ∀ x ∈ f.leaves path, x.2.mode ≠ 0
  | .nil => fun _ _ hx => nomatch hx
  | .cons _ t rest => fun path x hx =>
    (List.mem_append.mp hx).elim (Tree.leaves_mode t _ x) (Forest.leaves_mode rest path x)
end

section walk
variable (H : Bytes → Bytes) {σ : Type} (chk : Bytes → Stat → Bytes → σ → Bytes × σ) (statOf : Bytes → Stat)
variable (I : σ → Prop) (P : Bytes → Tree → Prop)
variable (hchk : ∀ p t s, P p t → I s →
    (chk p (statFor statOf p t) (t.digest H) s).1 = t.digest H ∧ I (chk p (statFor statOf p t) (t.digest H) s).2)
include hchk

-- the second theorem of the mutual pair uses `hchk` through the mutual call only, which the linter does not see
set_option linter.unusedSectionVars false in
mutual
/-- if the index object answers every `check` of a visited leaf with the true digest (and keeps its
invariant), hashing with it is hashing without it -/
theorem Tree.walk_transparent : ∀ (t : Tree) (path : Bytes) (s : σ), (∀ x ∈ t.leaves path, P x.1 x.2) → I s →
    (t.walk H chk statOf path s).1 = t.digest H ∧ I (t.walk H chk statOf path s).2
  | .file .. | .link .. => fun path s hl hi => hchk path _ s (hl _ (.head _)) hi
  | .dir _ es => fun path s hl hi =>
    have h := Forest.walk_transparent es path s hl hi
    ⟨congrArg H h.1, h.2⟩
  | .dev .. | .fifo .. | .other .. => fun _ _ _ hi => ⟨rfl, hi⟩
theorem Forest.walk_transparent : ∀ (f : Forest) (dirPath : Bytes) (s : σ), (∀ x ∈ f.leaves dirPath, P x.1 x.2) → I s →
    (f.walk H chk statOf dirPath s).1 = f.blob H ∧ I (f.walk H chk statOf dirPath s).2
  | .nil => fun _ _ _ hi => ⟨rfl, hi⟩
  | .cons n t rest => fun dirPath s hl hi => by
    obtain ⟨hlt, hlr⟩ := List.forall_mem_append.mp hl
    have h1 := Tree.walk_transparent t (joinPath dirPath n) s hlt hi
    have h2 := Forest.walk_transparent rest dirPath _ hlr h1.2
    exact ⟨by simp only [Forest.walk, Forest.blob, h1.1, h2.1], h2.2⟩
end

end walk

def recsOf (ix : Option (List Rec)) : List Rec := ix.getD []

/-- an index is sound for a file system state if every record that carries the name and the stat
data of a file that is hashed also carries that file's digest.  Nothing is said about order,
duplicates, stale or foreign records. -/
def Sound (H : Bytes → Bytes) (statOf : Bytes → Stat) (es : Forest) (ix : Option (List Rec)) : Prop :=
  ∀ r ∈ recsOf ix, ∀ p t, (p, t) ∈ visited es → r.name = p → r.st = statFor statOf p t → r.digest = t.digest H

instance (H : Bytes → Bytes) (statOf : Bytes → Stat) (es : Forest) (ix : Option (List Rec)) :
    Decidable (Sound H statOf es ix) :=
  decidable_of_iff (∀ r ∈ recsOf ix, ∀ x ∈ visited es, r.name = x.1 → r.st = statFor statOf x.1 x.2 →
      r.digest = x.2.digest H)
    ⟨fun h r hr p t hx => h r hr (p, t) hx, fun h r hr x hx => h r hr x.1 x.2 hx⟩

/-- a record written for a file of the current state -/
def Fresh (H : Bytes → Bytes) (statOf : Bytes → Stat) (es : Forest) (r : Rec) : Prop :=
  ∃ p t, (p, t) ∈ visited es ∧ r = ⟨p, statFor statOf p t, t.digest H⟩

/-- the reading position only moves through the old index `all`; every record written so far is one
of `all` or satisfies `F` -/
def Inv (all : List Rec) (F : Rec → Prop) (s : IxState) : Prop :=
  s.before ++ s.cur.toList ++ s.rest = all ∧ ∀ l, s.out = some l → ∀ r ∈ l, r ∈ all ∨ F r

theorem advance_concat (name : Bytes) : ∀ (rest before : List Rec) (cur : Option Rec),
    (advance name before cur rest).1 ++ (advance name before cur rest).2.1.toList ++
      (advance name before cur rest).2.2 = before ++ cur.toList ++ rest
  | [], _, _ => rfl
  | r :: rs, before, cur => by
    unfold advance
    split
    · rw [advance_concat name rs, Option.toList_some, List.append_assoc _ _ rs, List.singleton_append]
    · rfl

theorem initRec_mode : initRec.st.mode = 0 := rfl

theorem statFor_mode (statOf : Bytes → Stat) (p : Bytes) (t : Tree) : (statFor statOf p t).mode = t.mode := rfl

theorem openIndex_inv (ix : Option (List Rec)) (F : Rec → Prop) : Inv (recsOf ix) F (openIndex ix) :=
  match ix with
  | none | some [] | some (_ :: _) => ⟨rfl, nofun⟩

theorem check_sound (H : Bytes → Bytes) (statOf : Bytes → Stat) (es : Forest) (ix : Option (List Rec))
    (hs : Sound H statOf es ix) (p : Bytes) (t : Tree) (s : IxState)
    (hp : (p, t) ∈ visited es) (hi : Inv (recsOf ix) (Fresh H statOf es) s) :
    (check p (statFor statOf p t) (t.digest H) s).1 = t.digest H ∧
    Inv (recsOf ix) (Fresh H statOf es) (check p (statFor statOf p t) (t.digest H) s).2 := by
  obtain ⟨hall, io⟩ := hi
  have ha := advance_concat p s.rest s.before s.cur
  rw [hall] at ha
  have hd : (check p (statFor statOf p t) (t.digest H) s).1 = t.digest H := by
    simp only [check]
    split
    · next hhit =>
      -- a hit is a record of the old index, not the all-zero `Stat()`: a hashed file has a mode
      obtain ⟨hn, hst⟩ := of_decide_eq_true hhit
      cases hc : (advance p s.before s.cur s.rest).2.1 with
      | none =>
        rw [hc, Option.getD_none] at hst
        have := congrArg Stat.mode hst
        rw [initRec_mode, statFor_mode] at this
        exact absurd this.symm (Forest.leaves_mode es.canon [] (p, t) hp)
      | some r =>
        rw [hc] at hn hst ha
        exact hs r (ha ▸ List.mem_append_left _ (List.mem_append_right _ (.head _))) p t hp hn hst
    · rfl
  refine ⟨hd, ha, fun l hl r hr => ?_⟩
  simp only [check] at hd hl
  split at hl
  · cases hl
    rcases List.mem_append.mp hr with hr | hr
    · cases ho : s.out with
      | none =>
        rw [ho] at hr
        exact .inl (ha ▸ List.mem_append_left _ (List.mem_append_left _ hr))
      | some l0 =>
        rw [ho] at hr
        exact io l0 ho r hr
    · exact .inr ⟨p, t, hp, by rw [List.mem_singleton.mp hr, hd]⟩
  · exact io l hl r hr

/-- **cache transparency for one run**, with what the history induction needs about the new index -/
theorem hashDirCached_spec (H : Bytes → Bytes) (statOf : Bytes → Stat) (es : Forest) (ix : Option (List Rec))
    (hs : Sound H statOf es ix) :
    (hashDirCached H statOf ix es).1 = hashDir H es ∧
    ∀ r ∈ recsOf (newIndex ix (hashDirCached H statOf ix es).2), r ∈ recsOf ix ∨ Fresh H statOf es r := by
  have := Forest.walk_transparent H check statOf (Inv (recsOf ix) (Fresh H statOf es)) (fun p t => (p, t) ∈ visited es)
    (check_sound H statOf es ix hs) es.canon [] (openIndex ix) (fun _ hx => hx) (openIndex_inv ix _)
  refine ⟨congrArg H this.1, fun r hr => ?_⟩
  simp only [hashDirCached, newIndex] at hr
  split at hr
  · next l hl => exact this.2.2 l hl r hr
  · exact .inl hr

/-- a file system state: the listing of the hashed directory and the stat data of its entries -/
structure FsState where
  es : Forest
  statOf : Bytes → Stat

/-- "every modification changes the file's stat data": throughout the history the digest of a
hashed file is a function `D` of its index name and its stat data -/
def Coherent (H : Bytes → Bytes) (D : Bytes → Stat → Bytes) (st : FsState) : Prop :=
  ∀ p t, (p, t) ∈ visited st.es → t.digest H = D p (statFor st.statOf p t)

instance (H : Bytes → Bytes) (D : Bytes → Stat → Bytes) (st : FsState) : Decidable (Coherent H D st) :=
  decidable_of_iff (∀ x ∈ visited st.es, x.2.digest H = D x.1 (statFor st.statOf x.1 x.2))
    ⟨fun h p t hx => h (p, t) hx, fun h x hx => h x.1 x.2 hx⟩

/-- hash every state of the history with the cache, carrying `cache.bin` along -/
def runHistory (H : Bytes → Bytes) : Option (List Rec) → List FsState → List Bytes
  | _, [] => []
  | ix, st :: rest =>
    let r := hashDirCached H st.statOf ix st.es
    r.1 :: runHistory H (newIndex ix r.2) rest

/-- a run on the state `st` leaves an index that is sound for every state `st'` the old index was
sound for, as long as one function `D` gives the digests in both: a record written for `st` that
matches a file of `st'` in name and stat data carries that file's digest -/
theorem sound_after (H : Bytes → Bytes) (D : Bytes → Stat → Bytes) (st st' : FsState) (ix : Option (List Rec))
    (hco : Coherent H D st) (hco' : Coherent H D st') (hs : Sound H st.statOf st.es ix)
    (hs' : Sound H st'.statOf st'.es ix) :
    Sound H st'.statOf st'.es (newIndex ix (hashDirCached H st.statOf ix st.es).2) := by
  intro r hr p' t' hp' hn hst
  rcases (hashDirCached_spec H st.statOf st.es ix hs).2 r hr with hold | ⟨p, t, hp, rfl⟩
  · exact hs' r hold p' t' hp' hn hst
  · have hn : p = p' := hn
    have hst : statFor st.statOf p t = statFor st'.statOf p' t' := hst
    show t.digest H = t'.digest H
    rw [hco' p' t' hp', ← hst, ← hn]
    exact hco p t hp

theorem find_of_pairwise {β : Type} (l : List (Bytes × β)) (hl : l.Pairwise (fun a b => a.1 ≠ b.1))
    (p : Bytes) (t : β) (h : (p, t) ∈ l) : l.find? (fun x => x.1 == p) = some (p, t) := by
  induction l with
  | nil => cases h
  | cons x xs ih =>
    rcases List.mem_cons.mp h with rfl | h
    · exact List.find?_cons_of_pos (beq_self_eq_true _)
    · rw [List.find?_cons_of_neg (by simpa using (List.pairwise_cons.mp hl).1 (p, t) h)]
      exact ih (List.pairwise_cons.mp hl).2 h

/-- the digest of a hashed file as a function of its index name (the stat data are not even needed) -/
def digestAt (H : Bytes → Bytes) (es : Forest) (p : Bytes) (_ : Stat) : Bytes :=
  match (visited es).find? (fun x => x.1 == p) with
  | some x => x.2.digest H
  | none => []

theorem coherent_of_names (H : Bytes → Bytes) (statOf : Bytes → Stat) (es : Forest) (w : es.Names) :
    Coherent H (digestAt H es) ⟨es, statOf⟩ := by
  intro p t hp
  have hne : (visited es).Pairwise (fun a b => a.1 ≠ b.1) :=
    (visited_sorted es w).imp fun hab heq => by rw [heq, bytesLt_irrefl] at hab; cases hab
  rw [digestAt, find_of_pairwise _ hne p t hp]

end DirHash
