import BobModel.Proofs.C01Truthful
import BobModel.Proofs.C01Driver
/-
The depth-first driver (`_cook`, `_cookStep`, `_getBuildId`) preserves `Truthful` at every cut: the
cook functions do (C01Truthful), hence the driver does (`DriverSpec.cook`).
-/
namespace Builder

variable {E : Env} {dev : Bool} {Γ : Path → List (Dir × Digest)}

structure StepWF (Γ : Path → List (Dir × Digest)) (t : Step) : Prop where
  co : t.kind = .checkout → CoWF Γ t.info t.deps
  /-- a workspace is not shared with one of the step's own dependencies -/
  acyc : t.path ∉ pathsL t.deps

def AllWF (Γ : Path → List (Dir × Digest)) (t : Step) : Prop := ∀ u ∈ subtrees t, StepWF Γ u

theorem acyc_of_wf {i : Info} {pre ds : List Step} (wt : StepWF Γ (.mk i pre ds)) : ∀ d ∈ ds, d.path ≠ i.path := by
  intro d hd heq
  have h : i.path ∈ pathsL ds := heq ▸ path_mem_pathsL hd
  exact wt.acyc h

/-- hypotheses of the preservation theorem that do not depend on the step -/
structure Hyp (E : Env) (dev : Bool) (cfg : Cfg) : Prop where
  fixB : Consts.C01.buildPruneInvalidatesFirst = true
  fixP : Consts.C01.packagePruneInvalidatesFirst = true
  inj : Function.Injective E.H
  devMode : cfg.cleanBuild = false → dev = true

/-- `Truthful` speaks of the stored state only: the bookkeeping is free, and every cook function
keeps it at every cut -/
theorem truthful_spec {cfg : Cfg} (hy : Hyp E dev cfg) :
    DriverSpec E cfg (AllWF Γ) (fun _ => True) (fun r => Truthful E dev Γ r.st) (fun r => Truthful E dev Γ r.st)
      (fun _ _ => True) (fun _ _ => True) (fun _ _ => True) (fun _ _ => True) where
  sub w _ hd u hu := w u (subtrees_of_dep hd hu)
  okFalse := trivial
  ofMem _ := trivial
  trans _ _ := trivial
  gMono _ _ := trivial
  nLocal _ _ _ := trivial
  skip _ _ _ := trivial
  was _ _ hr := wp_wasAlreadyRun _ _ _ _ _ fun _ _ _ => ⟨hr, trivial, fun _ => trivial, fun _ => trivial⟩
  mark _ _ hr _ _ := wp_setAlreadyRun _ _ _ _ _ _ fun _ _ => ⟨hr, trivial, trivial⟩
  skipMark _ _ _ _ := trivial
  checkout := @fun i pre ds r w hk hr _ _ =>
    have wt := w _ (self_mem_subtrees _)
    wp_post (fun _ _ h => ⟨h.1, trivial⟩)
      (cookCheckout_truthful hy.inj cfg i ds (wt.co hk) hk (acyc_of_wf wt) r hr)
  build := @fun i pre ds r w hk hr _ _ =>
    wp_post (fun _ _ h => ⟨h.1, trivial⟩)
      (cookBuild_truthful hy.fixB hy.inj cfg hy.devMode i ds hk (acyc_of_wf (w _ (self_mem_subtrees _))) r hr)
  package := @fun i pre ds r w _ hr _ => by
    refine wp_post ?_ (preparePackage_truthful hy.fixP i ds r hr)
    intro _ r1 hp1
    refine ⟨hp1.truthful, fun r3 h3 ht _ _ _ => ?_⟩
    -- `_preparePackageStep` fixes the directory state; the dependencies do not touch this path
    refine wp_post (fun _ _ h => ⟨h.1, trivial⟩) (cookPackage_truthful hy.inj cfg i pre ds r3 h3 ?_)
    rw [(ht i.path (w _ (self_mem_subtrees _)).acyc).2.2.1]
    exact hp1.dirState

/-- **every cook program preserves `Truthful`, also when it is cut at an arbitrary micro-operation** -/
theorem cook_truthful {cfg : Cfg} (hy : Hyp E dev cfg) {t : Step} (hwf : AllWF Γ t) (co : Bool) (r : Run)
    (h : Truthful E dev Γ r.st) :
    wp (cookStep E cfg co t) (fun _ r' => Truthful E dev Γ r'.st) (fun r' => Truthful E dev Γ r'.st) r :=
  wp_post (fun _ _ h => h.1) (((truthful_spec hy).cook t hwf).1 co trivial r h)

end Builder
