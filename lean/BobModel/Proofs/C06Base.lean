import BobModel.Model.SchedInv
/-
Frame lemmas for the scheduler model: projections of the state updates, the tables, the task list and sums over it,
what task creation does (`Grow`, shown of `createTask` in `C06Step`), well-formedness of continuations under the
rewrite steps of `stepTask`.
-/
namespace Sched
open JobSem

section proj
variable (st : St) (e : Ev) (t : Nat) (x : Task)
@[simp] theorem emit_tasks : (st.emit e).tasks = st.tasks := rfl
@[simp] theorem emit_runners : (st.emit e).runners = st.runners := rfl
@[simp] theorem emit_running : (st.emit e).running = st.running := rfl
@[simp] theorem emit_errors : (st.emit e).errors = st.errors := rfl
@[simp] theorem emit_wasRun : (st.emit e).wasRun = st.wasRun := rfl
@[simp] theorem emit_dlTried : (st.emit e).dlTried = st.dlTried := rfl
@[simp] theorem emit_locks : (st.emit e).locks = st.locks := rfl
@[simp] theorem emit_cookT : (st.emit e).cookT = st.cookT := rfl
@[simp] theorem emit_bidT : (st.emit e).bidT = st.bidT := rfl
@[simp] theorem emit_srcBid : (st.emit e).srcBid = st.srcBid := rfl
@[simp] theorem emit_distBid : (st.emit e).distBid = st.distBid := rfl
@[simp] theorem emit_disk : (st.emit e).disk = st.disk := rfl
@[simp] theorem emit_trace : (st.emit e).trace = st.trace ++ [e] := rfl
@[simp] theorem setTask_tasks : (st.setTask t x).tasks = st.tasks.set t x := rfl
@[simp] theorem setTask_runners : (st.setTask t x).runners = st.runners := rfl
@[simp] theorem setTask_running : (st.setTask t x).running = st.running := rfl
@[simp] theorem setTask_errors : (st.setTask t x).errors = st.errors := rfl
@[simp] theorem setTask_wasRun : (st.setTask t x).wasRun = st.wasRun := rfl
@[simp] theorem setTask_dlTried : (st.setTask t x).dlTried = st.dlTried := rfl
@[simp] theorem setTask_locks : (st.setTask t x).locks = st.locks := rfl
@[simp] theorem setTask_cookT : (st.setTask t x).cookT = st.cookT := rfl
@[simp] theorem setTask_bidT : (st.setTask t x).bidT = st.bidT := rfl
@[simp] theorem setTask_srcBid : (st.setTask t x).srcBid = st.srcBid := rfl
@[simp] theorem setTask_distBid : (st.setTask t x).distBid = st.distBid := rfl
@[simp] theorem setTask_disk : (st.setTask t x).disk = st.disk := rfl
@[simp] theorem setTask_trace : (st.setTask t x).trace = st.trace := rfl
end proj

theorem task_eq_default (st : St) {i : Nat} (h : st.tasks.length ≤ i) : st.task i = default := by
  simp [St.task, List.getD, List.getElem?_eq_none h]

theorem task_lt {st : St} {t : Nat} {op : Op} {rest : List Op} (h : (st.task t).ops = op :: rest) :
    t < st.tasks.length := by
  by_cases ht : t < st.tasks.length
  · exact ht
  · rw [task_eq_default st (Nat.le_of_not_lt ht)] at h
    cases h

theorem task_eq_getElem {st : St} {t : Nat} (ht : t < st.tasks.length) : st.task t = st.tasks[t] := by
  simp [St.task, List.getD, List.getElem?_eq_getElem ht]

theorem task_mem {st : St} {t : Nat} (ht : t < st.tasks.length) : st.task t ∈ st.tasks := by
  rw [task_eq_getElem ht]; exact List.getElem_mem ht

theorem sum_map_set (f : Task → Nat) (l : List Task) (t : Nat) (x : Task) (ht : t < l.length) :
    ((l.set t x).map f).sum + f l[t] = (l.map f).sum + f x := by
  induction l generalizing t with
  | nil => simp at ht
  | cons a l ih =>
    cases t with
    | zero => simp; omega
    | succ k =>
      have := ih k (by simpa using ht)
      simp only [List.set_cons_succ, List.map_cons, List.sum_cons, List.getElem_cons_succ]
      omega

theorem tsum_update (f : Task → Nat) (st g : St) (t : Nat) (x' : Task) (new : List Task)
    (ht : t < st.tasks.length) (hg : g.tasks = st.tasks ++ new) :
    tsum f (g.setTask t x') + f (st.task t) = tsum f st + f x' + (new.map f).sum := by
  unfold tsum
  simp only [setTask_tasks, hg]
  rw [List.set_append_left _ _ ht, List.map_append, List.sum_append, task_eq_getElem ht]
  have := sum_map_set f st.tasks t x' ht
  omega

theorem mem_le_sum {a : Nat} {l : List Nat} (h : a ∈ l) : a ≤ l.sum := by
  induction l with
  | nil => cases h
  | cons b l ih =>
    rcases List.mem_cons.mp h with e | e
    · subst e; simp
    · have := ih e; simp; omega

theorem tsum_ge (f : Task → Nat) (st : St) (t : Nat) (ht : t < st.tasks.length) : f (st.task t) ≤ tsum f st := by
  unfold tsum
  rw [task_eq_getElem ht]
  exact mem_le_sum (List.mem_map_of_mem (List.getElem_mem ht))

theorem sum_map_zero (l : List Task) (f : Task → Nat) (h : ∀ x ∈ l, f x = 0) : (l.map f).sum = 0 :=
  List.sum_eq_zero_iff_forall_eq_nat.2 (List.forall_mem_map.2 h)

theorem tsum_le_tsum {f g : Task → Nat} {st : St} (h : ∀ x ∈ st.tasks, f x ≤ g x) : tsum f st ≤ tsum g st := by
  unfold tsum
  generalize st.tasks = l at h
  induction l with
  | nil => simp
  | cons a l ih =>
    simp only [List.map_cons, List.sum_cons]
    have := h a (by simp)
    have := ih (fun x hx => h x (by simp [hx]))
    omega

theorem lookup_insert_self {β : Type} (k : Nat) (v : β) (l : List (Nat × β)) : lookup k (insert k v l) = some v := by
  induction l with
  | nil => simp [insert, lookup]
  | cons a l ih =>
    obtain ⟨k', v'⟩ := a
    by_cases h : k' = k
    · simp [insert, lookup, h]
    · simp [insert, lookup, h, ih]

theorem lookup_insert_ne {β : Type} (k k2 : Nat) (v : β) (l : List (Nat × β)) (h : k2 ≠ k) :
    lookup k2 (insert k v l) = lookup k2 l := by
  induction l with
  | nil => simp [insert, lookup, Ne.symm h]
  | cons a l ih =>
    obtain ⟨k', v'⟩ := a
    by_cases h1 : k' = k
    · subst h1
      simp [insert, lookup, Ne.symm h]
    · by_cases h2 : k' = k2
      · subst h2
        simp [insert, lookup, h1]
      · simp [insert, lookup, h1, h2, ih]

theorem mem_kremove {key : Key} {e : Key × Nat} : ∀ {m : List (Key × Nat)}, e ∈ kremove key m → e ∈ m
  | [], h => by simp [kremove] at h
  | (k', v) :: r, h => by
    simp only [kremove] at h
    split at h
    · exact List.mem_cons_of_mem _ h
    · rcases List.mem_cons.mp h with e | e
      · subst e; simp
      · exact List.mem_cons_of_mem _ (mem_kremove e)

theorem klookup_mem {key : Key} {k : Nat} : ∀ {m : List (Key × Nat)}, klookup key m = some k → (key, k) ∈ m
  | [], h => by simp [klookup] at h
  | (k', v) :: r, h => by
    simp only [klookup] at h
    split at h
    · rename_i e; cases h; subst e; simp
    · exact List.mem_cons_of_mem _ (klookup_mem h)

theorem kind_lt {st : St} {k : Nat} {d : Nat} {co : Bool} (h : (st.task k).kind = .cook d co) : k < st.tasks.length := by
  by_cases hk : k < st.tasks.length
  · exact hk
  · rw [task_eq_default st (Nat.le_of_not_lt hk)] at h
    cases h

theorem task_append_left {st g : St} {new : List Task} (hg : g.tasks = st.tasks ++ new) {k : Nat}
    (hk : k < st.tasks.length) : g.task k = st.task k := by
  simp [St.task, List.getD, hg, List.getElem?_append_left hk]

theorem task_kind_setTask (g : St) (t : Nat) (x' : Task) (hk : x'.kind = (g.task t).kind) (k : Nat) :
    ((g.setTask t x').task k).kind = (g.task k).kind := by
  by_cases hkt : k = t
  · subst hkt
    by_cases hl : k < g.tasks.length
    · simp [St.task, St.setTask, List.getD, hl] at hk ⊢
      exact hk
    · simp [St.task, St.setTask, List.getD, hl]
  · simp [St.task, St.setTask, List.getD, Ne.symm hkt]

theorem sum_two (f : Task → Nat) : ∀ (l : List Task) (i j : Nat) (_ : i ≠ j) (hi : i < l.length) (hj : j < l.length),
    f l[i] + f l[j] ≤ (l.map f).sum
  | [], _, _, _, hi, _ => by simp at hi
  | _ :: _, 0, 0, hij, _, _ => absurd rfl hij
  | a :: l, 0, j + 1, _, _, hj => by
    have hj' : j < l.length := by simpa using hj
    have := mem_le_sum (List.mem_map_of_mem (f := f) (List.getElem_mem hj'))
    simp only [List.getElem_cons_zero, List.getElem_cons_succ, List.map_cons, List.sum_cons]
    omega
  | a :: l, i + 1, 0, _, hi, _ => by
    have hi' : i < l.length := by simpa using hi
    have := mem_le_sum (List.mem_map_of_mem (f := f) (List.getElem_mem hi'))
    simp only [List.getElem_cons_zero, List.getElem_cons_succ, List.map_cons, List.sum_cons]
    omega
  | a :: l, i + 1, j + 1, hij, hi, hj => by
    have := sum_two f l i j (by omega) (by simpa using hi) (by simpa using hj)
    simp only [List.getElem_cons_succ, List.map_cons, List.sum_cons]
    omega

theorem tsum_two (f : Task → Nat) (st : St) {i j : Nat} (hij : i ≠ j) (hi : i < st.tasks.length)
    (hj : j < st.tasks.length) : f (st.task i) + f (st.task j) ≤ tsum f st := by
  rw [task_eq_getElem hi, task_eq_getElem hj]
  exact sum_two f st.tasks i j hij hi hj

def Op.isTok : Op → Bool
  | .start | .startWait | .release | .yieldRel _ _ | .reacq | .reacqWait => true
  | _ => false

/-- an operation that neither touches the job slot nor ends the task -/
def Op.plain (o : Op) : Bool := !o.isTok && o != .wrapEnd

theorem wf_holds {h : Bool} {ops : List Op} (hw : wf h ops = true) : holdsTok ops = h := by
  induction ops generalizing h with
  | nil =>
    cases h with
    | false => rfl
    | true => cases hw
  | cons o r ih =>
    cases o with
    | start | startWait | reacq | reacqWait | release | yieldRel =>
      simp only [wf, Bool.and_eq_true, Bool.not_eq_true'] at hw
      exact hw.1.symm
    | wrapEnd =>
      simp only [wf, Bool.and_eq_true, Bool.not_eq_true', List.isEmpty_iff] at hw
      rw [hw.1, hw.2]; rfl
    | _ => exact ih (Bool.and_eq_true_iff.mp hw).2

theorem wf_plain_cons {h : Bool} {o : Op} {r : List Op} (hp : o.plain = true) :
    wf h (o :: r) = ((!o.needsTok || h) && wf h r) := by
  cases o with
  | start | startWait | release | yieldRel | reacq | reacqWait | wrapEnd => cases hp
  | _ => rfl

theorem holdsTok_plain_cons {o : Op} {r : List Op} (hp : o.plain = true) : holdsTok (o :: r) = holdsTok r := by
  cases o with
  | start | startWait | release | yieldRel | reacq | reacqWait | wrapEnd => cases hp
  | _ => rfl

theorem wf_tail {h : Bool} {op : Op} {rest : List Op} (hw : wf h (op :: rest) = true) (hop : op.plain = true) :
    wf h rest = true := by
  rw [wf_plain_cons hop] at hw
  exact (Bool.and_eq_true_iff.mp hw).2

theorem isFin_not_needsTok {o : Op} (h : o.isFin = true) : o.needsTok = false := by
  cases o with
  | release | reacq | reacqWait | unlock | wrapEnd => rfl
  | _ => cases h

/-- when an exception propagates only the clean-up operations remain: still balanced -/
theorem wf_filter {h : Bool} {ops : List Op} (hw : wf h ops = true) : wf h (ops.filter Op.isFin) = true := by
  induction ops generalizing h with
  | nil => exact hw
  | cons o r ih =>
    cases o with
    | start | startWait =>
      obtain ⟨h1, h2⟩ := Bool.and_eq_true_iff.mp hw
      cases h with
      | false => exact ih h2
      | true => cases h1
    | yieldRel =>
      obtain ⟨h1, h2⟩ := Bool.and_eq_true_iff.mp hw
      cases h with
      | false => cases h1
      | true => exact ih h2
    | release | reacq | reacqWait | unlock =>
      exact (Bool.and_eq_true_iff.mpr ⟨(Bool.and_eq_true_iff.mp hw).1, ih (Bool.and_eq_true_iff.mp hw).2⟩ :)
    | wrapEnd =>
      have hr : r = [] := List.isEmpty_iff.mp (Bool.and_eq_true_iff.mp hw).2
      subst hr; exact hw
    | _ => exact ih (Bool.and_eq_true_iff.mp hw).2

@[simp] theorem noWait_nil : noWait [] = true := rfl
@[simp] theorem noWait_cons (o : Op) (r : List Op) : noWait (o :: r) = (!o.isWait && noWait r) := rfl

theorem noWait_filter {ops : List Op} (h : noWait ops = true) : noWait (ops.filter Op.isFin) = true := by
  simp only [noWait, List.all_eq_true] at *
  intro o ho
  exact h o (List.mem_filter.mp ho).1

theorem noWait_tail_of {ops : List Op} (h : noWait ops = true) : noWait ops.tail = true := by
  simp only [noWait, List.all_eq_true] at *
  intro o ho
  exact h o (List.mem_of_mem_tail ho)

theorem noWait_append {a b : List Op} : noWait (a ++ b) = (noWait a && noWait b) := by
  simp [noWait, List.all_append]

theorem noWait_tail_append {a b : List Op} (ha : noWait a.tail = true) (hb : noWait b = true) :
    noWait (a ++ b).tail = true := by
  cases a with
  | nil => exact noWait_tail_of hb
  | cons o a => rw [List.cons_append, List.tail_cons, noWait_append, hb, Bool.and_true]; exact ha

/-- suspended `await`s stand only at the head of a continuation: a count of waits of some kind in its tail is 0 -/
theorem filter_noWait {p : Op → Bool} (hp : ∀ o, p o = true → o.isWait = true) {r : List Op} (h : noWait r = true) :
    r.filter p = [] := by
  refine List.filter_eq_nil_iff.mpr fun o ho hpo => ?_
  have := List.all_eq_true.mp h o ho
  rw [hp o hpo] at this
  cases this

theorem Task.wf_iff {x : Task} : x.wf = true ↔ (Sched.wf (holdsTok x.ops) x.ops = true ∧ noWait x.ops.tail = true) := by
  simp [Task.wf]

theorem wrapEnd_last {x : Task} {rest : List Op} (h : x.wf = true) (hops : x.ops = .wrapEnd :: rest) : rest = [] := by
  have w1 := (Task.wf_iff.mp h).1
  rw [hops] at w1
  cases hx : holdsTok (Op.wrapEnd :: rest) <;> simp [hx, Sched.wf] at w1
  exact w1

/-- a task as `__createCookTask` / `__createGenericTask` makes it -/
def Initial (y : Task) : Prop := y.err = none ∧ (y.ops = [.start, .wrapEnd] ∨ ∃ a, y.ops = [.fence a, .start, .wrapEnd])

theorem Initial.wf {y : Task} (h : Initial y) : y.wf = true ∧ y.holds = 0 ∧ y.waitingTok = 0 := by
  rcases h.2 with e | ⟨a, e⟩ <;> simp [Task.wf, Task.holds, Task.waitingTok, e, Sched.wf, holdsTok, noWait, Op.needsTok, Op.isTokWait, Op.isWait]

/-- effect of `createTask` -/
structure Grow (st g : St) (new : List Task) : Prop where
  tasks : g.tasks = st.tasks ++ new
  init : ∀ y ∈ new, Initial y
  runners : g.runners = st.runners
  running : g.running = st.running
  errors : g.errors = st.errors
  wasRun : g.wasRun = st.wasRun
  locks : g.locks = st.locks
  disk : g.disk = st.disk
  dlTried : g.dlTried = st.dlTried

theorem Grow.refl (st : St) : Grow st st [] := ⟨by simp, by simp, rfl, rfl, rfl, rfl, rfl, rfl, rfl⟩

theorem Grow.trans {a b c : St} {n1 n2 : List Task} (h1 : Grow a b n1) (h2 : Grow b c n2) : Grow a c (n1 ++ n2) :=
  ⟨by rw [h2.tasks, h1.tasks, List.append_assoc],
   by intro y hy; rcases List.mem_append.mp hy with h | h; exact h1.init y h; exact h2.init y h,
   by rw [h2.runners, h1.runners], by rw [h2.running, h1.running], by rw [h2.errors, h1.errors],
   by rw [h2.wasRun, h1.wasRun], by rw [h2.locks, h1.locks], by rw [h2.disk, h1.disk], by rw [h2.dlTried, h1.dlTried]⟩

end Sched
