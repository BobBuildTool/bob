import BobModel.Model.GitSwitch
/-
The abstract git model: reachability, the `Safe` relation
("nothing the user made is lost") and its preservation by every action of Bob's git logic
under `GitContract`; then the decision of `canSwitch` and `GitScm.status`: an expendable clone holds no
user work.
-/
namespace GitSwitch

theorem Reach.trans {D : Dag} {a b c : Commit} (h1 : Reach D a b) (h2 : Reach D b c) : Reach D a c := by
  induction h1 with
  | refl _ => exact h2
  | step hp _ ih => exact Reach.step hp (ih h2)

theorem reachB_sound (D : Dag) : ∀ (n : Nat) (a c : Commit), reachB D n a c = true → Reach D a c := by
  intro n
  induction n with
  | zero =>
    intro a c h
    simp [reachB] at h
    subst h; exact Reach.refl _
  | succ n ih =>
    intro a c h
    simp only [reachB, Bool.or_eq_true, List.any_eq_true] at h
    rcases h with h | ⟨b, hb, hr⟩
    · have : a = c := by simpa using h
      subst this; exact Reach.refl _
    · exact Reach.step hb (ih b c hr)

/-- upstream commits have upstream ancestors only -/
def UpClosed (D : Dag) (U : Commit → Prop) : Prop := ∀ a b, ¬ U a → b ∈ D.par a → ¬ U b

theorem up_reach {D : Dag} {U : Commit → Prop} (hU : UpClosed D U) {a c : Commit}
    (h : Reach D a c) (ha : ¬ U a) : ¬ U c := by
  induction h with
  | refl _ => exact ha
  | step hp _ ih => exact ih (hU _ _ ha hp)

theorem assoc_setAssoc_same {β : Type} (l : List (String × β)) (a : String) (b : β) :
    assoc (setAssoc l a b) a = some b := by
  induction l with
  | nil => simp [setAssoc, assoc]
  | cons e rest ih =>
    obtain ⟨k, v⟩ := e
    by_cases h : (k == a) = true
    · simp [setAssoc, assoc, h]
    · simp [setAssoc, assoc, h, ih]

theorem assoc_setAssoc_other {β : Type} (l : List (String × β)) (a m : String) (b : β) (hm : m ≠ a) :
    assoc (setAssoc l a b) m = assoc l m := by
  induction l with
  | nil =>
    have : (a == m) = false := by simpa using fun h => hm h.symm
    simp [setAssoc, assoc, this]
  | cons e rest ih =>
    obtain ⟨k, v⟩ := e
    by_cases h : (k == a) = true
    · have hk : k = a := by simpa using h
      have : (k == m) = false := by simpa [hk] using fun h' => hm h'.symm
      simp [setAssoc, assoc, h, this]
    · by_cases h2 : (k == m) = true
      · simp [setAssoc, assoc, h, h2]
      · simp [setAssoc, assoc, h, h2, ih]

theorem assoc_append_none {β : Type} (l : List (String × β)) (a m : String) (b : β) (hm : m ≠ a) :
    assoc (l ++ [(a, b)]) m = assoc l m := by
  induction l with
  | nil =>
    have : (a == m) = false := by simpa using fun h => hm h.symm
    simp [assoc, this]
  | cons e rest ih =>
    obtain ⟨k, v⟩ := e
    by_cases h2 : (k == m) = true
    · simp [assoc, h2]
    · simp [assoc, h2, ih]

theorem assoc_append_new {β : Type} (l : List (String × β)) (a : String) (b : β) (hn : assoc l a = none) :
    assoc (l ++ [(a, b)]) a = some b := by
  induction l with
  | nil => simp [assoc]
  | cons e rest ih =>
    obtain ⟨k, v⟩ := e
    by_cases h2 : (k == a) = true
    · simp [assoc, h2] at hn
    · simp [assoc, h2] at hn ⊢
      exact ih hn

theorem assoc_mem {β : Type} (l : List (String × β)) (a : String) (b : β) (h : assoc l a = some b) :
    (a, b) ∈ l := by
  induction l with
  | nil => simp [assoc] at h
  | cons e rest ih =>
    obtain ⟨k, v⟩ := e
    by_cases h2 : (k == a) = true
    · have hk : k = a := by simpa using h2
      simp [assoc, h2] at h
      simp [hk, h]
    · simp [assoc, h2] at h
      exact List.mem_cons_of_mem _ (ih h)

/-- nothing the user made is lost going from `r` to `r'`: dirty and untracked paths are the same
and every user-created commit that a local ref held is still held by a local ref -/
def Safe (D : Dag) (U : Commit → Prop) (r r' : Repo) : Prop :=
  r'.dirty = r.dirty ∧ r'.untracked = r.untracked ∧ ∀ c, U c → LocalHeld D r c → LocalHeld D r' c

/-- safety together with the invariant that remote refs and tags name upstream commits -/
def Good (D : Dag) (U : Commit → Prop) (r r' : Repo) : Prop :=
  Safe D U r r' ∧ (RefsUpstream U r → RefsUpstream U r')

theorem Safe.refl (D : Dag) (U : Commit → Prop) (r : Repo) : Safe D U r r := ⟨rfl, rfl, fun _ _ h => h⟩

theorem Safe.trans {D : Dag} {U : Commit → Prop} {a b c : Repo} (h1 : Safe D U a b) (h2 : Safe D U b c) :
    Safe D U a c :=
  ⟨h2.1.trans h1.1, h2.2.1.trans h1.2.1, fun x hx hh => h2.2.2 x hx (h1.2.2 x hx hh)⟩

theorem Good.refl (D : Dag) (U : Commit → Prop) (r : Repo) : Good D U r r := ⟨Safe.refl D U r, id⟩

theorem Good.trans {D : Dag} {U : Commit → Prop} {a b c : Repo} (h1 : Good D U a b) (h2 : Good D U b c) :
    Good D U a c := ⟨h1.1.trans h2.1, fun h => h2.2 (h1.2 h)⟩

/-- the detached HEAD, if any, is an upstream commit -/
def HeadUp (U : Commit → Prop) (r : Repo) : Prop := ∀ d, r.head = .detached d → ¬ U d

/-- Nothing is lost when every user commit that a local branch held is still held, and the old detached
HEAD was an upstream commit or HEAD did not move. -/
theorem safe_of_heads {D : Dag} {U : Commit → Prop} (hU : UpClosed D U) {r r' : Repo} (ht : SameTree r r')
    (hb : ∀ m t x, assoc r.heads m = some t → Reach D t x → U x → LocalHeld D r' x)
    (hd : HeadUp U r ∨ r'.head = r.head) : Safe D U r r' := by
  refine ⟨ht.1, ht.2, fun c hc hl => ?_⟩
  rcases hl with ⟨n, t, hn, hr⟩ | ⟨d, hd', hr⟩
  · exact hb n t c hn hr hc
  · rcases hd with hd | hd
    · exact absurd hc (up_reach hU hr (hd d hd'))
    · exact Or.inr ⟨d, hd ▸ hd', hr⟩

theorem safe_of_heads_eq {D : Dag} {U : Commit → Prop} (hU : UpClosed D U) {r r' : Repo}
    (hh : r'.heads = r.heads) (ht : SameTree r r') (hd : HeadUp U r ∨ r'.head = r.head) : Safe D U r r' :=
  safe_of_heads hU ht (fun n t _ hn hr _ => Or.inl ⟨n, t, hh ▸ hn, hr⟩) hd

variable {D : Dag} {U : Commit → Prop} {ops : GitOps}

theorem refs_of_eq {r r' : Repo} (h1 : r'.remotes = r.remotes) (h2 : r'.tags = r.tags) :
    RefsUpstream U r → RefsUpstream U r' := by
  intro h
  unfold RefsUpstream at *
  rw [h1, h2]; exact h

theorem headUp_of_branch {r : Repo} {b : Name} (h : r.head = .branch b) : HeadUp U r := by
  intro d hd
  rw [h] at hd; cases hd

/-- a failing command leaves the clone as it is; otherwise the contract says what the new clone is -/
theorem lift_cases {f : Repo → Except Unit Repo} {r : Repo} {P : Repo → Bool → Prop}
    (hfail : P r false) (hok : ∀ r', f r = .ok r' → P r' true) : P (lift f r).1 (lift f r).2 := by
  unfold lift
  cases h : f r with
  | error _ => exact hfail
  | ok r' => exact hok r' h

theorem good_fetch (hc : GitContract D U ops) (hU : UpClosed D U) (t : Option Name) (r : Repo) :
    Good D U r ((lift (ops.fetch t)) r).1 ∧ ((lift (ops.fetch t)) r).1.head = r.head ∧
      ((lift (ops.fetch t)) r).1.heads = r.heads :=
  lift_cases (P := fun r' _ => Good D U r r' ∧ r'.head = r.head ∧ r'.heads = r.heads) ⟨Good.refl D U r, rfl, rfl⟩
    fun r' h =>
    have h1 := hc.fetch_local t r r' h
    ⟨⟨safe_of_heads_eq hU h1.1 h1.2.2.1 (Or.inr h1.2.1), hc.fetch_upstream t r r' h⟩, h1.2.1, h1.1⟩

theorem good_fetchAct (hc : GitContract D U ops) (hU : UpClosed D U) (s : GitSpec) (r : Repo) :
    Good D U r (fetchAct ops s r).1 ∧ (HeadUp U r → HeadUp U (fetchAct ops s r).1) :=
  ⟨(good_fetch hc hU s.tag r).1, fun hr d hd => hr d ((good_fetch hc hU s.tag r).2.1 ▸ hd)⟩

theorem good_detach (hc : GitContract D U ops) (hU : UpClosed D U) (c : Commit) (r : Repo) (hh : HeadUp U r) :
    Good D U r ((lift (ops.checkoutDetach c)) r).1 :=
  lift_cases (P := fun r' _ => Good D U r r') (Good.refl D U r) fun r' h =>
    have h1 := hc.detach c r r' h
    ⟨safe_of_heads_eq hU h1.1 h1.2.2.1 (Or.inl hh), refs_of_eq h1.2.2.2.1 h1.2.2.2.2⟩

theorem good_branch (hc : GitContract D U ops) (hU : UpClosed D U) (n : Name) (r : Repo) (hh : HeadUp U r) :
    Good D U r ((lift (ops.checkoutBranch n)) r).1 ∧
    (((lift (ops.checkoutBranch n)) r).2 = true → ((lift (ops.checkoutBranch n)) r).1.head = .branch n) :=
  lift_cases (P := fun r' ok => Good D U r r' ∧ (ok = true → r'.head = .branch n))
    ⟨Good.refl D U r, fun h => nomatch h⟩ fun r' h =>
    have h1 := hc.branch n r r' h
    ⟨⟨safe_of_heads_eq hU h1.1 h1.2.2.1 (Or.inl hh), refs_of_eq h1.2.2.2.1 h1.2.2.2.2⟩, fun _ => h1.2.1⟩

theorem good_new (hc : GitContract D U ops) (hU : UpClosed D U) (n : Name) (c : Commit) (r : Repo)
    (hh : HeadUp U r) : Good D U r ((lift (ops.checkoutNew n c)) r).1 :=
  lift_cases (P := fun r' _ => Good D U r r') (Good.refl D U r) fun r' h => by
    obtain ⟨hnone, hoth, _, _, ht, hrem, htag⟩ := hc.new n c r r' h
    refine ⟨safe_of_heads hU ht (fun m t x hm hr _ => Or.inl ⟨m, t, ?_, hr⟩) (Or.inl hh), refs_of_eq hrem htag⟩
    -- the new branch did not exist, the others are as they were
    rw [hoth m fun e => nomatch (e ▸ hm).symm.trans hnone]
    exact hm

theorem good_mergeFF (hc : GitContract D U ops) (hU : UpClosed D U) (n : Name) (r : Repo) :
    Good D U r ((lift (ops.mergeFF n)) r).1 :=
  lift_cases (P := fun r' _ => Good D U r r') (Good.refl D U r) fun r' h => by
    obtain ⟨hhead, ht, hrem, htag, hcase⟩ := hc.mergeFF n r r' h
    refine ⟨safe_of_heads hU ht (fun m t x hm hr _ => ?_) (Or.inr hhead), refs_of_eq hrem htag⟩
    rcases hcase with he | ⟨b, t0, t', _, hb, hreach, hb', hoth⟩
    · exact Or.inl ⟨m, t, he ▸ hm, hr⟩
    · by_cases hmb : m = b
      · -- the forwarded branch reaches its old tip
        subst hmb
        cases hb.symm.trans hm
        exact Or.inl ⟨m, t', hb', hreach.trans hr⟩
      · exact Or.inl ⟨m, t, (hoth m hmb).trans hm, hr⟩

/-- `reset --keep` after the "would be lost" guard -/
theorem good_reset (hc : GitContract D U ops) (hU : UpClosed D U) (b : Name) (c : Commit) (r : Repo)
    (hb : r.head = .branch b) (hup : RefsUpstream U r) (hg : guardOk ops b r = true) :
    Good D U r ((lift (ops.resetKeep c)) r).1 :=
  lift_cases (P := fun r' _ => Good D U r r') (Good.refl D U r) fun r' h => by
    obtain ⟨ht, hrem, htag, hcase⟩ := hc.reset c r r' h
    refine ⟨safe_of_heads hU ht (fun m t x hm hr hx => ?_) (Or.inl (headUp_of_branch hb)), refs_of_eq hrem htag⟩
    rcases hcase with ⟨b', hb1, _, _, hoth⟩ | ⟨d, hd, _⟩
    · cases hb.symm.trans hb1
      by_cases hmb : m = b
      · -- the tip of the current branch: the guard found another holder
        subst hmb
        have hhc : r.headCommit = some t := by rw [Repo.headCommit, hb]; exact hm
        obtain ⟨y, hy, hne⟩ := List.any_eq_true.mp hg
        rcases hc.contains_sound r y t hy hhc with ⟨ty, hty, hry⟩ | ⟨ny, ty, hty, hry⟩
        · exact Or.inl ⟨y, ty, (hoth y (bne_iff_ne.mp hne)).trans hty, hry.trans hr⟩
        · exact absurd hx (up_reach hU (hry.trans hr) (hup.1 ny ty (assoc_mem _ _ _ hty)))
      · exact Or.inl ⟨m, t, (hoth m hmb).trans hm, hr⟩
    · cases hb.symm.trans hd

theorem andThen_good {a b : Act} {P Q : Repo → Prop}
    (ha : ∀ r, P r → Good D U r (a r).1 ∧ ((a r).2 = true → Q (a r).1))
    (hb : ∀ r, Q r → Good D U r (b r).1) : ∀ r, P r → Good D U r ((a.andThen b) r).1 := by
  intro r hp
  unfold Act.andThen
  obtain ⟨h1, h2⟩ := ha r hp
  cases h : a r with
  | mk r' ok =>
    rw [h] at h1 h2
    cases ok with
    | true => exact h1.trans (hb r' (h2 rfl))
    | false => exact h1

theorem headUp_of_unborn {r : Repo} (h : r.headCommit.isNone = true) : HeadUp U r := by
  intro d hd
  simp [Repo.headCommit, hd] at h

theorem good_withRemote_new (hc : GitContract D U ops) (hU : UpClosed D U) (b : Name) (r : Repo)
    (hh : HeadUp U r) : Good D U r ((withRemote b (fun c => lift (ops.checkoutNew b c))) r).1 := by
  unfold withRemote
  cases assoc r.remotes b with
  | none => exact Good.refl D U r
  | some c => exact good_new hc hU b c r hh

theorem good_checkoutBranchAct (hc : GitContract D U ops) (hU : UpClosed D U) (s : GitSpec) (b : Name)
    (switch : Bool) (r : Repo) (hh : switch = true → HeadUp U r) :
    Good D U r (checkoutBranchAct ops s b switch r).1 := by
  unfold checkoutBranchAct
  refine andThen_good (P := fun r => switch = true → HeadUp U r)
    (Q := fun r => switch = true → HeadUp U r) ?_ ?_ r hh
  · exact fun r hr => ⟨(good_fetchAct hc hU s r).1, fun _ hsw => (good_fetchAct hc hU s r).2 (hr hsw)⟩
  · intro r hr
    by_cases h1 : r.headCommit.isNone = true
    · rw [if_pos h1]
      exact good_withRemote_new hc hU b r (headUp_of_unborn h1)
    · rw [if_neg h1]
      cases switch with
      | true =>
        rw [if_pos rfl]
        by_cases h2 : (assoc r.heads b).isNone = true
        · rw [if_pos h2]
          exact good_withRemote_new hc hU b r (hr rfl)
        · rw [if_neg h2]
          exact andThen_good (P := HeadUp U) (Q := fun _ => True)
            (fun r hr => ⟨(good_branch hc hU b r hr).1, fun _ => trivial⟩)
            (fun r _ => good_mergeFF hc hU b r) r (hr rfl)
      | false =>
        rw [if_neg Bool.false_ne_true]
        by_cases h3 : r.head = .branch b
        · rw [if_pos h3]
          exact good_mergeFF hc hU b r
        · rw [if_neg h3]
          exact Good.refl D U r

theorem good_checkoutTagAct (hc : GitContract D U ops) (hU : UpClosed D U) (s : GitSpec)
    (switch : Bool) (r : Repo) (hh : switch = true → HeadUp U r) :
    Good D U r (checkoutTagAct ops s switch r).1 := by
  unfold checkoutTagAct
  split
  · rename_i h1
    refine andThen_good (P := HeadUp U) (Q := HeadUp U) ?_ ?_ r
      ((Bool.or_eq_true _ _).mp h1 |>.elim headUp_of_unborn hh)
    · exact fun r hr => ⟨(good_fetchAct hc hU s r).1, fun _ => (good_fetchAct hc hU s r).2 hr⟩
    · intro r hr
      cases resolveTarget s r with
      | none => exact Good.refl D U r
      | some c => exact good_detach hc hU c r hr
  · exact Good.refl D U r

theorem good_guarded_reset (hc : GitContract D U ops) (hU : UpClosed D U) (b : Name) (c : Commit) (r : Repo)
    (hh : HeadUp U r) (hup : RefsUpstream U r) :
    Good D U r (((lift (ops.checkoutBranch b)).andThen fun r2 =>
            if guardOk ops b r2 then lift (ops.resetKeep c) r2 else (r2, false)) r).1 := by
  refine andThen_good (P := fun r => HeadUp U r ∧ RefsUpstream U r)
    (Q := fun r2 => r2.head = .branch b ∧ RefsUpstream U r2) ?_ ?_ r ⟨hh, hup⟩
  · exact fun r hr => ⟨(good_branch hc hU b r hr.1).1,
      fun hok => ⟨(good_branch hc hU b r hr.1).2 hok, (good_branch hc hU b r hr.1).1.2 hr.2⟩⟩
  · intro r2 hr2
    split
    · exact good_reset hc hU b c r2 hr2.1 hr2.2 ‹_›
    · exact Good.refl D U r2

theorem good_tagOnBranchCont (hc : GitContract D U ops) (hU : UpClosed D U) (s : GitSpec) (b : Name)
    (hv : Bool) (r1 : Repo) (hup1 : HeadUp U r1) (hrefs : RefsUpstream U r1) :
    Good D U r1 (tagOnBranchCont ops s b hv r1).1 := by
  unfold tagOnBranchCont
  cases resolveTarget s r1 with
  | none => exact Good.refl D U r1
  | some c =>
    dsimp only
    cases assoc r1.remotes b with
    | none => exact Good.refl D U r1
    | some ob =>
      dsimp only
      by_cases h1 : (!ops.isAncestor c ob) = true
      · rw [if_pos h1]
        exact Good.refl D U r1
      · rw [if_neg h1]
        by_cases h2 : (!hv || !(hv && (assoc r1.heads b).isSome)) = true
        · rw [if_pos h2]
          exact good_new hc hU b c r1 hup1
        · rw [if_neg h2]
          exact good_guarded_reset hc hU b c r1 hup1 hrefs

theorem good_checkoutTagOnBranchAct (hc : GitContract D U ops) (hU : UpClosed D U) (s : GitSpec) (b : Name)
    (switch : Bool) (r : Repo) (hh : switch = true → HeadUp U r) (hup : RefsUpstream U r) :
    Good D U r (checkoutTagOnBranchAct ops s b switch r).1 := by
  unfold checkoutTagOnBranchAct
  split
  · exact Good.refl D U r
  · rename_i hal
    -- not already there: HEAD is unborn, or this is a switch
    have hup0 : HeadUp U r := by
      by_cases hv : r.headCommit.isSome = true
      · cases switch with
        | true => exact hh rfl
        | false => simp [alreadyAt, hv] at hal
      · exact headUp_of_unborn (by simpa using hv)
    refine andThen_good (P := fun r => HeadUp U r ∧ RefsUpstream U r)
      (Q := fun r => HeadUp U r ∧ RefsUpstream U r) ?_ ?_ r ⟨hup0, hup⟩
    · exact fun r ⟨hr, hrefs⟩ => ⟨(good_fetchAct hc hU s r).1,
        fun _ => ⟨(good_fetchAct hc hU s r).2 hr, (good_fetchAct hc hU s r).1.2 hrefs⟩⟩
    · exact fun r1 ⟨h1, h2⟩ => good_tagOnBranchCont hc hU s b _ r1 h1 h2

/-- recipes name upstream commits only -/
def SpecUp (U : Commit → Prop) (s : GitSpec) : Prop := ∀ c, s.commit = some c → ¬ U c

theorem refs_setUrl {r : Repo} {u : Option String} (h : RefsUpstream U r) : RefsUpstream U { r with url := u } := h

theorem good_setUrl (r : Repo) (u : Option String) : Good D U r { r with url := u } :=
  ⟨⟨rfl, rfl, fun _ _ h => h⟩, fun h => h⟩

theorem good_invokeAct (hc : GitContract D U ops) (hU : UpClosed D U) (s : GitSpec) (switch : Bool) (r : Repo)
    (hh : switch = true → HeadUp U r) (hup : RefsUpstream U r) :
    Good D U r (invokeAct ops s switch r).1 := by
  unfold invokeAct
  simp only
  refine (good_setUrl r (some s.url)).trans ?_
  have hh' : switch = true → HeadUp U { r with url := some s.url } := hh
  have hup' : RefsUpstream U { r with url := some s.url } := hup
  generalize ({ r with url := some s.url } : Repo) = r0 at hh' hup'
  split
  · split
    · split
      · exact good_checkoutTagOnBranchAct hc hU s _ switch r0 hh' hup'
      · exact good_checkoutTagAct hc hU s switch r0 hh'
    · exact good_checkoutTagAct hc hU s switch r0 hh'
  · exact good_checkoutBranchAct hc hU s _ switch r0 hh'

/-- the test `GitScm.switch` makes on a detached HEAD `d`: it is the commit the old spec led to, or
the one the new spec asks for -/
theorem detached_ok {d c : Commit} {nc : Option Commit} (h : (!(some d != some c && some d != nc)) = true) :
    d = c ∨ nc = some d := by
  simp only [Bool.not_eq_true', Bool.and_eq_false_iff, bne_eq_false_iff_eq, Option.some.injEq] at h
  exact h.imp_right Eq.symm

theorem headUp_of_switchOk (old new : GitSpec) (r : Repo) (ho : SpecUp U old) (hn : SpecUp U new)
    (hup : RefsUpstream U r) (h : switchDetachedOk old new r = true) : HeadUp U r := by
  intro d hd
  unfold switchDetachedOk at h
  rw [hd] at h
  dsimp only at h
  cases hoc : old.commit with
  | some c =>
    rw [hoc] at h
    rcases detached_ok h with rfl | hnd
    · exact ho d hoc
    · exact hn d hnd
  | none =>
    rw [hoc] at h
    cases hot : old.tag with
    | none => rw [hot] at h; cases h
    | some t =>
      simp only [hot] at h
      cases htc : assoc r.tags t with
      | none => rw [htc] at h; cases h
      | some c =>
        rw [htc] at h
        rcases detached_ok h with rfl | hnd
        · exact hup.2 t d (assoc_mem _ _ _ htc)
        · exact hn d hnd

/-- **`GitScm.switch` never loses user work**, whether it succeeds or fails half way -/
theorem good_switchAct (hc : GitContract D U ops) (hU : UpClosed D U) (old new : GitSpec) (r : Repo)
    (ho : SpecUp U old) (hn : SpecUp U new) (hup : RefsUpstream U r) :
    Good D U r (switchAct ops old new r).1 := by
  unfold switchAct
  by_cases h : switchDetachedOk old new r = true
  · simp only [h, if_true]
    exact good_invokeAct hc hU new true r (fun _ => headUp_of_switchOk old new r ho hn hup h) hup
  · simp only [h]
    exact Good.refl D U r

/-- `GitScm.invoke` on an existing clone (no switch) never loses user work -/
theorem good_updateAct (hc : GitContract D U ops) (hU : UpClosed D U) (s : GitSpec) (r : Repo)
    (hup : RefsUpstream U r) : Good D U r (invokeAct ops s false r).1 :=
  good_invokeAct hc hU s false r (fun h => by cases h) hup

/-- the decision `GitScm.canSwitch` takes on the list of differing properties: one that is neither
ignored nor switchable rules the inline switch out.  Stated on the `if` cascade of `canSwitch` for arbitrary
lists, so that `unfold canSwitch` exposes an instance (`C12.canSwitch_keeps_dir`) -/
theorem switchDecision_false {ignored switchable diff : List String} {p : String} (hm : p ∈ diff)
    (hi : ignored.contains p = false) (hs : switchable.contains p = false) (b : Bool) :
    (if (diff.filter (fun p => !ignored.contains p)).isEmpty then true
     else if !(diff.filter (fun p => !ignored.contains p)).all (fun p => switchable.contains p) then false
     else b) = false := by
  have hf : p ∈ diff.filter (fun p => !ignored.contains p) := List.mem_filter.mpr ⟨hm, by rw [hi]; rfl⟩
  have hne : (diff.filter (fun p => !ignored.contains p)).isEmpty = false := by
    cases hd : diff.filter (fun p => !ignored.contains p) with
    | nil => rw [hd] at hf; cases hf
    | cons _ _ => rfl
  have hall : (diff.filter (fun p => !ignored.contains p)).all (fun p => switchable.contains p) = false := by
    rw [List.all_eq_false]
    exact ⟨p, hf, by rw [hs]; exact Bool.false_ne_true⟩
  rw [hne, hall]; rfl

theorem covered_sound (tips : List Commit) (c : Commit) (h : covered D tips c = true) :
    ∃ t ∈ tips, Reach D t c := by
  unfold covered at h
  rw [List.any_eq_true] at h
  obtain ⟨t, ht, hr⟩ := h
  exact ⟨t, ht, reachB_sound D _ t c hr⟩

theorem refState_on (s : GitSpec) (r : Repo) (h : Commit)
    (h1 : (refState D s r h).onBranch = true) (h2 : (refState D s r h).unpushedMain = false) :
    ∃ ob, assoc r.remotes (s.branch.getD "master") = some ob ∧ reachB D D.fuel ob h = true := by
  unfold refState at h1 h2
  cases hcm : s.commit with
  | some c => simp [hcm] at h1
  | none =>
    cases htg : s.tag with
    | some t => simp [hcm, htg] at h1
    | none =>
      simp only [hcm, htg] at h1 h2
      by_cases hb : (r.head != .branch (s.branch.getD "master")) = true
      · simp [hb] at h1
      · simp only [hb] at h1 h2
        cases hrem : assoc r.remotes (s.branch.getD "master") with
        | none => simp [hrem] at h1
        | some ob =>
          simp only [hrem] at h2
          exact ⟨ob, rfl, by simpa using h2⟩

theorem Taints.dirty_eq (t : Taints) :
    t.dirty = (t.error || (t.modified || (t.switched || t.unpushedMain))) := by
  simp only [Taints.dirty, Consts.C12.dirtyTaints, List.any_cons, List.any_nil, Taints.has, Bool.or_false]

theorem Taints.expendable_eq (t : Taints) :
    t.expendable = (!t.dirty && !(t.unknown || t.unpushedLocal)) := by
  simp only [Taints.expendable, Consts.C12.notExpendableTaints, List.any_cons, List.any_nil, Taints.has,
    Bool.or_false]

theorem Taints.expendable_iff (t : Taints) :
    t.expendable = true ↔ (t.modified = false ∧ t.error = false ∧ t.switched = false ∧
      t.unpushedMain = false ∧ t.unpushedLocal = false ∧ t.unknown = false) := by
  simp only [Taints.expendable_eq, Taints.dirty_eq, Bool.and_eq_true, Bool.not_eq_true', Bool.or_eq_false_iff]
  exact ⟨fun ⟨⟨e, m, s, um⟩, uk, ul⟩ => ⟨m, e, s, um, ul, uk⟩,
    fun ⟨m, e, s, um, ul, uk⟩ => ⟨⟨e, m, s, um⟩, uk, ul⟩⟩

/-- **an expendable git checkout holds no user work**: no dirty or untracked path, and every
commit held by a local branch or the detached HEAD is an upstream commit -/
theorem expendable_no_work (hU : UpClosed D U) (s : GitSpec) (extra : Bool) (r : Repo)
    (hup : RefsUpstream U r) (h : (status D s extra r).expendable = true) :
    r.dirty = [] ∧ r.untracked = [] ∧ ∀ c, LocalHeld D r c → ¬ U c := by
  unfold status at h
  cases hh : r.headCommit with
  | none => rw [hh] at h; cases ((Taints.expendable_iff _).mp h).2.1
  | some hc =>
    simp only [hh] at h
    by_cases herr : (refState D s r hc).err = true
    · rw [if_pos herr] at h; cases ((Taints.expendable_iff _).mp h).2.1
    · rw [if_neg herr] at h
      obtain ⟨hmod, _, _, hum, hcov, _⟩ := (Taints.expendable_iff _).mp h
      simp only at hmod hum hcov
      have hd : r.dirty = [] ∧ r.untracked = [] := by
        simp only [Bool.or_eq_false_iff, Bool.not_eq_false'] at hmod
        exact ⟨by simpa using hmod.1.1, by simpa using hmod.1.2⟩
      refine ⟨hd.1, hd.2, ?_⟩
      rw [List.any_eq_false] at hcov
      -- every tip is covered by an upstream tip (or by HEAD, which then is covered by origin/b)
      have htip : ∀ t, t ∈ r.heads.map (·.2) ++ [hc] → ¬ U t := by
        intro t ht
        have hcv := hcov t ht
        obtain ⟨x, hx, hr⟩ := covered_sound (D := D) _ t (by simpa using hcv)
        unfold exclTips at hx
        rw [List.mem_append, List.mem_append] at hx
        rcases hx with (hx | hx) | hx
        · obtain ⟨⟨n, c⟩, hn, rfl⟩ := List.mem_map.mp hx
          exact up_reach hU hr (hup.1 n c hn)
        · obtain ⟨⟨n, c⟩, hn, rfl⟩ := List.mem_map.mp hx
          exact up_reach hU hr (hup.2 n c hn)
        · by_cases hon : (refState D s r hc).onBranch = true
          · simp only [hon, if_true, List.mem_singleton] at hx
            subst hx
            obtain ⟨ob, hrem, hreach⟩ := refState_on s r x hon hum
            have hob : ¬ U ob := hup.1 _ ob (assoc_mem _ _ _ hrem)
            exact up_reach hU hr (up_reach hU (reachB_sound D _ ob x hreach) hob)
          · simp [hon] at hx
      intro c hl
      rcases hl with ⟨n, t, hn, hr⟩ | ⟨d, hd', hr⟩
      · have : t ∈ r.heads.map (·.2) ++ [hc] := by
          rw [List.mem_append]; left
          rw [List.mem_map]; exact ⟨(n, t), assoc_mem _ _ _ hn, rfl⟩
        exact up_reach hU hr (htip t this)
      · have : d = hc := by simp [Repo.headCommit, hd'] at hh; exact hh
        subst this
        exact up_reach hU hr (htip d (by simp))

end GitSwitch
