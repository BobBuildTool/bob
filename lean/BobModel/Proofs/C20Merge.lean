import BobModel.Proofs.C20AddChilds
/-
C20: the invariant of the merge phase of `JobNameCalculator.sanitize` and its preservation by one
guarded merge (`mergeInto` when `comparable` is false).
-/
namespace Jenkins

/-- The package steps `a` and `b` are in one job.  `V` in this name, `EdgeV` and `QReachV`: the relations are
stated over a bare `vidToJob` map `m`, not over a state, so that they can speak of the map `mrg m i j` of a
merge before any state carries it. -/
def SameJobV (m : Nat → Option Nat) (a b : Nat) : Prop := ∃ k, m a = some k ∧ m b = some k

/-- one step in the quotient graph: stay inside the job, or follow a dependency -/
def EdgeV (g : Graph) (m : Nat → Option Nat) (a b : Nat) : Prop :=
  SameJobV m a b ∨ (m a ≠ none ∧ b ∈ g.deps a)

abbrev QReachV (g : Graph) (m : Nat → Option Nat) : Nat → Nat → Prop := Reach (EdgeV g m)

theorem SameJobV.symm {m : Nat → Option Nat} {a b : Nat} (h : SameJobV m a b) : SameJobV m b a := by
  obtain ⟨k, h1, h2⟩ := h; exact ⟨k, h2, h1⟩

theorem SameJobV.rep {m : Nat → Option Nat} {a b k : Nat} (h : SameJobV m a b) (hb : m b = some k) : m a = some k := by
  obtain ⟨k', h1, h2⟩ := h; rw [h1, ← h2, hb]

theorem SameJobV.eq_of_rep {m : Nat → Option Nat} {a b : Nat} (h : SameJobV m a b) (ha : m a = some a)
    (hb : m b = some b) : a = b :=
  Option.some.inj (ha.symm.trans (h.rep hb))

theorem SameJobV.reach {g : Graph} {m : Nat → Option Nat} {a b : Nat} (h : SameJobV m a b) : QReachV g m a b :=
  Reach.single (Or.inl h)

/-- Holds from the end of the spanning phase on.  The clauses about `s.job k` speak of live jobs only
(`s.v2j k = some k`, see `Listing`); `rep`: the job a step maps to is live; `lt` bounds the step, and through
`rep` the job, by `n`, which is what the fuel of `addChilds` is measured against. -/
structure Inv (g : Graph) (n : Nat) (s : St) : Prop where
  lt : ∀ v k, s.v2j v = some k → v < n
  rep : ∀ v k, s.v2j v = some k → s.v2j k = some k
  closed : ∀ v, s.v2j v ≠ none → ∀ d ∈ g.deps v, s.v2j d ≠ none
  pkgs : ∀ k, s.v2j k = some k → ∀ w, w ∈ (s.job k).pkgs ↔ s.v2j w = some k
  parents : ∀ k, s.v2j k = some k → ∀ p, p ∈ (s.job k).parents ↔
      (s.v2j p ≠ none ∧ ∃ w, s.v2j w = some k ∧ w ∈ g.deps p)
  childs : ∀ k, s.v2j k = some k → ∀ w, w ∈ (s.job k).childs ↔ QReachV g s.v2j k w
  acyclic : ∀ v w, QReachV g s.v2j v w → QReachV g s.v2j w v → s.v2j v ≠ none → SameJobV s.v2j v w

section graph
variable {g : Graph} {m : Nat → Option Nat}

theorem known_of_reach (hc : ∀ v, m v ≠ none → ∀ d ∈ g.deps v, m d ≠ none) {a b : Nat}
    (h : QReachV g m a b) (ha : m a ≠ none) : m b ≠ none := by
  refine Reach.fwd_closed (G := fun x => m x ≠ none) h ha fun u d e hu => ?_
  rcases e with ⟨k, _, h2⟩ | ⟨_, hd⟩
  · simp [h2]
  · exact hc u hu d hd

/-- the `vidToJob` map after collapsing job `j` into job `i` -/
def mrg (m : Nat → Option Nat) (i j : Nat) : Nat → Option Nat :=
  fun k => if m k = some j then some i else m k

def InIJ (m : Nat → Option Nat) (i j a : Nat) : Prop := m a = some i ∨ m a = some j

variable {i j : Nat}

theorem mrg_of_some {a k : Nat} (h : m a = some k) : mrg m i j a = some (if k = j then i else k) := by
  by_cases hk : k = j <;> simp [mrg, h, hk]

theorem mrg_known {a : Nat} : mrg m i j a ≠ none ↔ m a ≠ none := by
  by_cases h : m a = some j <;> simp [mrg, h]

theorem mrg_eq_some {a k : Nat} : mrg m i j a = some k ↔ (m a = some k ∧ k ≠ j) ∨ (k = i ∧ m a = some j) := by
  by_cases h : m a = some j
  · simp [mrg, h, eq_comm]
  · have : m a = some k → k ≠ j := fun e ej => h (ej ▸ e)
    simpa [mrg, h] using this

theorem mrg_eq_i (hij : i ≠ j) {a : Nat} : mrg m i j a = some i ↔ InIJ m i j a := by
  simp [mrg_eq_some, InIJ, hij]

theorem live_mrg (hi : m i = some i) (hij : i ≠ j) (k : Nat) :
    mrg m i j k = some k ↔ (m k = some k ∧ k ≠ j) := by
  rw [mrg_eq_some]
  refine ⟨fun h => h.resolve_right ?_, Or.inl⟩
  rintro ⟨rfl, e⟩
  exact hij (Option.some.inj (hi.symm.trans e))

theorem sameJob_mrg (hij : i ≠ j) {a b : Nat} :
    SameJobV (mrg m i j) a b ↔ SameJobV m a b ∨ (InIJ m i j a ∧ InIJ m i j b) := by
  constructor
  · rintro ⟨k, ha, hb⟩
    by_cases hki : k = i
    · subst hki; exact Or.inr ⟨(mrg_eq_i hij).mp ha, (mrg_eq_i hij).mp hb⟩
    · have old : ∀ {x}, mrg m i j x = some k → m x = some k :=
        fun hx => ((mrg_eq_some.mp hx).resolve_right fun e => hki e.1).1
      exact Or.inl ⟨k, old ha, old hb⟩
  · rintro (⟨k, ha, hb⟩ | ⟨ha, hb⟩)
    · exact ⟨_, mrg_of_some ha, mrg_of_some hb⟩
    · exact ⟨i, (mrg_eq_i hij).mpr ha, (mrg_eq_i hij).mpr hb⟩

theorem edge_mrg (hij : i ≠ j) {a b : Nat} :
    EdgeV g (mrg m i j) a b ↔ EdgeV g m a b ∨ (InIJ m i j a ∧ InIJ m i j b) := by
  unfold EdgeV
  rw [sameJob_mrg hij, mrg_known, or_right_comm]

theorem reach_mrg_of_reach (hij : i ≠ j) {a b : Nat} (h : QReachV g m a b) : QReachV g (mrg m i j) a b :=
  h.mono fun _ _ e => (edge_mrg hij).mpr (Or.inl e)

theorem InIJ.reach_to (hi : m i = some i) (hj : m j = some j) {a : Nat} (h : InIJ m i j a) :
    QReachV g m a i ∨ QReachV g m a j :=
  h.imp (fun h => SameJobV.reach ⟨i, h, hi⟩) (fun h => SameJobV.reach ⟨j, h, hj⟩)

theorem InIJ.reach_from (hi : m i = some i) (hj : m j = some j) {a : Nat} (h : InIJ m i j a) :
    QReachV g m i a ∨ QReachV g m j a :=
  h.imp (fun h => SameJobV.reach ⟨i, hi, h⟩) (fun h => SameJobV.reach ⟨j, hj, h⟩)

/-- reachability after the merge, in terms of reachability before: a new path is an old one, or it goes
through the merged job -/
theorem reach_mrg (hij : i ≠ j) (hi : m i = some i) (hj : m j = some j) {a b : Nat} :
    QReachV g (mrg m i j) a b ↔
      QReachV g m a b ∨ ((QReachV g m a i ∨ QReachV g m a j) ∧ (QReachV g m i b ∨ QReachV g m j b)) := by
  constructor
  · intro h
    induction h with
    | refl => exact Or.inl (Reach.refl _)
    | @tail b c _ e ih =>
      rcases (edge_mrg hij).mp e with e | ⟨hb, hc⟩
      · rcases ih with ih | ⟨h1, h2⟩
        · exact Or.inl (Reach.tail ih e)
        · exact Or.inr ⟨h1, h2.imp (Reach.tail · e) (Reach.tail · e)⟩
      · refine Or.inr ⟨?_, hc.reach_from hi hj⟩
        rcases ih with ih | ⟨h1, _⟩
        · exact (hb.reach_to hi hj).imp ih.trans ih.trans
        · exact h1
  · have eij : ∀ x y, InIJ m i j x → InIJ m i j y → QReachV g (mrg m i j) x y :=
      fun x y hx hy => Reach.single ((edge_mrg hij).mpr (Or.inr ⟨hx, hy⟩))
    rintro (h | ⟨h1, h2⟩)
    · exact reach_mrg_of_reach hij h
    · have toi : QReachV g (mrg m i j) a i :=
        h1.elim (reach_mrg_of_reach hij) fun h => (reach_mrg_of_reach hij h).trans (eij j i (Or.inr hj) (Or.inl hi))
      exact toi.trans <|
        h2.elim (reach_mrg_of_reach hij) fun h => (eij i j (Or.inl hi) (Or.inr hj)).trans (reach_mrg_of_reach hij h)

/-- `merge_keeps_acyclic`: collapsing two jobs neither of which reaches the other keeps the quotient graph
antisymmetric -/
theorem acyclic_mrg
    (hc : ∀ v, m v ≠ none → ∀ d ∈ g.deps v, m d ≠ none)
    (hac : ∀ v w, QReachV g m v w → QReachV g m w v → m v ≠ none → SameJobV m v w)
    (hij : i ≠ j) (hi : m i = some i) (hj : m j = some j)
    (nij : ¬ QReachV g m i j) (nji : ¬ QReachV g m j i) :
    ∀ v w, QReachV g (mrg m i j) v w → QReachV g (mrg m i j) w v → mrg m i j v ≠ none →
      SameJobV (mrg m i j) v w := by
  -- a vertex between {i,j} and {i,j} belongs to i or j
  have between : ∀ x, (QReachV g m x i ∨ QReachV g m x j) → (QReachV g m i x ∨ QReachV g m j x) →
      InIJ m i j x := by
    intro x h1 h2
    have hx : m x ≠ none := h2.elim (known_of_reach hc · (by simp [hi])) (known_of_reach hc · (by simp [hj]))
    rcases h1 with h1 | h1 <;> rcases h2 with h2 | h2
    · exact Or.inl ((hac x i h1 h2 hx).rep hi)
    · exact absurd (h2.trans h1) nji
    · exact absurd (h2.trans h1) nij
    · exact Or.inr ((hac x j h1 h2 hx).rep hj)
  intro v w hvw hwv hv
  rw [sameJob_mrg hij]
  rcases (reach_mrg hij hi hj).mp hvw with a | ⟨a1, a2⟩ <;> rcases (reach_mrg hij hi hj).mp hwv with b | ⟨b1, b2⟩
  · exact Or.inl (hac v w a b (mrg_known.mp hv))
  · -- v ->* w ->* {i,j} ->* v
    exact Or.inr ⟨between v (b1.imp a.trans a.trans) b2, between w b1 (b2.imp (·.trans a) (·.trans a))⟩
  · exact Or.inr ⟨between v a1 (a2.imp (·.trans b) (·.trans b)), between w (a1.imp b.trans b.trans) a2⟩
  · exact Or.inr ⟨between v a1 b2, between w b1 a2⟩

end graph

section inv
variable {g : Graph} {n : Nat} {s : St}

theorem Inv.known_reach (h : Inv g n s) {a b : Nat} (r : QReachV g s.v2j a b) (ha : s.v2j a ≠ none) :
    s.v2j b ≠ none := known_of_reach h.closed r ha

theorem Inv.pkgs_sub_childs (h : Inv g n s) {k : Nat} (hk : s.v2j k = some k) {w : Nat}
    (hw : w ∈ (s.job k).pkgs) : w ∈ (s.job k).childs :=
  (h.childs k hk w).mpr (SameJobV.reach ⟨k, hk, (h.pkgs k hk w).mp hw⟩)

theorem Inv.reach_of_parent (h : Inv g n s) {k p : Nat} (hk : s.v2j k = some k)
    (hp : p ∈ (s.job k).parents) : QReachV g s.v2j p k := by
  obtain ⟨hpk, w, hw, hwd⟩ := (h.parents k hk p).mp hp
  exact Reach.tail (Reach.single (Or.inr ⟨hpk, hwd⟩)) (Or.inl ⟨k, hw, hk⟩)

theorem Inv.mem_pkgs_childs (h : Inv g n s) {j : Nat} (hj : s.v2j j = some j) {x : Nat} :
    x ∈ union (s.job j).pkgs (s.job j).childs ↔ QReachV g s.v2j j x := by
  rw [mem_union, h.childs j hj]
  exact ⟨fun hx => hx.elim (fun hx => (h.childs j hj x).mp (h.pkgs_sub_childs hj hx)) id, Or.inr⟩

/-- the test of the merge loop decides reachability in the quotient graph -/
theorem Inv.reaches_iff (h : Inv g n s) {i j : Nat} (hi : s.v2j i = some i) (hj : s.v2j j = some j) :
    reaches s i j = true ↔ QReachV g s.v2j i j := by
  unfold reaches
  rw [subset_iff]
  constructor
  · intro hs
    exact (h.childs i hi j).mp (hs j ((h.mem_pkgs_childs hj).mpr (Reach.refl _)))
  · intro r x hx
    exact (h.childs i hi x).mpr (r.trans ((h.mem_pkgs_childs hj).mp hx))

theorem Inv.not_comparable (h : Inv g n s) {i j : Nat} (hi : s.v2j i = some i) (hj : s.v2j j = some j)
    (hc : comparable s i j = false) : ¬ QReachV g s.v2j i j ∧ ¬ QReachV g s.v2j j i := by
  unfold comparable at hc
  rw [Bool.or_eq_false_iff, ← Bool.not_eq_true, ← Bool.not_eq_true, h.reaches_iff hi hj, h.reaches_iff hj hi] at hc
  exact hc

end inv

/-- The `else` branch of the merge loop keeps the invariant; `childs_is_reachability` and acyclicity are
fields of it. -/
theorem inv_mergeInto {g : Graph} {n : Nat} {s : St} {i j : Nat} (h : Inv g n s)
    (hi : s.v2j i = some i) (hj : s.v2j j = some j) (hij : i ≠ j) (hc : comparable s i j = false) :
    Inv g n (mergeInto n i j s) ∧ (mergeInto n i j s).v2j = mrg s.v2j i j ∧
      (mergeInto n i j s).names = s.names := by
  obtain ⟨nij, nji⟩ := h.not_comparable hi hj hc
  -- the intermediate states of `mergeInto`
  let ni : AJob := ⟨union (s.job i).pkgs (s.job j).pkgs, union (s.job i).parents (s.job j).parents,
    union (s.job i).childs (s.job j).childs⟩
  let s1 : St := { s with job := upd s.job i ni }
  let X := union ni.pkgs ni.childs
  let s2 := addChilds (n + 1) ni.parents X s1
  -- in `s1` job `i` has taken over the sets of job `j`: the one case distinction on the job
  have mem1 : ∀ (F : AJob → List Nat), (∀ x, x ∈ F ni ↔ x ∈ F (s.job i) ∨ x ∈ F (s.job j)) → ∀ k x,
      (x ∈ F (s1.job k) ↔ x ∈ F (s.job k) ∨ (k = i ∧ x ∈ F (s.job j))) := by
    intro F hF k x
    by_cases hk : k = i
    · subst hk; rw [show s1.job k = ni from upd_same .., hF]; simp
    · rw [show s1.job k = s.job k from upd_other _ _ hk]; simp [hk]
  have hPa := mem1 AJob.parents fun _ => mem_union
  have hC : ∀ k, s.v2j k = some k → ∀ w, w ∈ (s1.job k).childs ↔
      QReachV g s.v2j k w ∨ (k = i ∧ QReachV g s.v2j j w) := fun k hk w => by
    rw [mem1 AJob.childs fun _ => mem_union, h.childs k hk, h.childs j hj]
  have hX : ∀ x, x ∈ X ↔ QReachV g s.v2j i x ∨ QReachV g s.v2j j x := fun x => by
    show x ∈ union (union _ _) (union _ _) ↔ _
    rw [← h.mem_pkgs_childs hi, ← h.mem_pkgs_childs hj]
    simp only [mem_union]
    exact or_or_or_comm
  have up : ∀ {x y}, QReachV g s.v2j x y → QReachV g (mrg s.v2j i j) x y := reach_mrg_of_reach hij
  have fromI : ∀ x, (QReachV g s.v2j i x ∨ QReachV g s.v2j j x) → QReachV g (mrg s.v2j i j) i x :=
    fun x r => (reach_mrg hij hi hj).mpr (Or.inr ⟨Or.inl (Reach.refl _), r⟩)
  have toI : ∀ x, (QReachV g s.v2j x i ∨ QReachV g s.v2j x j) → QReachV g (mrg s.v2j i j) x i :=
    fun x r => (reach_mrg hij hi hj).mpr (Or.inr ⟨r, Or.inl (Reach.refl _)⟩)
  have hfull1i : full s1 X i := fun x hx => (hC i hi x).mpr (((hX x).mp hx).imp_right fun r => ⟨rfl, r⟩)
  have hlc : LC s1 X (fun k => k = i) := by
    intro v k hvk hfk hki p hp k' hk' x hx
    have hkl := h.rep v k hvk
    have hk'l := h.rep p k' hk'
    -- `k'` reaches `k`, and `k` is full: it reaches `i` and `j`, hence all of `X`
    have hk'k : QReachV g s.v2j k' k := (SameJobV.reach ⟨k', hk'l, hk'⟩).trans
      (h.reach_of_parent hkl (((hPa k p).mp hp).resolve_right fun e => hki e.1))
    have hkX : ∀ y ∈ X, QReachV g s.v2j k y := fun y hy =>
      ((hC k hkl y).mp (hfk y hy)).resolve_right fun e => hki e.1
    exact (hC k' hk'l x).mpr <| Or.inl <| hk'k.trans <|
      ((hX x).mp hx).elim (hkX i ((hX i).mpr (Or.inl (Reach.refl _)))).trans
        (hkX j ((hX j).mpr (Or.inr (Reach.refl _)))).trans
  -- the parents that `addChilds` walks through all reach the merged job
  let Q : Nat → Prop := fun p => QReachV g (mrg s.v2j i j) p i
  have hQP : ∀ p ∈ ni.parents, Q p := fun p hp =>
    toI p ((mem_union.mp hp).imp (h.reach_of_parent hi) (h.reach_of_parent hj))
  have hQc : ∀ p k, Q p → s1.v2j p = some k → ∀ q ∈ (s1.job k).parents, Q q := by
    intro p k hq hk q hqp
    have hkl := h.rep p k hk
    rcases (hPa k q).mp hqp with hqp | ⟨_, hqp⟩
    · exact (up ((h.reach_of_parent hkl hqp).trans (SameJobV.reach ⟨k, hkl, hk⟩))).trans hq
    · exact toI q (Or.inr (h.reach_of_parent hj hqp))
  have hAC : ACPost n X (fun k => k = i) Q ni.parents s1 s2 :=
    addChilds_spec n X Q (n + 1) ni.parents s1 _ (fun v k hv => h.lt k k (h.rep v k hv))
      (Nat.lt_succ_of_le (cnt_le_n _ _ _)) hlc hQP hQc
  have hv2 : s2.v2j = s.v2j := hAC.v2j
  have hst : mergeInto n i j s = { s2 with v2j := mrg s.v2j i j } := by
    refine congrArg (fun m => ({ s2 with v2j := m } : St)) (funext fun k => ?_)
    show (if (s.job j).pkgs.contains k then some i else s2.v2j k) = if s.v2j k = some j then some i else s.v2j k
    simp only [List.contains_iff_mem, h.pkgs j hj, hv2]
  have hfull2i : full s2 X i := fun x hx => hAC.mono i x (hfull1i x hx)
  -- everything that reaches i in the new graph is full
  have hG : ∀ v, QReachV g (mrg s.v2j i j) v i → ∀ k0, mrg s.v2j i j v = some k0 → full s2 X k0 := by
    intro v r
    refine Reach.back_closed (G := fun v => ∀ k0, mrg s.v2j i j v = some k0 → full s2 X k0) r ?_ ?_
    · intro k0 hk0
      rw [(mrg_eq_i hij).mpr (Or.inl hi)] at hk0; cases hk0; exact hfull2i
    · intro u d e hd ku hku
      rcases e with ⟨k, hu, hdk⟩ | ⟨huk, hdd⟩
      · rw [hu] at hku; cases hku; exact hd _ hdk
      · -- `u` is a recorded parent of the old job `kd` of `d`
        have huk' : s.v2j u ≠ none := mrg_known.mp huk
        obtain ⟨kd, hkd⟩ := Option.ne_none_iff_exists'.mp (h.closed u huk' d hdd)
        obtain ⟨ku0, hku0⟩ := Option.ne_none_iff_exists'.mp huk'
        have hup : u ∈ (s.job kd).parents := (h.parents kd (h.rep d kd hkd) u).mpr ⟨huk', d, hkd, hdd⟩
        have hfu0 : full s2 X ku0 := by
          by_cases hkdi : kd = i
          · subst hkdi; exact hAC.startFull u (mem_union.mpr (Or.inl hup)) ku0 hku0
          · by_cases hkdj : kd = j
            · subst hkdj; exact hAC.startFull u (mem_union.mpr (Or.inr hup)) ku0 hku0
            · refine hAC.lc d kd ((congrFun hv2 d).trans hkd) (hd kd (mrg_eq_some.mpr (Or.inl ⟨hkd, hkdj⟩))) hkdi
                u ?_ ku0 ((congrFun hv2 u).trans hku0)
              rw [hAC.parents]; exact (hPa kd u).mpr (Or.inl hup)
        rcases mrg_eq_some.mp hku with ⟨hkuu, _⟩ | ⟨rfl, _⟩
        · rw [hku0] at hkuu; cases hkuu; exact hfu0
        · exact hfull2i
  rw [hst]
  refine ⟨?_, rfl, hAC.names⟩
  constructor
  case lt =>
    intro v k hv
    exact (mrg_eq_some.mp hv).elim (fun hv => h.lt v k hv.1) (fun hv => h.lt v j hv.2)
  case rep =>
    intro v k hv
    refine (live_mrg hi hij k).mpr ?_
    rcases mrg_eq_some.mp hv with ⟨hv, hkj⟩ | ⟨rfl, _⟩
    · exact ⟨h.rep v k hv, hkj⟩
    · exact ⟨hi, hij⟩
  case closed => exact fun v hv d hd => mrg_known.mpr (h.closed v (mrg_known.mp hv) d hd)
  case pkgs =>
    intro k hk w
    obtain ⟨hkk, hkj⟩ := (live_mrg hi hij k).mp hk
    show w ∈ (s2.job k).pkgs ↔ mrg s.v2j i j w = some k
    rw [hAC.pkgs, mem1 AJob.pkgs fun _ => mem_union, h.pkgs k hkk, h.pkgs j hj, mrg_eq_some, and_iff_left hkj]
  case parents =>
    intro k hk p
    obtain ⟨hkk, hkj⟩ := (live_mrg hi hij k).mp hk
    show p ∈ (s2.job k).parents ↔ mrg s.v2j i j p ≠ none ∧ ∃ w, mrg s.v2j i j w = some k ∧ w ∈ g.deps p
    rw [hAC.parents, hPa, h.parents k hkk, h.parents j hj]
    simp only [mrg_known, mrg_eq_some, and_iff_left hkj, or_and_right, exists_or, and_assoc, exists_and_left,
      and_or_left, and_left_comm]
  case childs =>
    intro k hk w
    obtain ⟨hkk, hkj⟩ := (live_mrg hi hij k).mp hk
    show w ∈ (s2.job k).childs ↔ QReachV g (mrg s.v2j i j) k w
    constructor
    · intro hw
      rcases hAC.upper k w hw with hw | ⟨hx, p, hq, hp⟩
      · exact ((hC k hkk w).mp hw).elim up fun ⟨e, r⟩ => e ▸ fromI w (Or.inr r)
      · -- `w` entered `childs` on the way up from the merged job: k ->* p ->* i ->* w
        exact (up (SameJobV.reach ⟨k, hkk, hp⟩)).trans (hq.trans (fromI w ((hX w).mp hx)))
    · intro r0
      rcases (reach_mrg hij hi hj).mp r0 with r | ⟨r1, r2⟩
      · exact hAC.mono k w ((hC k hkk w).mpr (Or.inl r))
      · exact hG k (toI k r1) k hk w ((hX w).mpr r2)
  case acyclic => exact acyclic_mrg h.closed h.acyclic hij hi hj nij nji

end Jenkins
