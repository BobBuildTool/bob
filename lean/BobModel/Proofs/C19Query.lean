import BobModel.Proofs.C19Queue
/-
C19: `evaluate` and `query` in terms of the queue.
-/
namespace Retention

/-- the selected artifacts of a row list with their sort keys, in evaluation order -/
def items (e : Expr) (rows : List (Bid × Val)) : List (Bid × Option Str) :=
  (rows.filter fun r => selects e r.2).map fun r => (r.1, keyOf e r.2)

theorem items_cons (e : Expr) (b : Bid) (d : Val) (rest : List (Bid × Val)) :
    items e ((b, d) :: rest) = if selects e d then (b, keyOf e d) :: items e rest else items e rest := by
  simp only [items, List.filter_cons]
  split <;> rfl

theorem evaluate_ok {e : Expr} {st st' : EState} {b : Bid} {d : Val} (h : evaluate e st b d = .ok st') :
    (st' = st ∧ (b ∈ st.retained ∨ selects e d = false)) ∨
    (b ∉ st.retained ∧ selects e d = true ∧
      st' = match e.limit with
        | none => { st with retained := b :: st.retained }
        | some lim => trim lim ⟨b :: st.retained, insertQ e.asc st.queue (b, keyOf e d)⟩) := by
  unfold evaluate at h
  by_cases hc : st.retained.contains b = true
  · rw [if_pos hc] at h
    exact Or.inl ⟨(Except.ok.inj h).symm, Or.inl (List.contains_iff_mem.mp hc)⟩
  · rw [if_neg hc] at h
    have hb : b ∉ st.retained := fun hm => hc (List.contains_iff_mem.mpr hm)
    cases hp : evalBool e.pred d with
    | error x => simp [hp] at h
    | ok v =>
      cases v with
      | false => exact Or.inl ⟨by simpa [hp] using h.symm, Or.inr (by simp [selects, hp])⟩
      | true =>
        refine Or.inr ⟨hb, by simp [selects, hp], ?_⟩
        cases hl : e.limit with
        | none => simpa [hp, hl] using h.symm
        | some lim =>
          cases hk : evalRef e.sortBy d with
          | error x => simp [hp, hl, hk] at h
          | ok k => simpa [hp, hl, hk, keyOf] using h.symm

/-- The strongest statement about the queue: it holds the first `lim` of all selected items in queue order (so
ties are decided by the order of arrival). -/
theorem runExpr_queue {e : Expr} {lim : Nat} (hl : e.limit = some lim) (rows : List (Bid × Val))
    (hnd : (rows.map (·.1)).Nodup) {P : List (Bid × Option Str)} (hP : ∀ x ∈ P, ∀ r ∈ rows, x.1 ≠ r.1) {st st' : EState}
    (hq : st.queue = (ranked e.asc P).take lim) (ha : Agree st) (hr : runExpr e st rows = .ok st') :
    st'.queue = (ranked e.asc (P ++ items e rows)).take lim ∧ Agree st' := by
  induction rows generalizing P st with
  | nil =>
    cases hr
    exact ⟨by rw [items, List.filter_nil, List.map_nil, List.append_nil]; exact hq, ha⟩
  | cons r rest ih =>
    obtain ⟨b, d⟩ := r
    rw [List.map_cons, List.nodup_cons] at hnd
    rw [runExpr] at hr
    cases hev : evaluate e st b d with
    | error x => simp [hev] at hr
    | ok st1 =>
      rw [hev] at hr
      -- the build id is new, so it is in neither the queue nor the retained list
      have hfresh : b ∉ st.retained := fun hm => by
        obtain ⟨x, hx, hxb⟩ := List.mem_map.mp ((ha.mem b).mp hm)
        exact hP x ((perm_ranked e.asc P).mem_iff.mp (List.mem_of_mem_take (hq ▸ hx))) (b, d) List.mem_cons_self hxb
      have hP' : ∀ x ∈ P, ∀ r ∈ rest, x.1 ≠ r.1 := fun x hx r hr => hP x hx r (List.mem_cons_of_mem _ hr)
      rcases evaluate_ok hev with ⟨rfl, hs⟩ | ⟨_, hs, rfl⟩
      · rw [items_cons, if_neg (Bool.not_eq_true _ ▸ hs.resolve_left hfresh)]
        exact ih hnd.2 hP' hq ha hr
      · rw [hl] at hr
        obtain ⟨ha1, hq1⟩ := trim_spec lim (agree_push ha hfresh e.asc (keyOf e d))
        rw [items_cons, if_pos hs, ← List.singleton_append, ← List.append_assoc]
        refine ih hnd.2 (fun x hx r hr => ?_) ?_ ha1 hr
        · rcases List.mem_append.mp hx with hx | hx
          · exact hP' x hx r hr
          · rw [List.mem_singleton.mp hx]
            exact fun hbr => hnd.1 (List.mem_map.mpr ⟨r, hr, hbr.symm⟩)
        · rw [hq1, hq, take_insertQ, ranked_concat]

theorem runExpr_inv {e : Expr} {lim : Nat} (hl : e.limit = some lim) (rows : List (Bid × Val))
    (hnd : (rows.map (·.1)).Nodup) {st : EState} (hr : runExpr e EState.empty rows = .ok st) :
    Inv e.asc lim (items e rows) st := by
  have ha : Agree EState.empty := ⟨.nil, .nil, fun _ => Iff.rfl⟩
  obtain ⟨hq, ha⟩ := runExpr_queue hl rows hnd (P := []) (fun _ h => nomatch h) List.take_nil.symm ha hr
  exact inv_of_ranked hq ha

theorem runExpr_nolimit {e : Expr} (hl : e.limit = none) (rows : List (Bid × Val)) {st st' : EState}
    (hr : runExpr e st rows = .ok st') (b' : Bid) :
    b' ∈ st'.retained ↔ b' ∈ st.retained ∨ ∃ r ∈ rows, r.1 = b' ∧ selects e r.2 = true := by
  induction rows generalizing st with
  | nil =>
    cases hr
    simp
  | cons r rest ih =>
    obtain ⟨b, d⟩ := r
    rw [runExpr] at hr
    cases hev : evaluate e st b d with
    | error x => simp [hev] at hr
    | ok st1 =>
      rw [hev] at hr
      rw [ih hr]
      simp only [List.mem_cons, exists_eq_or_imp]
      rcases evaluate_ok hev with ⟨rfl, hs⟩ | ⟨_, hs, rfl⟩
      · -- nothing new: the head is retained already or not selected
        refine ⟨fun h => h.elim Or.inl fun h => Or.inr (Or.inr h), ?_⟩
        rintro (h | ⟨hb, hsel⟩ | h)
        · exact Or.inl h
        · rcases hs with hs | hs
          · exact Or.inl (hb ▸ hs)
          · rw [hs] at hsel; cases hsel
        · exact Or.inr h
      · rw [hl]
        simp only [List.mem_cons, hs, and_true, or_assoc]
        rw [eq_comm]
        exact or_left_comm

theorem queryLoop_nil (rows : List (Bid × Val)) : queryLoop [] rows = .ok [] := by
  induction rows with
  | nil => rfl
  | cons r rest ih => exact ih

/-- the loop over the rows with the loop over the expressions inside is, where it succeeds, a loop over the rows
for each expression -/
theorem queryLoop_cons {e : Expr} {st : EState} {sts sts' : List (Expr × EState)} (rows : List (Bid × Val))
    (h : queryLoop ((e, st) :: sts) rows = .ok sts') :
    ∃ st' rest', sts' = (e, st') :: rest' ∧ runExpr e st rows = .ok st' ∧ queryLoop sts rows = .ok rest' := by
  induction rows generalizing st sts with
  | nil =>
    cases h
    exact ⟨st, sts, rfl, rfl, rfl⟩
  | cons r rows ih =>
    obtain ⟨b, d⟩ := r
    rw [queryLoop, evalAll] at h
    rw [runExpr, queryLoop]
    cases hev : evaluate e st b d with
    | error x => simp [hev] at h
    | ok st1 =>
      cases hr : evalAll sts b d with
      | error x => simp [hev, hr] at h
      | ok sts1 =>
        rw [hev, hr] at h
        exact ih h

theorem query_mem {es : List Expr} {rows : List (Bid × Val)} {l : List Bid} (h : query es rows = .ok l) (b : Bid) :
    b ∈ l ↔ ∃ e ∈ es, ∃ st, runExpr e EState.empty rows = .ok st ∧ b ∈ st.retained := by
  unfold query at h
  cases hq : queryLoop (es.map fun e => (e, EState.empty)) rows with
  | error x => simp [hq] at h
  | ok sts =>
    rw [hq] at h
    cases h
    induction es generalizing sts with
    | nil =>
      rw [List.map_nil, queryLoop_nil] at hq
      cases hq
      simp
    | cons e es ih =>
      obtain ⟨st', rest', rfl, hr, hrest⟩ := queryLoop_cons rows hq
      rw [List.flatMap_cons, List.mem_append, ih rest' hrest]
      simp only [List.mem_cons, exists_eq_or_imp]
      refine or_congr_left ⟨fun hb => ⟨st', hr, hb⟩, fun ⟨st, hst, hb⟩ => ?_⟩
      cases hr.symm.trans hst
      exact hb

theorem mem_insertUniq {b x : Bid} {l : List Bid} : x ∈ insertUniq b l ↔ x = b ∨ x ∈ l := by
  induction l with
  | nil => simp [insertUniq]
  | cons y rest ih =>
    rw [insertUniq]
    split
    · rename_i h
      exact ⟨Or.inr, fun h' => h'.elim (fun hx => hx ▸ h ▸ List.mem_cons_self) id⟩
    · split
      · exact List.mem_cons
      · rw [List.mem_cons, ih, List.mem_cons]
        exact or_left_comm

theorem mem_findOut {x : Bid} {l : List Bid} : x ∈ findOut l ↔ x ∈ l := by
  induction l with
  | nil => simp [findOut]
  | cons y rest ih =>
    simp only [findOut, List.foldr_cons] at ih ⊢
    rw [mem_insertUniq, ih]
    simp

/-- strictly increasing list of build ids (`sorted(set)`) -/
def StrictSorted (l : List Bid) : Prop := l.Pairwise (fun a b => strLe a b = true ∧ a ≠ b)

theorem strictSorted_insertUniq {b : Bid} {l : List Bid} (h : StrictSorted l) : StrictSorted (insertUniq b l) := by
  induction l with
  | nil => exact List.pairwise_singleton _ _
  | cons y rest ih =>
    obtain ⟨h1, h2⟩ := List.pairwise_cons.mp h
    rw [insertUniq]
    split
    · exact h
    · rename_i hne
      split
      · rename_i hle
        refine List.pairwise_cons.mpr ⟨fun a ha => ?_, h⟩
        rcases List.mem_cons.mp ha with rfl | ha
        · exact ⟨hle, hne⟩
        · -- `b ≤ y < a`
          exact ⟨strLe_trans hle (h1 a ha).1, fun hba => (h1 a ha).2 (strLe_antisymm (h1 a ha).1 (hba ▸ hle))⟩
      · rename_i hle
        refine List.pairwise_cons.mpr ⟨fun a ha => ?_, ih h2⟩
        rcases mem_insertUniq.mp ha with rfl | ha
        · exact ⟨(strLe_total y a).resolve_right hle, fun h' => hne h'.symm⟩
        · exact h1 a ha

theorem strictSorted_findOut (l : List Bid) : StrictSorted (findOut l) :=
  List.foldrRecOn l insertUniq .nil fun _ h _ _ => strictSorted_insertUniq h

end Retention
