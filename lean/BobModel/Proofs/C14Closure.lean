import BobModel.Model.Audit
/-
C14: reference maps, `merge`, closure, and the trail of a build DAG.
-/
namespace Audit

/-- what the add operations maintain: the references of every stored record, reachable or not, are keys.  Stronger than
`Closed` (closure under reachability, what `validate` checks). -/
def ClosedAll (a : Audit) : Prop :=
  (∀ i ∈ a.artifact.getReferences, i ∈ refKeys a.references) ∧
  (∀ p ∈ a.references, ∀ i ∈ p.2.getReferences, i ∈ refKeys a.references)

/-- the hypothesis under which `saveLoad`, which re-keys by `getId`, keeps the keys -/
def KeysOk (H : Bytes → Id) (a : Audit) : Prop :=
  ∀ p ∈ a.references, p.2.getId H = p.1

/-- `Sub s b`: `s` is a (transitive) dependency of `b` -/
inductive Sub : Build → Build → Prop
  | direct {f : List (Str × Data)} {deps : List (DepKind × Build)} {k : DepKind} {s : Build} :
      (k, s) ∈ deps → Sub s (.node f deps)
  | trans {f : List (Str × Data)} {deps : List (DepKind × Build)} {k : DepKind} {d s : Build} :
      (k, d) ∈ deps → Sub s d → Sub s (.node f deps)

/-- the artifact id of step `b`, under which its record is referenced; not Bob's build-id, which is `Artifact.buildId` -/
def bid (H : Bytes → Id) (b : Build) : Id := (Audit.trail H b).artifact.getId H

theorem mem_setAdd {s : List Id} {x y : Id} : y ∈ setAdd s x ↔ y ∈ s ∨ y = x := by
  unfold setAdd
  split
  · rename_i hx
    exact ⟨Or.inl, fun h => h.elim id (· ▸ hx)⟩
  · simp

theorem mem_setUnion {s t : List Id} {y : Id} : y ∈ setUnion s t ↔ y ∈ s ∨ y ∈ t := by
  induction t generalizing s with
  | nil => simp [setUnion]
  | cons x t ih => simp only [setUnion, ih, mem_setAdd, List.mem_cons, or_assoc]

theorem nodup_setAdd {s : List Id} {x : Id} (h : s.Nodup) : (setAdd s x).Nodup := by
  unfold setAdd
  split
  · exact h
  · rename_i hx
    exact List.nodup_append.2
      ⟨h, List.nodup_cons.2 ⟨List.not_mem_nil, .nil⟩, fun a ha b hb e => hx (List.mem_singleton.1 hb ▸ e ▸ ha)⟩

theorem nodup_setUnion {s t : List Id} (h : s.Nodup) : (setUnion s t).Nodup := by
  induction t generalizing s with
  | nil => exact h
  | cons x t ih => exact ih (nodup_setAdd h)

namespace Artifact

theorem mem_getReferences {a : Artifact} {i : Id} :
    i ∈ a.getReferences ↔ i ∈ a.args.getD [] ∨ i ∈ a.sandbox.toList ∨ i ∈ (a.tools.getD []).map Prod.snd := by
  simp only [getReferences, mem_setUnion, List.mem_append, List.not_mem_nil, false_or, or_assoc]

theorem nodup_getReferences (a : Artifact) : a.getReferences.Nodup :=
  nodup_setUnion List.nodup_nil

@[simp] theorem getReferences_dump (H : Bytes → Id) (a : Artifact) : (a.dump H).getReferences = a.getReferences := rfl

@[simp] theorem getReferences_invalidate (a : Artifact) : a.invalidate.getReferences = a.getReferences := rfl

@[simp] theorem getId_dump (H : Bytes → Id) (a : Artifact) : (a.dump H).getId H = a.getId H := rfl

@[simp] theorem dump_dump (H : Bytes → Id) (a : Artifact) : (a.dump H).dump H = a.dump H := rfl

theorem mem_vals_dictSet {d : List (Str × Id)} {k : Str} {v i : Id}
    (h : i ∈ (dictSet d k v).map Prod.snd) : i ∈ d.map Prod.snd ∨ i = v := by
  fun_induction dictSet d k v with
  | case1 => exact Or.inr (List.mem_singleton.1 h)
  | case2 => exact (List.mem_cons.1 h).symm.imp_left (List.mem_cons_of_mem _)
  | case3 _ _ _ _ ih =>
    rcases List.mem_cons.1 h with h | h
    · exact Or.inl (h ▸ List.mem_cons_self)
    · exact (ih h).imp_left (List.mem_cons_of_mem _)

theorem val_mem_dictSet (d : List (Str × Id)) (k : Str) (v : Id) : v ∈ (dictSet d k v).map Prod.snd := by
  fun_induction dictSet d k v with
  | case1 => exact List.mem_cons_self
  | case2 => exact List.mem_cons_self
  | case3 _ _ _ _ ih => exact List.mem_cons_of_mem _ ih

theorem mem_getReferences_addArg {a : Artifact} {x i : Id} :
    i ∈ (a.addArg x).getReferences ↔ i ∈ a.getReferences ∨ i = x := by
  simp only [mem_getReferences, addArg, invalidate, Option.getD_some, List.mem_append, List.mem_singleton]
  exact or_right_comm

theorem mem_getReferences_addTool {a : Artifact} {n : Str} {x i : Id}
    (h : i ∈ (a.addTool n x).getReferences) : i ∈ a.getReferences ∨ i = x := by
  simp only [mem_getReferences, addTool, invalidate, Option.getD_some] at h ⊢
  rcases h with h | h | h
  · exact Or.inl (Or.inl h)
  · exact Or.inl (Or.inr (Or.inl h))
  · exact (mem_vals_dictSet h).imp_left fun h => Or.inr (Or.inr h)

theorem self_mem_getReferences_addTool (a : Artifact) (n : Str) (x : Id) : x ∈ (a.addTool n x).getReferences :=
  mem_getReferences.2 (Or.inr (Or.inr (val_mem_dictSet _ _ _)))

theorem mem_getReferences_setSandbox {a : Artifact} {x i : Id}
    (h : i ∈ (a.setSandbox x).getReferences) : i ∈ a.getReferences ∨ i = x := by
  simp only [mem_getReferences, setSandbox, invalidate, Option.toList_some, List.mem_singleton] at h ⊢
  rcases h with h | h | h
  · exact Or.inl (Or.inl h)
  · exact Or.inr h
  · exact Or.inl (Or.inr (Or.inr h))

theorem self_mem_getReferences_setSandbox (a : Artifact) (x : Id) : x ∈ (a.setSandbox x).getReferences :=
  mem_getReferences.2 (Or.inr (Or.inl List.mem_cons_self))

end Artifact

/-! The keys of a reference map evolve like a set: `refs[k] = v` is `setAdd`, `refs.update(o)` is `setUnion`. -/

theorem mem_refKeys_iff {refs : List (Id × Artifact)} {k : Id} : k ∈ refKeys refs ↔ ∃ r, (k, r) ∈ refs :=
  ⟨fun h => let ⟨p, hp, e⟩ := List.mem_map.1 h; ⟨p.2, e ▸ hp⟩, fun ⟨_, h⟩ => List.mem_map.2 ⟨_, h, rfl⟩⟩

theorem lookupRef_mem {refs : List (Id × Artifact)} {k : Id} {r : Artifact} (h : lookupRef refs k = some r) :
    (k, r) ∈ refs := by
  fun_induction lookupRef refs k with
  | case1 => cases h
  | case2 => cases h; exact List.mem_cons_self
  | case3 _ _ _ _ ih => exact List.mem_cons_of_mem _ (ih h)

theorem lookupRef_eq_none_iff {refs : List (Id × Artifact)} {k : Id} : lookupRef refs k = none ↔ k ∉ refKeys refs := by
  fun_induction lookupRef refs k with
  | case1 => exact ⟨fun _ => List.not_mem_nil, fun _ => rfl⟩
  | case2 => exact ⟨nofun, fun h => absurd List.mem_cons_self h⟩
  | case3 _ _ _ hne ih =>
    exact ih.trans ⟨fun h h' => (List.mem_cons.1 h').elim (fun e => hne e.symm) h, fun h h' => h (List.mem_cons_of_mem _ h')⟩

theorem mem_refKeys_of_lookupRef {refs : List (Id × Artifact)} {k : Id} {r : Artifact} (h : lookupRef refs k = some r) :
    k ∈ refKeys refs :=
  mem_refKeys_iff.2 ⟨r, lookupRef_mem h⟩

theorem refKeys_refsInsert (refs : List (Id × Artifact)) (k : Id) (v : Artifact) :
    refKeys (refsInsert refs k v) = setAdd (refKeys refs) k := by
  fun_induction refsInsert refs k v with
  | case1 => rfl
  | case2 => exact (if_pos List.mem_cons_self).symm
  | case3 k' _ rest hne ih =>
    show k' :: refKeys (refsInsert rest k v) = setAdd (k' :: refKeys rest) k
    rw [ih]
    unfold setAdd
    by_cases hk : k ∈ refKeys rest
    · rw [if_pos hk, if_pos (List.mem_cons_of_mem _ hk)]
    · rw [if_neg hk, if_neg fun h => (List.mem_cons.1 h).elim (fun e => hne e.symm) hk]
      rfl

theorem refKeys_refsUpdate (refs o : List (Id × Artifact)) :
    refKeys (refsUpdate refs o) = setUnion (refKeys refs) (refKeys o) := by
  induction o generalizing refs with
  | nil => rfl
  | cons p rest ih => simp only [refsUpdate, ih, refKeys_refsInsert]; rfl

theorem mem_refsInsert {refs : List (Id × Artifact)} {k : Id} {v : Artifact} {p : Id × Artifact}
    (h : p ∈ refsInsert refs k v) : p ∈ refs ∨ p = (k, v) := by
  fun_induction refsInsert refs k v with
  | case1 => exact Or.inr (List.mem_singleton.1 h)
  | case2 => exact (List.mem_cons.1 h).symm.imp_left (List.mem_cons_of_mem _)
  | case3 _ _ _ _ ih =>
    rcases List.mem_cons.1 h with h | h
    · exact Or.inl (h ▸ List.mem_cons_self)
    · exact (ih h).imp_left (List.mem_cons_of_mem _)

theorem mem_refsUpdate {refs o : List (Id × Artifact)} {p : Id × Artifact}
    (h : p ∈ refsUpdate refs o) : p ∈ refs ∨ p ∈ o := by
  induction o generalizing refs with
  | nil => exact Or.inl h
  | cons q rest ih =>
    obtain ⟨k, v⟩ := q
    rcases ih h with h | h
    · rcases mem_refsInsert h with h | h
      · exact Or.inl h
      · exact Or.inr (h ▸ List.mem_cons_self)
    · exact Or.inr (List.mem_cons_of_mem _ h)

namespace Audit

theorem mem_refKeys_merge {H : Bytes → Id} {self other : Audit} {k : Id} :
    k ∈ refKeys (merge H self other).references ↔
      k ∈ refKeys self.references ∨ k ∈ refKeys other.references ∨ k = other.artifact.getId H := by
  simp only [merge, refKeys_refsInsert, refKeys_refsUpdate, mem_setAdd, mem_setUnion, or_assoc]

theorem mem_merge {H : Bytes → Id} {self other : Audit} {p : Id × Artifact}
    (h : p ∈ (merge H self other).references) :
    p ∈ self.references ∨ p ∈ other.references ∨ p = (other.artifact.getId H, other.artifact.dump H) := by
  rcases mem_refsInsert h with h | h
  · exact (mem_refsUpdate h).imp_right Or.inl
  · exact Or.inr (Or.inr h)

theorem nodup_refKeys_merge {H : Bytes → Id} {self other : Audit} (h : (refKeys self.references).Nodup) :
    (refKeys (merge H self other).references).Nodup := by
  simp only [merge, refKeys_refsInsert, refKeys_refsUpdate]
  exact nodup_setAdd (nodup_setUnion h)

theorem closedAll_create (fields : List (Str × Data)) : ClosedAll (create fields) :=
  ⟨fun _ h => (by cases h), fun _ h => (by cases h)⟩

theorem addDep_references {H : Bytes → Id} (self other : Audit) (k : DepKind) :
    (addDep H self k other).references = (merge H self other).references := by
  cases k <;> rfl

theorem mem_getReferences_addDep {H : Bytes → Id} {self other : Audit} {k : DepKind} {i : Id}
    (h : i ∈ (addDep H self k other).artifact.getReferences) :
    i ∈ self.artifact.getReferences ∨ i = other.artifact.getId H := by
  cases k
  · exact Artifact.mem_getReferences_addArg.1 h
  · exact Artifact.mem_getReferences_addTool h
  · exact Artifact.mem_getReferences_setSandbox h

theorem self_mem_getReferences_addDep {H : Bytes → Id} (self other : Audit) (k : DepKind) :
    other.artifact.getId H ∈ (addDep H self k other).artifact.getReferences := by
  cases k
  · exact Artifact.mem_getReferences_addArg.2 (Or.inr rfl)
  · exact Artifact.self_mem_getReferences_addTool _ _ _
  · exact Artifact.self_mem_getReferences_setSandbox _ _

/-- `addArg`, `addTool`, `setSandbox` (the three cases of `addDep`) of closed trails give a closed trail: the new
reference is the key under which `merge` stores the other trail's record, whose own references are keys of
the other trail -/
theorem closedAll_addDep {H : Bytes → Id} {self other : Audit} (k : DepKind) (hs : ClosedAll self) (ho : ClosedAll other) :
    ClosedAll (addDep H self k other) := by
  constructor
  · intro i hi
    rw [addDep_references, mem_refKeys_merge]
    rcases mem_getReferences_addDep hi with h | h
    · exact Or.inl (hs.1 i h)
    · exact Or.inr (Or.inr h)
  · intro p hp i hi
    rw [addDep_references] at hp
    rw [addDep_references, mem_refKeys_merge]
    rcases mem_merge hp with h | h | h
    · exact Or.inl (hs.2 p h i hi)
    · exact Or.inr (Or.inl (ho.2 p h i hi))
    · subst h
      exact Or.inr (Or.inl (ho.1 i hi))

theorem saveLoad_references {H : Bytes → Id} {a : Audit} (hk : KeysOk H a) :
    (saveLoad H a).references = refsUpdate [] (a.references.map fun p => (p.1, p.2.dump H)) := by
  simp only [saveLoad, load, save, List.map_map]
  congr 1
  exact List.map_congr_left fun p hp => by simp [hk p hp]

theorem mem_refKeys_saveLoad {H : Bytes → Id} {a : Audit} (hk : KeysOk H a) {k : Id} :
    k ∈ refKeys (saveLoad H a).references ↔ k ∈ refKeys a.references := by
  have hd : refKeys (a.references.map fun p => (p.1, p.2.dump H)) = refKeys a.references := by
    simp [refKeys, List.map_map, Function.comp_def]
  rw [saveLoad_references hk, refKeys_refsUpdate, mem_setUnion, hd]
  exact or_iff_right List.not_mem_nil

theorem mem_saveLoad {H : Bytes → Id} {a : Audit} (hk : KeysOk H a) {p : Id × Artifact}
    (h : p ∈ (saveLoad H a).references) : ∃ q ∈ a.references, p = (q.1, q.2.dump H) := by
  rw [saveLoad_references hk] at h
  rcases mem_refsUpdate h with h | h
  · cases h
  · obtain ⟨q, hq, rfl⟩ := List.mem_map.1 h
    exact ⟨q, hq, rfl⟩

@[simp] theorem saveLoad_artifact (H : Bytes → Id) (a : Audit) : (saveLoad H a).artifact = a.artifact.dump H := rfl

theorem closedAll_saveLoad {H : Bytes → Id} {a : Audit} (hk : KeysOk H a) (hc : ClosedAll a) :
    ClosedAll (saveLoad H a) := by
  constructor
  · intro i hi
    exact (mem_refKeys_saveLoad hk).2 (hc.1 i hi)
  · intro p hp i hi
    obtain ⟨q, hq, rfl⟩ := mem_saveLoad hk hp
    exact (mem_refKeys_saveLoad hk).2 (hc.2 q hq i hi)

theorem nodup_refKeys_saveLoad (H : Bytes → Id) (a : Audit) : (refKeys (saveLoad H a).references).Nodup := by
  simp only [saveLoad, load, refKeys_refsUpdate]
  exact nodup_setUnion List.nodup_nil

theorem sub_node_iff {s : Build} {f : List (Str × Data)} {deps : List (DepKind × Build)} :
    Sub s (.node f deps) ↔ ∃ p ∈ deps, s = p.2 ∨ Sub s p.2 := by
  constructor
  · intro h
    cases h with
    | direct hm => exact ⟨_, hm, Or.inl rfl⟩
    | trans hm hs => exact ⟨_, hm, Or.inr hs⟩
  · rintro ⟨⟨k, d⟩, hm, rfl | h⟩
    · exact Sub.direct hm
    · exact Sub.trans hm h

/-- `S`: the steps whose dumped records the reference map holds -/
structure TrailInv (H : Bytes → Id) (a : Audit) (S : Build → Prop) : Prop where
  keys_sound : ∀ k ∈ refKeys a.references, ∃ s, S s ∧ k = bid H s
  keys_complete : ∀ s, S s → bid H s ∈ refKeys a.references
  values : ∀ p ∈ a.references, ∃ s, S s ∧ p = (bid H s, (trail H s).artifact.dump H)
  closed : ClosedAll a
  nodup : (refKeys a.references).Nodup

/-- `keys_sound` is `values` read at the keys -/
theorem TrailInv.of_values {H : Bytes → Id} {a : Audit} {S : Build → Prop}
    (complete : ∀ s, S s → bid H s ∈ refKeys a.references)
    (values : ∀ p ∈ a.references, ∃ s, S s ∧ p = (bid H s, (trail H s).artifact.dump H))
    (closed : ClosedAll a) (nodup : (refKeys a.references).Nodup) : TrailInv H a S where
  keys_sound k hk := by
    obtain ⟨r, hr⟩ := mem_refKeys_iff.1 hk
    obtain ⟨s, hs, h⟩ := values _ hr
    exact ⟨s, hs, (Prod.mk.inj h).1⟩
  keys_complete := complete
  values := values
  closed := closed
  nodup := nodup

theorem TrailInv.keysOk {H : Bytes → Id} {a : Audit} {S : Build → Prop} (h : TrailInv H a S) : KeysOk H a := by
  intro p hp
  obtain ⟨s, _, rfl⟩ := h.values p hp
  rfl

theorem TrailInv.congr {H : Bytes → Id} {a : Audit} {S S' : Build → Prop} (hS : ∀ s, S s ↔ S' s)
    (h : TrailInv H a S) : TrailInv H a S' :=
  (funext fun s => propext (hS s) : S = S') ▸ h

theorem trailInv_step {H : Bytes → Id} {acc : Audit} {S : Build → Prop} {k : DepKind} {b : Build}
    (ha : TrailInv H acc S) (hb : TrailInv H (trail H b) (fun s => Sub s b)) :
    TrailInv H (addDep H acc k (saveLoad H (trail H b))) (fun s => S s ∨ s = b ∨ Sub s b) := by
  have hkb := hb.keysOk
  have hid : (saveLoad H (trail H b)).artifact.getId H = bid H b := rfl
  refine .of_values ?_ ?_ (closedAll_addDep k ha.closed (closedAll_saveLoad hkb hb.closed)) ?_
  · intro s hs
    rw [addDep_references, mem_refKeys_merge, mem_refKeys_saveLoad hkb, hid]
    rcases hs with h | rfl | h
    · exact Or.inl (ha.keys_complete s h)
    · exact Or.inr (Or.inr rfl)
    · exact Or.inr (Or.inl (hb.keys_complete s h))
  · intro p hp
    rw [addDep_references] at hp
    rcases mem_merge hp with h | h | h
    · obtain ⟨s, hs, rfl⟩ := ha.values p h
      exact ⟨s, Or.inl hs, rfl⟩
    · obtain ⟨q, hq, rfl⟩ := mem_saveLoad hkb h
      obtain ⟨s, hs, rfl⟩ := hb.values q hq
      exact ⟨s, Or.inr (Or.inr hs), rfl⟩
    · exact ⟨b, Or.inr (Or.inl rfl), h⟩
  · rw [addDep_references]
    exact nodup_refKeys_merge ha.nodup

theorem trailInv_all (H : Bytes → Id) :
    (∀ b : Build, TrailInv H (trail H b) (fun s => Sub s b)) ∧
    (∀ (acc : Audit) (deps : List (DepKind × Build)), ∀ S : Build → Prop, TrailInv H acc S →
        TrailInv H (trailDeps H acc deps) (fun s => S s ∨ ∃ p ∈ deps, s = p.2 ∨ Sub s p.2)) := by
  apply trail.mutual_induct H
  · intro fields deps ih
    have h0 : TrailInv H (create fields) (fun _ => False) :=
      .of_values (fun _ h => h.elim) (fun _ h => (by cases h)) (closedAll_create fields) List.nodup_nil
    rw [trail]
    exact (ih _ h0).congr fun s => by rw [sub_node_iff, false_or]
  · intro acc S h
    rw [trailDeps]
    exact h.congr fun s => by simp only [List.not_mem_nil, false_and, exists_false, or_false]
  · intro acc k b rest ihb ihrest S h
    rw [trailDeps]
    exact (ihrest _ (trailInv_step (k := k) h ihb)).congr fun s => by
      simp only [List.mem_cons, exists_eq_or_imp, or_assoc]

theorem trailInv (H : Bytes → Id) (b : Build) : TrailInv H (trail H b) (fun s => Sub s b) := (trailInv_all H).1 b

/-- the artifact of a trail refers to direct dependencies only (to all of them for arguments; a later tool of
the same name or a second sandbox replaces the earlier entry, as the dict assignment in the source does) -/
theorem mem_getReferences_trailDeps {H : Bytes → Id} {acc : Audit} {deps : List (DepKind × Build)} {i : Id}
    (hi : i ∈ (trailDeps H acc deps).artifact.getReferences) :
    i ∈ acc.artifact.getReferences ∨ ∃ k d, (k, d) ∈ deps ∧ i = bid H d := by
  induction deps generalizing acc with
  | nil => exact Or.inl hi
  | cons p rest ih =>
    obtain ⟨k, b⟩ := p
    rw [trailDeps] at hi
    rcases ih hi with h | ⟨k', d, hm, h⟩
    · exact (mem_getReferences_addDep h).imp_right fun h => ⟨k, b, List.mem_cons_self, h⟩
    · exact Or.inr ⟨k', d, List.mem_cons_of_mem _ hm, h⟩

end Audit

end Audit
