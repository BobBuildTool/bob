import BobModel.Spec.PathSem
import BobModel.Proofs.C18Worklist
/-
The package tree converted by `__convertPackageToGraph` is a well-formed graph: the two loops of
`convChildren` keep the keys of the ordered dict distinct, and a key is the name of its target.
-/
namespace PathSpec

/-- the keys of the ordered dict are distinct, every entry carries the name of its target and
points to a dependency -/
def ConvInv (p : Pkgs) (i : Node) (d : List Edge) : Prop :=
  (d.map (·.name)).Nodup ∧ (∀ e ∈ d, e.name = p.name e.node) ∧ (∀ e ∈ d, e.node ∈ p.direct i ∨ e.node ∈ p.indirect i)

theorem mem_odInsert {d : List Edge} {e x : Edge} (h : x ∈ odInsert d e) : x = e ∨ x ∈ d := by
  induction d with
  | nil => simpa [odInsert] using h
  | cons a as ih =>
    simp only [odInsert] at h
    split at h
    · exact (List.mem_cons.mp h).imp_right (List.mem_cons_of_mem _)
    · rcases List.mem_cons.mp h with h | h
      · exact Or.inr (h ▸ List.mem_cons_self)
      · exact (ih h).imp_right (List.mem_cons_of_mem _)

/-- on the keys `odInsert` acts like the second loop of `convChildren`: a known key keeps its place,
a new one is appended -/
theorem odInsert_names (d : List Edge) (e : Edge) :
    (odInsert d e).map (·.name) = if hasName d e.name then d.map (·.name) else d.map (·.name) ++ [e.name] := by
  induction d with
  | nil => rfl
  | cons a as ih =>
    by_cases h : a.name = e.name
    · simp [odInsert, hasName, h]
    · have hb : (a.name == e.name) = false := by simpa using h
      simp only [odInsert, hasName, List.any_cons, hb, Bool.false_eq_true, if_false, List.map_cons, ih,
        Bool.false_or]
      split <;> simp [*]

/-- one iteration of either loop of `convChildren` -/
theorem convInv_step {p : Pkgs} {i c : Node} {flag : Bool} {d d' : List Edge}
    (hc : c ∈ p.direct i ∨ c ∈ p.indirect i)
    (hnames : d'.map (·.name) = if hasName d (p.name c) then d.map (·.name) else d.map (·.name) ++ [p.name c])
    (hmem : ∀ x ∈ d', x = ⟨p.name c, c, flag⟩ ∨ x ∈ d) (h : ConvInv p i d) : ConvInv p i d' := by
  obtain ⟨hn, hname, hdep⟩ := h
  refine ⟨?_, fun x hx => ?_, fun x hx => ?_⟩
  · rw [hnames]
    split
    · exact hn
    · rename_i hh
      have hnew : ∀ x ∈ d, x.name ≠ p.name c := by simpa [hasName] using hh
      refine List.nodup_append.mpr ⟨hn, by simp, ?_⟩
      intro a ha b hb
      obtain ⟨x, hx, rfl⟩ := List.mem_map.mp ha
      rw [List.mem_singleton.mp hb]
      exact hnew x hx
  · rcases hmem x hx with rfl | hx
    · rfl
    · exact hname x hx
  · rcases hmem x hx with rfl | hx
    · exact hc
    · exact hdep x hx

theorem convChildren_inv (p : Pkgs) (i : Node) : ConvInv p i (convChildren p i) := by
  unfold convChildren
  refine foldl_inv (fun _ acc => ConvInv p i acc) _ _ (fun _ c acc hc h => ?_)
    (foldl_inv (fun _ acc => ConvInv p i acc) _ _ (fun _ c acc hc h => ?_) ⟨by simp, by simp, by simp⟩)
  · refine convInv_step (flag := false) (Or.inr hc) ?_ ?_ h
    · split <;> simp
    · intro x hx
      split at hx
      · exact Or.inr hx
      · simpa [or_comm] using hx
  · exact convInv_step (Or.inl hc) (odInsert_names acc _) (fun x hx => mem_odInsert hx) h

/-- distinct keys are distinct targets, since the key is the name of the target -/
theorem convChildren_targets_nodup (p : Pkgs) (i : Node) : ((convChildren p i).map (·.node)).Nodup := by
  obtain ⟨hn, hname, _⟩ := convChildren_inv p i
  rw [List.Nodup, List.pairwise_map] at hn ⊢
  exact hn.imp_of_mem fun ha hb hne heq => hne (by rw [hname _ ha, hname _ hb, heq])

/-- the graph written by `__convertPackageToGraph` is well formed -/
theorem toGraph_wf (p : Pkgs) (sval : Nat → Node → Str) (hroot : p.root < p.size)
    (hd : ∀ i c, c ∈ p.direct i → c < p.size) (hi : ∀ i c, c ∈ p.indirect i → c < p.size) :
    (p.toGraph sval).WF := by
  refine ⟨hroot, ?_, fun i => convChildren_targets_nodup p i⟩
  intro i e he
  rcases (convChildren_inv p i).2.2 e he with h | h
  · exact hd i _ h
  · exact hi i _ h

end PathSpec
