import BobModel.Proofs.C10Inv
/-
Runs with I/O errors.  `finalize` and `__init__` keep any predicate that looks only at the committed and the
uncommitted file and survives the commits they perform; a call is at most one `__save`, and a failed `__save` touches
neither file.  Hence one skeleton for an invocation (`runInvF_pre`), used for `Inv` and for `K`.
-/
namespace StateFS

section
variable {σ μ : Type}

/-- an API call emits nothing or is one `__save` -/
theorem callStepF_evs (c : Cfg σ μ) (mem : Mem σ) (sf : Option SaveFault) (cl : Call μ) :
    ((callStepF c mem sf cl).2.1 = [] ∧ savedBy c mem sf cl = false) ∨
    ∃ s, (callStepF c mem sf cl).2.1 = (saveF c s sf).1 ∧ savedBy c mem sf cl = sf.isNone := by
  cases cl with
  | «mut» m =>
    by_cases h2 : (c.step mem.cur m).2 = true
    · by_cases ha : mem.async = 0
      · exact Or.inr ⟨(c.step mem.cur m).1, by simp [callStepF, savedBy, h2, ha]⟩
      · exact Or.inl (by simp [callStepF, savedBy, h2, ha])
    · exact Or.inl (by simp [callStepF, savedBy, h2])
  | setAsync => exact Or.inl ⟨rfl, rfl⟩
  | setSync =>
    by_cases h0 : mem.async - 1 = 0
    · by_cases hd : mem.dirty = true
      · exact Or.inr ⟨mem.cur, by simp [callStepF, savedBy, h0, hd]⟩
      · exact Or.inl (by simp [callStepF, savedBy, h0, hd])
    · exact Or.inl (by by_cases hneg : mem.async - 1 < 0 <;> simp [callStepF, savedBy, h0, hneg])

theorem callStepF_lock (c : Cfg σ μ) (fs : FS) (mem : Mem σ) (sf : Option SaveFault) (cl : Call μ) :
    (applyEvs fs (callStepF c mem sf cl).2.1) .lock = fs .lock := by
  rcases callStepF_evs c mem sf cl with ⟨he, _⟩ | ⟨s, he, _⟩ <;> rw [he]
  · rfl
  · cases sf with
    | none => exact saveEvs_lock c fs s
    | some f => exact saveF_fault_other c fs s f nofun

def unlockOps (locked : Bool) (ff : FinFault) : List Op :=
  if locked then [if ff.unlock then .failed .unlink .lock else .unlink .lock] else []

theorem unlockOps_harmless (locked : Bool) (ff : FinFault) : ∀ o ∈ unlockOps locked ff, o.harmless := by
  intro o ho
  cases locked <;> cases hu : ff.unlock <;> simp [unlockOps, hu] at ho <;> subst ho <;> simp [Op.harmless, Op.writes]

theorem finOpsF_eq (fs : FS) (locked vfy : Bool) (ff : FinFault) :
    finOpsF fs locked vfy ff = commitF fs vfy ff.commit ++ unlockOps locked ff := rfl

theorem applyOps_loadOps (fs : FS) : applyOps fs (loadOps fs) = fs := by
  unfold loadOps
  cases fs .pickle <;> rfl

theorem loadOps_harmless (fs : FS) : ∀ o ∈ loadOps fs, o.harmless := by
  unfold loadOps
  cases fs .pickle <;> simp [Op.harmless, Op.writes]

section
variable {γ : Type} {st : γ → Ev σ → γ} {P : FS → γ → Prop} (hq : Quiet st) (hloc : Local P)
include hloc

theorem finOpsF_pre {fs : FS} {g : γ} (locked vfy : Bool) (ff : FinFault)
    (h : AllOps (P · g) fs (commitF fs vfy ff.commit)) : AllOps (P · g) fs (finOpsF fs locked vfy ff) :=
  AllOps_append h (harmless_ops hloc (unlockOps_harmless locked ff) (AllOps_end h))

include hq

/-- `finalize`, given what its commit does -/
theorem finCore_pre (fs : FS) (g : γ) (mem : Mem σ) (locked vfy endOk : Bool) (ff : FinFault)
    (h1 : AllOps (P · g) fs (commitF fs vfy ff.commit))
    (h2 : endOk = true → P (applyOps fs (commitF fs vfy ff.commit)) (st g .endInv)) :
    Pre st P fs g (finalizeCore fs mem locked vfy endOk ff) := by
  unfold finalizeCore
  by_cases hok : finalizeOk mem = true
  · rw [if_pos hok]
    have h3 := finOpsF_pre hloc locked vfy ff h1
    refine Pre_ops_append hq h3 ?_
    have h4 : P _ g := AllOps_end h3
    by_cases he : endOk = true
    · rw [if_pos he]
      have hu := unlockOps_harmless locked ff
      rw [finOpsF_eq, applyOps_append] at h4 ⊢
      exact ⟨h4, hloc _ _ _ (harmless_pickle hu) (harmless_new hu) (h2 he)⟩
    · rw [if_neg he]; exact h4
  · rw [if_neg hok]; exact AllOps_head h1

/-- `__init__` with the fault choice `ift`, for a predicate that survives the commits `ift` lets `__init__` perform
and holds only of directories whose state file loads: the predicate holds throughout; a successful start has
loaded the state file as the directory is left; a start on an unlocked directory succeeds unless opening the
state file fails. -/
theorem initF_pre (c : Cfg σ μ) (vu : Bool) (fs : FS) (g : γ) (ift : InitFault)
    (hld : ∀ fs, P fs g → ∃ x, loadDisk c fs = .ok x)
    (hmark : ∀ fs x, P fs g → P fs (st g (.loaded x)))
    (hcom : ∀ fs, P fs g → AllOps (P · g) fs (commitF fs true ift.commit))
    (hfin : ift.load = true → ∀ fs, P fs g → AllOps (P · g) fs (commitF fs (finVerify vu false) ift.fin.commit))
    (h : P fs g) :
    Pre st P fs g (initF c vu fs ift).evs ∧
    (∀ x, (initF c vu fs ift).res = .ok x →
      loadDisk c (applyEvs fs (initF c vu fs ift).evs) = .ok x ∧ P (applyEvs fs (initF c vu fs ift).evs) g ∧
      (initF c vu fs ift).evs.foldl st g = st g (.loaded x)) ∧
    (fs .lock = none → ift.load = false → ∃ x, (initF c vu fs ift).res = .ok x) := by
  unfold initF
  by_cases hlk : (!ift.lock && (fs .lock).isSome) = true
  · rw [if_pos hlk]
    refine ⟨Pre_ops hq (l := [.createExcl .lock]) (harmless_ops hloc (by simp [Op.harmless, Op.writes]) h),
      (fun x hx => nomatch hx), fun hl => ?_⟩
    rw [hl] at hlk; simp at hlk
  rw [if_neg hlk]
  simp only []
  generalize hlo : (if ift.lock = true then Op.failed FailKind.lockOpen Name.lock else Op.createExcl Name.lock) = lockOp
  have hlh : ∀ o ∈ [lockOp], o.harmless := by rw [← hlo]; cases ift.lock <;> simp [Op.harmless, Op.writes]
  have a1 := harmless_ops hloc hlh h
  have h1 : P (applyOp fs lockOp) g := AllOps_end a1
  generalize hfs1 : applyOp fs lockOp = fs1 at h1 ⊢
  have b1 := hcom fs1 h1
  have h2 : P (applyOps fs1 (commitF fs1 true ift.commit)) g := AllOps_end b1
  generalize commitF fs1 true ift.commit = cops at b1 h2 ⊢
  generalize hfs2 : applyOps fs1 cops = fs2 at h2 ⊢
  have hhead : ∀ rest, AllOps (P · g) fs2 rest → AllOps (P · g) fs (lockOp :: (cops ++ rest)) := by
    intro rest hr
    refine ⟨h, a1.2.1, ?_⟩
    rw [hfs1]
    exact AllOps_append b1 (by rw [hfs2]; exact hr)
  obtain ⟨x, hx⟩ := hld fs2 h2
  by_cases hio : (ift.load && (fs2 .pickle).isSome) = true
  · rw [if_pos hio]
    have hl : ift.load = true := by cases hl : ift.load <;> simp [hl] at hio ⊢
    refine ⟨?_, (fun y hy => nomatch hy), fun _ hf => by rw [hl] at hf; cases hf⟩
    rw [List.append_assoc]
    exact Pre_ops hq (l := lockOp :: _) (hhead _ ⟨h2, nofun, h2, nofun, finOpsF_pre hloc _ _ _ (hfin hl fs2 h2)⟩)
  · rw [if_neg hio, hx]
    have hA := hhead _ (harmless_ops hloc (loadOps_harmless fs2) h2)
    have hfsA : applyOps fs (lockOp :: (cops ++ loadOps fs2)) = fs2 := by
      show applyOps (applyOp fs lockOp) _ = fs2
      rw [hfs1, applyOps_append, hfs2, applyOps_loadOps]
    refine ⟨Pre_ops_append hq (l := lockOp :: _) hA (by rw [hfsA]; exact ⟨h2, hmark fs2 x h2⟩), fun y hy => ?_,
      fun _ _ => ⟨x, rfl⟩⟩
    cases hy
    have e1 : applyEvs fs ((lockOp :: (cops ++ loadOps fs2)).map Ev.op ++ [Ev.loaded x]) = fs2 := by
      rw [applyEvs_append, applyEvs_mapop, hfsA]; rfl
    have e2 : ((lockOp :: (cops ++ loadOps fs2)).map Ev.op ++ [Ev.loaded x]).foldl st g = st g (.loaded x) := by
      rw [List.foldl_append, hq.foldl hA]; rfl
    exact ⟨e1.symm ▸ hx, e1.symm ▸ h2, e2⟩

end

section
variable {γ : Type} {st : γ → Ev σ → γ} {P : FS → γ → Prop} {Q : Bool → FS → γ → Prop} (c : Cfg σ μ) (vu : Bool)
  (hq : Quiet st) (hP : Local P) (hQl : ∀ t, Local (Q t)) (hQ : ∀ t fs g, Q t fs g → P fs g)
  (hsave : ∀ t fs g s, Q t fs g →
    Pre st P fs g (saveEvs c s) ∧ Q true (applyEvs fs (saveEvs c s)) ((saveEvs c s).foldl st g))
include hq hP hQl hQ hsave

/-- `__save` with any fault: a failed one touches `.dirty` only -/
theorem saveF_step (t : Bool) (fs : FS) (g : γ) (s : σ) (sf : Option SaveFault) (h : Q t fs g) :
    Pre st P fs g (saveF c s sf).1 ∧
      Q (t || sf.isNone) (applyEvs fs (saveF c s sf).1) ((saveF c s sf).1.foldl st g) := by
  cases sf with
  | none =>
    rw [Option.isNone_none, Bool.or_true]
    exact hsave t fs g s h
  | some f =>
    obtain ⟨l, hl, hw⟩ := saveF_fault_ops c s f
    have hh : ∀ o ∈ l, o.harmless := fun o ho => by
      constructor <;> intro hm <;> cases hw o ho _ hm
    have ha := harmless_ops hP hh (hQ _ _ _ h)
    rw [hl, applyEvs_mapop, hq.foldl ha, Option.isNone_some, Bool.or_false]
    exact ⟨Pre_ops hq ha, hQl t _ _ _ (harmless_pickle hh) (harmless_new hh) h⟩

theorem callsF_pre (fs : FS) (g : γ) (mem : Mem σ) (t : Bool) (cls : List (Call μ × Option SaveFault))
    (h : Q t fs g) :
    Pre st P fs g (runCallsF c mem t cls).2.1 ∧
      Q (runCallsF c mem t cls).2.2 (applyEvs fs (runCallsF c mem t cls).2.1)
        ((runCallsF c mem t cls).2.1.foldl st g) := by
  induction cls generalizing fs g mem t with
  | nil => exact ⟨hQ _ _ _ h, h⟩
  | cons cl rest ih =>
    simp only [runCallsF]
    have hcl : Pre st P fs g (callStepF c mem cl.2 cl.1).2.1 ∧
        Q (t || savedBy c mem cl.2 cl.1) (applyEvs fs (callStepF c mem cl.2 cl.1).2.1)
          ((callStepF c mem cl.2 cl.1).2.1.foldl st g) := by
      rcases callStepF_evs c mem cl.2 cl.1 with ⟨he, hs⟩ | ⟨s, he, hs⟩
      · rw [he, hs, Bool.or_false]
        exact ⟨hQ _ _ _ h, h⟩
      · rw [he, hs]
        exact saveF_step c hq hP hQl hQ hsave t fs g s cl.2 h
    obtain ⟨h3, h4⟩ := ih _ _ (callStepF c mem cl.2 cl.1).1 _ hcl.2
    refine ⟨Pre_append hcl.1 h3, ?_⟩
    rw [applyEvs_append, List.foldl_append]
    exact h4

/-- `P` holds at every prefix of an invocation with the fault choice `iv` provided: the start keeps `P` and, when
it succeeds, establishes `Q false`; a performed `__save` keeps `P` and establishes `Q true`; from `Q t`, the
`finalize` of an instance whose flag is `t` keeps `P`. -/
theorem runInvF_pre (iv : InvF μ)
    (hinit : ∀ fs g, P fs g → Pre st P fs g (initF c vu fs iv.init).evs ∧
      ∀ x, (initF c vu fs iv.init).res = .ok x →
        Q false (applyEvs fs (initF c vu fs iv.init).evs) ((initF c vu fs iv.init).evs.foldl st g))
    (hfin : ∀ t fs g mem locked, Q t fs g → Pre st P fs g (finalizeF vu fs mem locked t iv.fin))
    (fs : FS) (g : γ) (h : P fs g) : Pre st P fs g (runInvF c vu fs iv) := by
  obtain ⟨h1, h2⟩ := hinit fs g h
  unfold runInvF
  cases hr : (initF c vu fs iv.init).res with
  | error e => simpa [hr] using h1
  | ok x =>
    simp only [hr]
    obtain ⟨h3, h4⟩ := callsF_pre c hq hP hQl hQ hsave _ _ (memOf c x) false iv.calls (h2 x hr)
    refine Pre_append (Pre_append h1 h3) ?_
    rw [applyEvs_append, List.foldl_append]
    exact hfin _ _ _ _ _ h4

end

/-- untrusted instance (no save of its own yet): the committed file is what it loaded, the uncommitted file is a
left-over that is detectably broken or a snapshot saved since the last error-free finalize -/
def JU (c : Cfg σ μ) (fs : FS) (G : Ghost σ) : Prop :=
  ∃ x, PickleOK c (fs .pickle) x ∧ Adm G x ∧ G.last = x ∧ NewOK c (fs .new) G

/-- the between-calls invariant of an instance whose `__uncommittedTrusted` flag is `t` -/
def JT (c : Cfg σ μ) (t : Bool) (fs : FS) (G : Ghost σ) : Prop := if t then J c fs G else JU c fs G

theorem JU.inv {c : Cfg σ μ} {fs : FS} {G : Ghost σ} (h : JU c fs G) : Inv c fs G := by
  obtain ⟨x, hp, ha, _, hn⟩ := h
  exact ⟨x, hp, ha, hn⟩

theorem JT.inv {c : Cfg σ μ} {fs : FS} {G : Ghost σ} {t : Bool} (h : JT c t fs G) : Inv c fs G := by
  cases t
  · exact JU.inv h
  · exact JPN.inv h

theorem JT_local (c : Cfg σ μ) (t : Bool) : Local (JT c t) := fun _ _ _ hp hn h => by
  unfold JT J JU at h ⊢
  rw [hp, hn]; exact h

theorem saveF_pre (c : Cfg σ μ) (fs : FS) (G : Ghost σ) (s : σ) (sf : Option SaveFault) (h : J c fs G) :
    AllPre (Inv c) fs G (saveF c s sf).1 ∧ J c (applyEvs fs (saveF c s sf).1) (G.run (saveF c s sf).1) :=
  (saveF_step (Q := JT c) c Ghost.quiet (Inv_local c) (JT_local c) (fun _ _ _ => JT.inv)
    (fun _ fs G s h => save_pre_inv c fs G s h.inv) true fs G s sf h).imp_left AllPre_iff.mpr

/-- `finalize` of the code that verifies what it did not write: a trusted instance commits its own save unverified,
an untrusted one verifies whatever is left over -/
theorem finalizeF_inv (c : Cfg σ μ) (fs : FS) (G : Ghost σ) (mem : Mem σ) (locked t : Bool) (ff : FinFault)
    (h : JT c t fs G) : Pre Ghost.step (Inv c) fs G (finalizeF true fs mem locked t ff) := by
  unfold finalizeF
  cases t with
  | true =>
    have hj : J c fs G := h
    refine finCore_pre Ghost.quiet (Inv_local c) fs G mem locked false _ ff
      (commitF_pre c false ff.commit (JPN.inv hj) fun f hn _ => hj.uncommitted hn) fun hc => ?_
    unfold Inv
    obtain ⟨x, hp, _, ⟨hn, hl⟩ | ⟨s, b, hn, hl, _⟩⟩ := hj
    · rw [commitF_absent false ff.commit hn, hn]
      exact InvPN_endInv (hl ▸ hp)
    · have hpos : ff.commit.pos = none := by simpa [hn] using hc
      rw [commitF_nofault fs false hpos (Or.inl rfl), commitOps_new, commitOps_pickle, hn]
      refine InvPN_endInv (p := some ⟨encS c s, true⟩) ?_
      rw [hl]
      exact PickleOK_enc c s
  | false =>
    have hu : JU c fs G := h
    refine finCore_pre Ghost.quiet (Inv_local c) fs G mem locked true _ ff (commitF_true_pre c ff.commit hu.inv)
      fun hc => ?_
    have hn : fs .new = none := by simpa using hc
    obtain ⟨x, hp, _, hl, _⟩ := hu
    unfold Inv
    rw [commitF_absent true ff.commit hn, hn]
    exact InvPN_endInv (hl ▸ hp)

/-- `__init__` with arbitrary faults: the invariant holds throughout and a successful start leaves an untrusted
instance that loaded an admissible state.  (The code that does not verify in `finalize` is covered as long as
opening the state file does not fail.) -/
theorem initF_inv (c : Cfg σ μ) (hc : c.Lawful) (vu : Bool) (fs : FS) (G : Ghost σ) (ift : InitFault)
    (hv : ift.load = true → vu = true) (h : Inv c fs G) :
    Pre Ghost.step (Inv c) fs G (initF c vu fs ift).evs ∧
    (∀ x, (initF c vu fs ift).res = .ok x →
      JU c (applyEvs fs (initF c vu fs ift).evs) (G.run (initF c vu fs ift).evs) ∧ Adm G x) ∧
    (fs .lock = none → ift.load = false → ∃ x, (initF c vu fs ift).res = .ok x) := by
  obtain ⟨h1, h2, h3⟩ := initF_pre Ghost.quiet (Inv_local c) c vu fs G ift
    (fun _ ⟨x, hp, _⟩ => ⟨x, loadDisk_ok c hc _ x hp⟩) (fun _ _ h => h) (fun _ => commitF_true_pre c _)
    (fun hl _ => hv hl ▸ commitF_true_pre c _) h
  refine ⟨h1, fun x hx => ?_, h3⟩
  obtain ⟨hl, ⟨x', hp, ha, hn⟩, hg⟩ := h2 x hx
  cases (loadDisk_ok c hc _ x' hp).symm.trans hl
  have hg : G.run (initF c vu fs ift).evs = G.step (.loaded x) := hg
  rw [hg]
  exact ⟨⟨x, hp, ha, rfl, hn⟩, ha⟩

/-- the instance holds the lock iff its exclusive create was performed and succeeded -/
theorem initF_locked (c : Cfg σ μ) (vu : Bool) (fs : FS) (ift : InitFault) :
    (initF c vu fs ift).locked = (!ift.lock && !(fs .lock).isSome) := by
  unfold initF
  by_cases hlk : (!ift.lock && (fs .lock).isSome) = true
  · rw [if_pos hlk]
    cases hl : ift.lock <;> simp_all
  · rw [if_neg hlk]
    simp only [apply_ite InitResF.locked]
    have e : (!ift.lock && !(fs .lock).isSome) = !ift.lock := by
      cases hl : ift.lock <;> simp_all
    rw [e]
    cases loadDisk c _ <;> simp

theorem runInvF_inv (c : Cfg σ μ) (hc : c.Lawful) (fs : FS) (G : Ghost σ) (iv : InvF μ)
    (h : Inv c fs G) : Pre Ghost.step (Inv c) fs G (runInvF c true fs iv) :=
  runInvF_pre (Q := JT c) c true Ghost.quiet (Inv_local c) (JT_local c) (fun _ _ _ => JT.inv)
    (fun _ fs G s h => save_pre_inv c fs G s h.inv) iv
    (fun fs G h => (initF_inv c hc true fs G iv.init (fun _ => rfl) h).imp id fun h2 x hx => (h2.1 x hx).1)
    (fun t fs G mem locked => finalizeF_inv c fs G mem locked t iv.fin) fs G h

theorem runSessionsF_crashed (c : Cfg σ μ) (hc : c.Lawful) (ss : List (SessionF μ)) (iv : InvF μ) (cut : Nat)
    (g : Garble) (fs : FS) (G : Ghost σ) (hd : ∀ s ∈ ss ++ [SessionF.crashed iv cut g], s.Det) (h : Inv c fs G) :
    let r := runSessionsF c true fs G (ss ++ [.crashed iv cut g])
    Inv c r.1 r.2 ∧ r.1 .lock = none := by
  have step : ∀ (fs : FS) (G : Ghost σ) (s : SessionF μ), Inv c fs G → s.Det →
      Inv c (runSessionF c true fs s).2 (G.run (runSessionF c true fs s).1) := by
    intro fs G s h hs
    cases s with
    | complete iv => exact Pre_end (runInvF_inv c hc fs G iv h)
    | crashed iv cut g => exact Inv_recover c _ _ g hs (Pre_take (runInvF_inv c hc fs G iv h) cut)
  induction ss generalizing fs G with
  | nil => exact ⟨step fs G _ h (hd _ List.mem_cons_self), recover_lock (applyEvs fs ((runInvF c true fs iv).take cut)) g⟩
  | cons s rest ih =>
    exact ih _ _ (fun t ht => hd t (List.mem_cons_of_mem _ ht)) (step fs G s h (hd s List.mem_cons_self))

/-- a kill loses nothing along every invocation none of whose `__commit`s meets an I/O error, whatever else fails -/
theorem runInvF_K (c : Cfg σ μ) (hc : c.Lawful) (vu : Bool) (iv : InvF μ) (h1 : iv.init.commit.pos = none)
    (h2 : iv.init.fin.commit.pos = none) (h3 : iv.fin.commit.pos = none) (fs : FS) (D : Dur σ) (h : K c fs D) :
    Pre Dur.step (K c) fs D (runInvF c vu fs iv) :=
  runInvF_pre (Q := fun _ => K c) c vu Dur.quiet (K_local c) (fun _ => K_local c) (fun _ _ _ h => h)
    (fun _ fs D s h => ⟨saveK c fs D s h, Pre_end (saveK c fs D s h)⟩) iv
    (fun fs D h =>
      have ⟨a, b, _⟩ := initF_pre Dur.quiet (K_local c) c vu fs D iv.init
        (fun _ ⟨x, hp, _⟩ => ⟨x, loadDisk_ok c hc _ x hp⟩) (fun _ _ h => h) (fun _ => commitK c true h1)
        (fun _ _ => commitK c _ h2) h
      ⟨a, fun x hx => (b x hx).2.2 ▸ (b x hx).2.1⟩)
    (fun _ fs D mem locked h => finCore_pre Dur.quiet (K_local c) fs D mem locked _ _ iv.fin (commitK c _ h3 h)
      fun _ => AllOps_end (commitK c _ h3 h)) fs D h

end
end StateFS
