import BobModel.Model.Digest
import BobModel.Proofs.CommonPrefix
/-
The primitive encoders are prefix free: from `enc a ++ r = enc a' ++ r'` follow `a = a'` and `r = r'`.
-/
namespace Digest

theorem le4_length (n : Nat) : (le4 n).length = 4 := Bytes.le_length _ _

theorem le4_inj {n m : Nat} (hn : n < 2 ^ 32) (hm : m < 2 ^ 32) (h : le4 n = le4 m) : n = m :=
  Bytes.le_inj 4 hn hm h

/-- `(k := 4)` is where the regenerated width `Consts.C02.intWidth` is tied to 4; the bound `2 ^ 32` is `256 ^ 4` by
evaluation. -/
theorem le4_split {n m : Nat} {r s : Bytes} (hn : n < 2 ^ 32) (hm : m < 2 ^ 32)
    (h : le4 n ++ r = le4 m ++ s) : n = m ∧ r = s :=
  Bytes.le_append_inj (k := 4) hn hm h

theorem utf8_nil : utf8 [] = [] := rfl

theorem utf8_cons (c : Char) (s : Str) : utf8 (c :: s) = String.utf8EncodeChar c ++ utf8 s := by
  simp [utf8]

theorem utf8_append (s t : Str) : utf8 (s ++ t) = utf8 s ++ utf8 t := by
  simp [utf8]

theorem encStr_pf {s s' : Str} {r r' : Bytes} (hs : lenOk s) (hs' : lenOk s')
    (h : encStr s ++ r = encStr s' ++ r') : s = s' ∧ r = r' := by
  unfold encStr at h
  rw [List.append_assoc, List.append_assoc] at h
  have ⟨hl, h2⟩ := le4_split hs hs' h
  exact Bytes.utf8_pf hl h2

theorem encStrs_pf {l l' : List Str} {r r' : Bytes} (hlen : l.length = l'.length)
    (hl : ∀ s ∈ l, lenOk s) (hl' : ∀ s ∈ l', lenOk s)
    (h : l.flatMap encStr ++ r = l'.flatMap encStr ++ r') : l = l' ∧ r = r' :=
  Bytes.flatMap_pf encStr_pf hlen hl hl' h

theorem encKV_pf {kv kv' : Str × Str} {r r' : Bytes}
    (h1 : lenOk kv.1 ∧ lenOk kv.2) (h2 : lenOk kv'.1 ∧ lenOk kv'.2)
    (h : encKV kv ++ r = encKV kv' ++ r') : kv = kv' ∧ r = r' := by
  simp only [encKV, List.append_assoc] at h
  have ⟨hk, h3⟩ := le4_split h1.1 h2.1 h
  have ⟨hv, h4⟩ := le4_split h1.2 h2.2 h3
  have ⟨hkv, hr⟩ := Bytes.utf8_pf (by rw [List.length_append, List.length_append, hk, hv]) h4
  have ⟨e1, e2⟩ := List.append_inj hkv hk
  exact ⟨Prod.ext e1 e2, hr⟩

end Digest
