import BobModel.Proofs.C01Cook
/-
Histories of invocations in one workspace.  `C05.runAny` lets every invocation end as it may - done,
failed, killed - and `C01.runHistory` demands that each succeeds; the second is the all-successful case
of the first (`runHistory_append`), so what holds after every `runAny` history is proved once, by one
induction over the history (`Truthful.runAny`), and read off for both.
-/
namespace C01
open Builder

/-- a history of invocations (flags, project state, fuel) in one workspace, each of which must
succeed -/
def runHistory (E : Env) : List (Cfg × Step × Nat) → St → Option St
  | [], st => some st
  | (cfg, T, fuel) :: rest, st =>
    match invoke E cfg T fuel st with
    | .ok _ r => runHistory E rest r.st
    | .abort _ => none

end C01

namespace C05
open Builder

/-- any sequence of invocations in one workspace - successful, failing, or killed at any cut -
each with its own project state, flags, cut point and junk content -/
def runAny (E : Env) : List (Cfg × Step × Nat × Content) → St → St
  | [], st => st
  | (cfg, T, fuel, junk) :: rest, st => runAny E rest (invoke { E with junk := junk } cfg T fuel st).st

end C05

namespace Builder
open C01 C05

variable {E : Env} {dev : Bool} {Γ : Path → List (Dir × Digest)}

theorem Truthful.invoke {cfg : Cfg} {T : Step} {st : St} (h : Truthful E dev Γ st) (hy : Hyp E dev cfg)
    (hwf : AllWF Γ T) (fuel : Nat) : Truthful E dev Γ (invoke E cfg T fuel st).st :=
  wp_res (P := fun st _ => Truthful E dev Γ st)
    (cook_truthful hy hwf cfg.checkoutOnly { st := st, mem := Mem.init, fuel := fuel, log := [] } h)

theorem Truthful.runAny {st : St} (h : Truthful E dev Γ st)
    (hfix : Consts.C01.buildPruneInvalidatesFirst = true ∧ Consts.C01.packagePruneInvalidatesFirst = true)
    (hinj : Function.Injective E.H) (hist : List (Cfg × Step × Nat × Content))
    (hall : ∀ x ∈ hist, (x.1.cleanBuild = false → dev = true) ∧ AllWF Γ x.2.1) :
    Truthful E dev Γ (runAny E hist st) := by
  induction hist generalizing st with
  | nil => exact h
  | cons x rest ih =>
    obtain ⟨cfg, T, fuel, junk⟩ := x
    have hx := hall _ (List.mem_cons_self ..)
    -- the junk a killed script leaves is not looked at by `Truthful`
    exact ih ((truthful_junk junk).mp (((truthful_junk junk).mpr h).invoke ⟨hfix.1, hfix.2, hinj, hx.1⟩ hx.2 fuel))
      fun y hy => hall y (List.mem_cons_of_mem _ hy)

/-- a history in which every invocation succeeds is a `runAny` history -/
theorem runHistory_append {l1 l2 : List (Cfg × Step × Nat)} {st st' : St}
    (h : runHistory E (l1 ++ l2) st = some st') :
    runHistory E l2 (runAny E (l1.map fun x => (x.1, x.2.1, x.2.2, E.junk)) st) = some st' := by
  induction l1 generalizing st with
  | nil => exact h
  | cons x rest ih =>
    obtain ⟨cfg, T, fuel⟩ := x
    simp only [List.cons_append, runHistory] at h
    cases hr : Builder.invoke E cfg T fuel st with
    | ok a r => rw [hr] at h; simpa only [List.map_cons, runAny, hr, Res.st] using ih h
    | abort r => rw [hr] at h; cases h

end Builder
