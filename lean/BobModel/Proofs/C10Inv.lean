import BobModel.Proofs.C10Adler
/-
The two predicates the runs of `_BobState` keep, and the facts every run is assembled from.  `Inv` (along `Ghost`) is
crash-stable: what a crash leaves loads as an admissible snapshot.  `K` (along `Dur`)
says that a mere kill loses nothing.  For both: which operations leave the committed and the uncommitted file alone
(`Local`, `Op.harmless`), and what `__commit` (`commitF_allOps`, for every fault choice) and `__save` do to them.
-/
namespace StateFS

@[simp] theorem FS.set_same (fs : FS) (n : Name) (v : Option File) : (fs.set n v) n = v := by
  simp [FS.set]

theorem FS.set_ne (fs : FS) {n m : Name} (v : Option File) (h : m ≠ n) : (fs.set n v) m = fs m := by
  simp [FS.set, h]

def Op.writes : Op → List Name
  | .createExcl n | .openTrunc n | .append n _ | .fsync n | .unlink n => [n]
  | .rename a b => [a, b]
  | .stat _ | .read _ | .failed _ _ => []

theorem applyOp_other (fs : FS) {o : Op} {m : Name} (h : m ∉ o.writes) : applyOp fs o m = fs m := by
  cases o with
  | createExcl n | append n _ | fsync n =>
    have hm : m ≠ n := by simpa [Op.writes] using h
    cases hf : fs n <;> simp only [applyOp, hf, FS.set_ne _ _ hm]
  | openTrunc n | unlink n =>
    have hm : m ≠ n := by simpa [Op.writes] using h
    exact FS.set_ne _ _ hm
  | rename a b =>
    have hm : m ≠ a ∧ m ≠ b := by simpa [Op.writes] using h
    by_cases hab : a = b
    · simp only [applyOp, hab, if_true]
    · cases hf : fs a <;> simp only [applyOp, hab, hf, if_false, FS.set_ne _ _ hm.1, FS.set_ne _ _ hm.2]
  | stat _ | read _ | failed _ _ => rfl

theorem applyOps_append (fs : FS) (a b : List Op) : applyOps fs (a ++ b) = applyOps (applyOps fs a) b :=
  List.foldl_append

theorem applyOps_other (fs : FS) {l : List Op} {m : Name} (h : ∀ o ∈ l, m ∉ o.writes) :
    applyOps fs l m = fs m := by
  induction l generalizing fs with
  | nil => rfl
  | cons o l ih =>
    exact (ih (applyOp fs o) fun o' ho' => h o' (List.mem_cons_of_mem _ ho')).trans
      (applyOp_other fs (h o List.mem_cons_self))

theorem applyEvs_append {σ : Type} (fs : FS) (a b : List (Ev σ)) :
    applyEvs fs (a ++ b) = applyEvs (applyEvs fs a) b :=
  List.foldl_append

theorem applyEvs_mapop {σ : Type} (fs : FS) (l : List Op) : applyEvs fs (l.map (Ev.op (σ := σ))) = applyOps fs l :=
  List.foldl_map

theorem applyEvs_ops {σ : Type} (fs : FS) (es : List (Ev σ)) : applyEvs fs es = applyOps fs (evOps es) := by
  induction es generalizing fs with
  | nil => rfl
  | cons e es ih => cases e <;> exact ih _

theorem Ghost.run_append {σ : Type} (G : Ghost σ) (a b : List (Ev σ)) : G.run (a ++ b) = (G.run a).run b :=
  List.foldl_append

theorem Ghost.run_mapop {σ : Type} (G : Ghost σ) (l : List Op) : G.run (l.map (Ev.op (σ := σ))) = G := by
  induction l with
  | nil => rfl
  | cons o l ih => exact ih

section
variable {σ μ : Type}

theorem upgrade_cur (c : Cfg σ μ) (s : σ) : upgrade c Consts.C10.curVersion s = s := by
  simp [upgrade, Consts.C10.upgrades, Consts.C10.curVersion]

theorem loadBytes_enc (c : Cfg σ μ) (hc : c.Lawful) (s : σ) : loadBytes c (encS c s) = .ok s := by
  unfold loadBytes encS enc
  rw [hc s]
  simp only [upgrade_cur]
  simp [Consts.C10.minVersion, Consts.C10.curVersion]

def PickleOK (c : Cfg σ μ) (p : Option File) (x : Option σ) : Prop :=
  (p = none ∧ x = none) ∨ ∃ s, p = some ⟨encS c s, true⟩ ∧ x = some s

def NewOK (c : Cfg σ μ) (nw : Option File) (G : Ghost σ) : Prop :=
  nw = none ∨ ∃ f, nw = some f ∧ (verify f.data = false ∨ ∃ s, s ∈ G.since ∧ f.data = encS c s)

/-- the crash-stable invariant: the committed file is durable and holds an admissible snapshot,
the uncommitted file is either detectably broken or holds a snapshot saved since the last completed invocation.
`PN`: as a predicate of the two directory entries `fs .pickle` and `fs .new`, the form `commitF_local` takes;
`Inv`, `J`, `K` are `InvPN`, `JPN`, `KPN` at a directory. -/
def InvPN (c : Cfg σ μ) (p nw : Option File) (G : Ghost σ) : Prop :=
  ∃ x, PickleOK c p x ∧ Adm G x ∧ NewOK c nw G

def Inv (c : Cfg σ μ) (fs : FS) (G : Ghost σ) : Prop := InvPN c (fs .pickle) (fs .new) G

/-- the invariant between two API calls of a live instance: additionally the newest durable view
(`G.last`) is what a crash without garbling would recover -/
def JPN (c : Cfg σ μ) (p nw : Option File) (G : Ghost σ) : Prop :=
  ∃ x, PickleOK c p x ∧ Adm G x ∧
    ((nw = none ∧ G.last = x) ∨ ∃ s b, nw = some ⟨encS c s, b⟩ ∧ G.last = some s ∧ s ∈ G.since)

def J (c : Cfg σ μ) (fs : FS) (G : Ghost σ) : Prop := JPN c (fs .pickle) (fs .new) G

theorem PickleOK_enc (c : Cfg σ μ) (s : σ) : PickleOK c (some ⟨encS c s, true⟩) (some s) := Or.inr ⟨s, rfl, rfl⟩

theorem loadDisk_ok (c : Cfg σ μ) (hc : c.Lawful) (fs : FS) (x : Option σ) (hp : PickleOK c (fs .pickle) x) :
    loadDisk c fs = .ok x := by
  unfold loadDisk
  rcases hp with ⟨h1, h2⟩ | ⟨s, h1, h2⟩
  · simp [h1, h2]
  · simp [h1, h2, loadBytes_enc c hc]

theorem JPN.inv {c : Cfg σ μ} {p nw : Option File} {G : Ghost σ} (h : JPN c p nw G) : InvPN c p nw G := by
  obtain ⟨x, hp, ha, hn⟩ := h
  refine ⟨x, hp, ha, ?_⟩
  rcases hn with ⟨h1, _⟩ | ⟨s, b, h1, _, h3⟩
  · exact Or.inl h1
  · exact Or.inr ⟨_, h1, Or.inr ⟨s, h3, rfl⟩⟩

theorem Inv_init (c : Cfg σ μ) : Inv c FS.empty Ghost.init :=
  ⟨none, Or.inl ⟨rfl, rfl⟩, Or.inl rfl, Or.inl rfl⟩

theorem Adm_saved {G : Ghost σ} {x : Option σ} (s : σ) (h : Adm G x) : Adm (G.step (.saved s)) x := by
  rcases h with h | ⟨t, ht, hx⟩
  · exact Or.inl h
  · exact Or.inr ⟨t, List.mem_cons_of_mem _ ht, hx⟩

theorem InvPN_saved {c : Cfg σ μ} {p nw : Option File} {G : Ghost σ} (s : σ) (h : InvPN c p nw G) :
    InvPN c p nw (G.step (.saved s)) := by
  obtain ⟨x, hp, ha, hn⟩ := h
  refine ⟨x, hp, Adm_saved s ha, ?_⟩
  rcases hn with h1 | ⟨f, hf, h2 | ⟨t, ht, hd⟩⟩
  · exact Or.inl h1
  · exact Or.inr ⟨f, hf, Or.inl h2⟩
  · exact Or.inr ⟨f, hf, Or.inr ⟨t, List.mem_cons_of_mem _ ht, hd⟩⟩

theorem InvPN_loaded {c : Cfg σ μ} {p nw : Option File} {G : Ghost σ} (y : Option σ) (h : InvPN c p nw G) :
    InvPN c p nw (G.step (.loaded y)) := h

theorem InvPN_resync {c : Cfg σ μ} {p : Option File} {f : File} {G : Ghost σ} (b : Bool)
    (h : InvPN c p (some f) G) : InvPN c p (some ⟨f.data, b⟩) G := by
  obtain ⟨x, hp, ha, hn⟩ := h
  refine ⟨x, hp, ha, Or.inr ⟨_, rfl, ?_⟩⟩
  rcases hn with h1 | ⟨f', hf, hv⟩
  · cases h1
  · cases hf; exact hv

theorem InvPN_discard {c : Cfg σ μ} {p nw : Option File} {G : Ghost σ} (h : InvPN c p nw G) : InvPN c p none G := by
  obtain ⟨x, hp, ha, _⟩ := h
  exact ⟨x, hp, ha, Or.inl rfl⟩

theorem InvPN_commit (c : Cfg σ μ) {G : Ghost σ} {s : σ} (hs : s ∈ G.since) :
    InvPN c (some ⟨encS c s, true⟩) none G :=
  ⟨some s, PickleOK_enc c s, Or.inr ⟨s, hs, rfl⟩, Or.inl rfl⟩

theorem InvPN_endInv {c : Cfg σ μ} {p : Option File} {G : Ghost σ} (h : PickleOK c p G.last) :
    InvPN c p none (G.step .endInv) :=
  ⟨G.last, h, Or.inl rfl, Or.inl rfl⟩

/-- `Pre Ghost.step` (`AllPre_iff`) -/
def AllPre (P : FS → Ghost σ → Prop) : FS → Ghost σ → List (Ev σ) → Prop
  | fs, G, [] => P fs G
  | fs, G, e :: es => P fs G ∧ AllPre P (applyEv fs e) (G.step e) es

section
variable {γ : Type} {st : γ → Ev σ → γ} {P : FS → γ → Prop} {fs : FS} {g : γ}

/-- "at every prefix of the run" (`Pre_take`), of the directory and of a ghost state that follows the events by `st`
(`Ghost.step`, `Dur.step`) -/
def Pre (st : γ → Ev σ → γ) (P : FS → γ → Prop) : FS → γ → List (Ev σ) → Prop
  | fs, g, [] => P fs g
  | fs, g, e :: es => P fs g ∧ Pre st P (applyEv fs e) (st g e) es

theorem AllPre_iff {P : FS → Ghost σ → Prop} {fs : FS} {G : Ghost σ} {es : List (Ev σ)} :
    AllPre P fs G es ↔ Pre Ghost.step P fs G es := by
  induction es generalizing fs G with
  | nil => exact Iff.rfl
  | cons e es ih => exact and_congr_right fun _ => ih

theorem Pre_end {es : List (Ev σ)} (h : Pre st P fs g es) : P (applyEvs fs es) (es.foldl st g) := by
  induction es generalizing fs g with
  | nil => exact h
  | cons e es ih => exact ih h.2

theorem Pre_append {a b : List (Ev σ)} (ha : Pre st P fs g a) (hb : Pre st P (applyEvs fs a) (a.foldl st g) b) :
    Pre st P fs g (a ++ b) := by
  induction a generalizing fs g with
  | nil => exact hb
  | cons e es ih => exact ⟨ha.1, ih ha.2 hb⟩

theorem Pre_take {es : List (Ev σ)} (h : Pre st P fs g es) (n : Nat) :
    P (applyEvs fs (es.take n)) ((es.take n).foldl st g) := by
  induction es generalizing fs g n with
  | nil => rw [List.take_nil]; exact h
  | cons e es ih =>
    cases n with
    | zero => exact h.1
    | succ n => exact ih h.2 n

/-- `P` holds before every operation of the list and after the last one, and none of them is the rename that
completes a `__save`: that one is the only operation a ghost state follows (`Quiet`) -/
def AllOps (P : FS → Prop) : FS → List Op → Prop
  | fs, [] => P fs
  | fs, o :: l => P fs ∧ o ≠ .rename .dirty .new ∧ AllOps P (applyOp fs o) l

theorem AllOps_head {P : FS → Prop} {l : List Op} (h : AllOps P fs l) : P fs := by
  cases l with
  | nil => exact h
  | cons o l => exact h.1

theorem AllOps_end {P : FS → Prop} {l : List Op} (h : AllOps P fs l) : P (applyOps fs l) := by
  induction l generalizing fs with
  | nil => exact h
  | cons o l ih => exact ih h.2.2

theorem AllOps_append {P : FS → Prop} {a b : List Op} (ha : AllOps P fs a)
    (hb : AllOps P (applyOps fs a) b) : AllOps P fs (a ++ b) := by
  induction a generalizing fs with
  | nil => exact hb
  | cons o l ih => exact ⟨ha.1, ha.2.1, ih ha.2.2 hb⟩

def Quiet (st : γ → Ev σ → γ) : Prop := ∀ g o, o ≠ Op.rename .dirty .new → st g (.op o) = g

theorem Ghost.quiet : Quiet (Ghost.step (σ := σ)) := fun _ _ _ => rfl

theorem Quiet.foldl (hq : Quiet st) {P : FS → Prop} {l : List Op} (h : AllOps P fs l) :
    (l.map Ev.op).foldl st g = g := by
  induction l generalizing fs with
  | nil => rfl
  | cons o l ih => exact (congrArg (List.foldl st · _) (hq g o h.2.1)).trans (ih h.2.2)

theorem Pre_ops (hq : Quiet st) {l : List Op} (h : AllOps (P · g) fs l) : Pre st P fs g (l.map .op) := by
  induction l generalizing fs with
  | nil => exact h
  | cons o l ih => exact ⟨h.1, (hq g o h.2.1).symm ▸ ih h.2.2⟩

theorem Pre_ops_append (hq : Quiet st) {l : List Op} {es : List (Ev σ)} (hl : AllOps (P · g) fs l)
    (he : Pre st P (applyOps fs l) g es) : Pre st P fs g (l.map .op ++ es) := by
  refine Pre_append (Pre_ops hq hl) ?_
  rwa [applyEvs_mapop, hq.foldl hl]

def Op.harmless (o : Op) : Prop := Name.pickle ∉ o.writes ∧ Name.new ∉ o.writes

def Local (P : FS → γ → Prop) : Prop :=
  ∀ (fs fs' : FS) (g : γ), fs' .pickle = fs .pickle → fs' .new = fs .new → P fs g → P fs' g

theorem harmless_ops (hloc : Local P) {l : List Op} (hall : ∀ o ∈ l, o.harmless) (h : P fs g) :
    AllOps (P · g) fs l := by
  induction l generalizing fs with
  | nil => exact h
  | cons o l ih =>
    have ho := hall o List.mem_cons_self
    exact ⟨h, fun e => ho.2 (e ▸ .tail _ (.head _)), ih (fun o' ho' => hall o' (List.mem_cons_of_mem _ ho'))
      (hloc _ _ _ (applyOp_other fs ho.1) (applyOp_other fs ho.2) h)⟩

theorem harmless_pickle {l : List Op} (hall : ∀ o ∈ l, o.harmless) : (applyOps fs l) .pickle = fs .pickle :=
  applyOps_other fs fun o ho => (hall o ho).1

theorem harmless_new {l : List Op} (hall : ∀ o ∈ l, o.harmless) : (applyOps fs l) .new = fs .new :=
  applyOps_other fs fun o ho => (hall o ho).2

end

theorem Inv_local (c : Cfg σ μ) : Local (Inv c) := fun _ _ _ hp hn h => by
  unfold Inv at h ⊢
  rw [hp, hn]; exact h

theorem commitF_nofault (fs : FS) (v : Bool) {cf : CF} (hp : cf.pos = none) (hu : v = false ∨ cf.unlinkFails = false) :
    commitF fs v cf = commitOps fs v := by
  obtain ⟨pos, uf⟩ := cf
  cases hp
  cases hn : fs .new with
  | none => simp [commitF, commitOps, hn]
  | some f => rcases hu with rfl | rfl <;> simp [commitF, commitOps, discardOps, hn]

theorem commitF_none (fs : FS) (v : Bool) : commitF fs v CF.none = commitOps fs v :=
  commitF_nofault fs v rfl (Or.inr rfl)

theorem commitOps_absent {fs : FS} (v : Bool) (hn : fs .new = none) : commitOps fs v = [.stat .new] := by
  simp [commitOps, hn]

theorem commitOps_new (fs : FS) (v : Bool) : (applyOps fs (commitOps fs v)) .new = none := by
  cases hn : fs .new with
  | none => simp [commitOps, hn, applyOps, applyOp]
  | some f => cases v <;> cases hv : verify f.data <;> simp [commitOps, hn, hv, applyOps, applyOp, FS.set]

theorem commitOps_pickle (fs : FS) (v : Bool) :
    (applyOps fs (commitOps fs v)) .pickle = match fs .new with
      | some f => if !v || verify f.data then some ⟨f.data, true⟩ else fs .pickle
      | none => fs .pickle := by
  cases hn : fs .new with
  | none => simp [commitOps, hn, applyOps, applyOp]
  | some f => cases v <;> cases hv : verify f.data <;> simp [commitOps, hn, hv, applyOps, applyOp, FS.set]

/-- a property of the directory that survives the three things `__commit` can do to it (sync the uncommitted
file, remove it, rename it over the committed file once it is synced and accepted) holds at every step of
`__commit`, whatever fails.  The uncommitted file is removed only after an error or when it is rejected. -/
theorem commitF_allOps {P : FS → Prop} (fs : FS) (v : Bool) (cf : CF) (h : P fs)
    (hsync : P (applyOp fs (.fsync .new)))
    (hdisc : (cf.pos ≠ none ∨ ∃ f, fs .new = some f ∧ (!v || verify f.data) = false) →
      ∀ fs', P fs' → P (applyOp fs' (.unlink .new)))
    (hren : ∀ f, fs .new = some f → (!v || verify f.data) = true →
      P (applyOp (applyOp fs (.fsync .new)) (.rename .new .pickle))) :
    AllOps P fs (commitF fs v cf) := by
  have hd : ∀ {k : CFault}, (cf.pos = some k ∨ ∃ f, fs .new = some f ∧ (!v || verify f.data) = false) →
      ∀ fs', P fs' → AllOps P fs' (discardOps cf) := by
    intro k hg fs' h'
    unfold discardOps
    by_cases hu : cf.unlinkFails = true
    · rw [if_pos hu]; exact ⟨h', nofun, h'⟩
    · rw [if_neg hu]
      exact ⟨h', nofun, hdisc (hg.imp_left fun e hn => nomatch e.symm.trans hn) fs' h'⟩
  have hread : ∀ l, AllOps P fs l → AllOps P fs ((if v = true then [Op.read .new] else []) ++ l) := by
    intro l hl
    cases v
    · exact hl
    · exact ⟨h, nofun, hl⟩
  unfold commitF
  by_cases h1 : cf.pos = some CFault.stat
  · rw [if_pos h1]; exact ⟨h, nofun, h⟩
  rw [if_neg h1]
  cases hn : fs .new with
  | none => exact ⟨h, nofun, h⟩
  | some f =>
    refine ⟨h, nofun, ?_⟩
    show AllOps P fs (ite _ _ _)
    by_cases h2 : cf.pos = some CFault.open
    · rw [if_pos h2]; exact ⟨h, nofun, hd (.inl h2) fs h⟩
    rw [if_neg h2]
    by_cases h3 : (v && decide (cf.pos = some CFault.read)) = true
    · rw [if_pos h3]
      exact ⟨h, nofun, hd (.inl (of_decide_eq_true (Bool.and_eq_true_iff.mp h3).2)) fs h⟩
    rw [if_neg h3]
    refine hread _ ?_
    by_cases h4 : cf.pos = some CFault.fsync
    · rw [if_pos h4]; exact ⟨h, nofun, hd (.inl h4) fs h⟩
    rw [if_neg h4]
    refine ⟨h, nofun, ?_⟩
    by_cases hv : (!v || verify f.data) = true
    · rw [if_pos hv]
      by_cases h5 : cf.pos = some CFault.rename
      · rw [if_pos h5]; exact ⟨hsync, nofun, hd (.inl h5) _ hsync⟩
      · rw [if_neg h5]; exact ⟨hsync, nofun, hren f hn hv⟩
    · rw [if_neg hv]
      exact hd (k := .stat) (.inr ⟨f, hn, Bool.eq_false_iff.mpr hv⟩) _ hsync

theorem commitF_absent {fs : FS} (v : Bool) (cf : CF) (hn : fs .new = none) : applyOps fs (commitF fs v cf) = fs := by
  unfold commitF
  rw [hn]
  by_cases h1 : cf.pos = some CFault.stat
  · rw [if_pos h1]; rfl
  · rw [if_neg h1]; rfl

theorem commitF_lock (fs : FS) (v : Bool) (cf : CF) : (applyOps fs (commitF fs v cf)) .lock = fs .lock := by
  refine AllOps_end (P := fun fs' => fs' .lock = fs .lock) (commitF_allOps fs v cf rfl ?_ ?_ ?_)
  · exact applyOp_other fs (by simp [Op.writes])
  · exact fun _ fs' h' => (applyOp_other fs' (by simp [Op.writes])).trans h'
  · exact fun _ _ _ => (applyOp_other _ (by simp [Op.writes])).trans (applyOp_other fs (by simp [Op.writes]))

/-- `commitF_allOps` for a predicate given by what it says of the committed and the uncommitted file -/
theorem commitF_local {γ : Type} {R : Option File → Option File → γ → Prop} (fs : FS) (v : Bool) (cf : CF) (g : γ)
    (h : R (fs .pickle) (fs .new) g)
    (hsync : ∀ f, fs .new = some f → R (fs .pickle) (some ⟨f.data, true⟩) g)
    (hdisc : (cf.pos ≠ none ∨ ∃ f, fs .new = some f ∧ (!v || verify f.data) = false) →
      ∀ p nw, R p nw g → R p none g)
    (hren : ∀ f, fs .new = some f → (!v || verify f.data) = true → R (some ⟨f.data, true⟩) none g) :
    AllOps (fun fs' => R (fs' .pickle) (fs' .new) g) fs (commitF fs v cf) := by
  have hpn : Name.pickle ≠ Name.new := nofun
  refine commitF_allOps fs v cf h ?_ (fun hg fs' h' => ?_) fun f hn hv => ?_
  · cases hn : fs .new with
    | none => simpa only [applyOp, hn] using h
    | some f =>
      simp only [applyOp, hn, FS.set_same, FS.set_ne _ _ hpn]
      exact hsync f hn
  · simp only [applyOp, FS.set_same, FS.set_ne _ _ hpn]
    exact hdisc hg _ _ h'
  · simp only [applyOp, hn, FS.set_same, FS.set_ne _ _ hpn, reduceCtorEq, if_false]
    exact hren f hn hv

theorem Inv.accepted {c : Cfg σ μ} {fs : FS} {G : Ghost σ} (h : Inv c fs G) {f : File} (hn : fs .new = some f)
    (hv : verify f.data = true) : ∃ s, s ∈ G.since ∧ f.data = encS c s := by
  obtain ⟨_, _, _, h1 | ⟨f', hf, hb | hs⟩⟩ := h
  · rw [hn] at h1; cases h1
  · rw [hn] at hf; cases hf; rw [hv] at hb; cases hb
  · rw [hn] at hf; cases hf; exact hs

theorem J.uncommitted {c : Cfg σ μ} {fs : FS} {G : Ghost σ} (h : J c fs G) {f : File} (hn : fs .new = some f) :
    ∃ s, s ∈ G.since ∧ f.data = encS c s := by
  obtain ⟨_, _, _, ⟨h1, _⟩ | ⟨s, b, h1, _, hs⟩⟩ := h
  · rw [hn] at h1; cases h1
  · rw [hn] at h1; cases h1; exact ⟨s, hs, rfl⟩

/-- `__commit` keeps the invariant at every step, whatever fails, provided an uncommitted file that gets committed
(it verifies, or verification is off) holds a snapshot saved since the last completed invocation -/
theorem commitF_pre (c : Cfg σ μ) {fs : FS} {G : Ghost σ} (v : Bool) (cf : CF) (h : Inv c fs G)
    (hgood : ∀ f, fs .new = some f → (!v || verify f.data) = true → ∃ s, s ∈ G.since ∧ f.data = encS c s) :
    AllOps (Inv c · G) fs (commitF fs v cf) := by
  refine commitF_local (R := InvPN c) fs v cf G h (fun f hn => InvPN_resync true (hn ▸ h))
    (fun _ _ _ => InvPN_discard) fun f hn hv => ?_
  obtain ⟨s, hs, hd⟩ := hgood f hn hv
  rw [hd]
  exact InvPN_commit c hs

/-- with verification on, the invariant alone suffices -/
theorem commitF_true_pre (c : Cfg σ μ) {fs : FS} {G : Ghost σ} (cf : CF) (h : Inv c fs G) :
    AllOps (Inv c · G) fs (commitF fs true cf) :=
  commitF_pre c true cf h fun _ hn hv => h.accepted hn (by simpa using hv)

theorem save_pre_inv (c : Cfg σ μ) (fs : FS) (G : Ghost σ) (s : σ) (h : Inv c fs G) :
    Pre Ghost.step (Inv c) fs G (saveEvs c s) ∧ J c (applyEvs fs (saveEvs c s)) (G.run (saveEvs c s)) := by
  have hi : InvPN c (fs .pickle) (fs .new) G := h
  obtain ⟨x, hp, ha, _⟩ := h
  simp only [saveEvs, Pre, applyEv, applyOp, applyEvs, Ghost.run, List.foldl, Ghost.step, Inv, J]
  simp [FS.set]
  have hj : JPN c (fs .pickle) (some ⟨encS c s, false⟩) (G.step (.saved s)) :=
    ⟨x, hp, Adm_saved s ha, Or.inr ⟨s, false, rfl, rfl, List.mem_cons_self⟩⟩
  exact ⟨⟨hi, InvPN_saved s hi, JPN.inv hj⟩, hj⟩

theorem saveEvs_lock (c : Cfg σ μ) (fs : FS) (s : σ) : (applyEvs fs (saveEvs c s)) .lock = fs .lock := by
  show applyOps fs [.openTrunc .dirty, .append .dirty (encS c s), .rename .dirty .new] .lock = fs .lock
  exact applyOps_other fs (by simp [Op.writes])

theorem saveF_fault_ops (c : Cfg σ μ) (s : σ) (sf : SaveFault) :
    ∃ l : List Op, (saveF c s (some sf)).1 = l.map .op ∧ ∀ o ∈ l, ∀ n ∈ o.writes, n = .dirty := by
  cases sf with
  | «open» => exact ⟨[.failed .open .dirty], rfl, by simp [Op.writes]⟩
  | write k =>
    exact ⟨[.openTrunc .dirty, .append .dirty ((encS c s).take k), .failed .write .dirty], rfl, by simp [Op.writes]⟩
  | rename =>
    exact ⟨[.openTrunc .dirty, .append .dirty (encS c s), .failed .rename .dirty], rfl, by simp [Op.writes]⟩

theorem saveF_fault_other (c : Cfg σ μ) (fs : FS) (s : σ) (sf : SaveFault) {n : Name} (hn : n ≠ .dirty) :
    (applyEvs fs (saveF c s (some sf)).1) n = fs n := by
  obtain ⟨l, hl, hw⟩ := saveF_fault_ops c s sf
  rw [hl, applyEvs_mapop]
  exact applyOps_other fs fun o ho hm => hn (hw o ho n hm)

theorem Inv_recover (c : Cfg σ μ) (fs : FS) (G : Ghost σ) (g : Garble) (hg : Detectable g)
    (h : Inv c fs G) : Inv c (recover fs g) G := by
  obtain ⟨x, hp, ha, hn⟩ := h
  refine ⟨x, ?_, ha, ?_⟩
  · rcases hp with ⟨h1, h2⟩ | ⟨s, h1, h2⟩
    · exact Or.inl ⟨by simp [recover, crash, FS.set, h1], h2⟩
    · exact Or.inr ⟨s, by simp [recover, crash, FS.set, h1], h2⟩
  · rcases hn with h1 | ⟨f, h1, hv⟩
    · exact Or.inl (by simp [recover, crash, FS.set, h1])
    · obtain ⟨d, sy⟩ := f
      cases sy with
      | true => exact Or.inr ⟨⟨d, true⟩, by simp [recover, crash, FS.set, h1], hv⟩
      | false =>
        refine Or.inr ⟨⟨g .new d, false⟩, by simp [recover, crash, FS.set, h1], ?_⟩
        rcases hg d with he | he
        · simpa [he] using hv
        · exact Or.inl he

theorem recover_lock (fs : FS) (g : Garble) : (recover fs g) .lock = none := by
  simp [recover]

def KPN (c : Cfg σ μ) (p nw : Option File) (d : Option σ) : Prop :=
  ∃ x, PickleOK c p x ∧ ((nw = none ∧ x = d) ∨ ∃ s b, nw = some ⟨encS c s, b⟩ ∧ d = some s)

/-- what the next start would load is the newest snapshot whose `__save` got as far as its rename -/
def K (c : Cfg σ μ) (fs : FS) (D : Dur σ) : Prop := KPN c (fs .pickle) (fs .new) D.durable

theorem Dur.quiet : Quiet (Dur.step (σ := σ)) := by
  intro D o ho
  cases o with
  -- `Dur.step` matches on `rename .dirty .new` alone: that pair is excluded by `ho`, every other pair is `rfl`
  | rename a b => cases a <;> cases b <;> first | rfl | exact absurd rfl ho
  | _ => rfl

theorem K_local (c : Cfg σ μ) : Local (K c) := fun _ _ _ hp hn h => by
  unfold K at h ⊢
  rw [hp, hn]; exact h

theorem K.uncommitted {c : Cfg σ μ} {fs : FS} {D : Dur σ} (h : K c fs D) {f : File} (hn : fs .new = some f) :
    ∃ s, f.data = encS c s ∧ D.durable = some s := by
  obtain ⟨_, _, ⟨h1, _⟩ | ⟨s, b, h1, hd⟩⟩ := h
  · rw [hn] at h1; cases h1
  · rw [hn] at h1; cases h1; exact ⟨s, rfl, hd⟩

/-- an undisturbed `__commit` never removes what `__save` wrote: it verifies -/
theorem commitK (c : Cfg σ μ) {fs : FS} {D : Dur σ} (v : Bool) {cf : CF} (hpos : cf.pos = none) (h : K c fs D) :
    AllOps (K c · D) fs (commitF fs v cf) := by
  refine commitF_local (R := fun p nw (D : Dur σ) => KPN c p nw D.durable) fs v cf D h
    (fun f hn => ?_) ?_ fun f hn _ => ?_
  · obtain ⟨s, hd, hs⟩ := h.uncommitted hn
    obtain ⟨x, hp, _⟩ := h
    exact ⟨x, hp, Or.inr ⟨s, true, by rw [hd], hs⟩⟩
  · rintro (hg | ⟨f, hn, hv⟩)
    · exact absurd hpos hg
    · obtain ⟨s, hd, _⟩ := h.uncommitted hn
      rw [hd, encS, verify_enc, Bool.or_true] at hv
      cases hv
  · obtain ⟨s, hd, hs⟩ := h.uncommitted hn
    rw [hd]
    exact ⟨some s, PickleOK_enc c s, Or.inl ⟨rfl, hs.symm⟩⟩

theorem saveK (c : Cfg σ μ) (fs : FS) (D : Dur σ) (s : σ) (h : K c fs D) :
    Pre Dur.step (K c) fs D (saveEvs c s) := by
  have hk : KPN c (fs .pickle) (fs .new) D.durable := h
  obtain ⟨x, hp, _⟩ := h
  simp only [saveEvs, Pre, applyEv, applyOp, Dur.step, K]
  simp [FS.set]
  exact ⟨hk, x, hp, Or.inr ⟨s, false, rfl, rfl⟩⟩

end
end StateFS
