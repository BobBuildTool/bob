import BobModel.Model.ShellEnv
/-
The bash word evaluator `lexWord`, one character at a time, and on the output of `shlexQuote`.
-/
namespace ShellEnv

theorem lexWord_unq_nil (E : Env) (stop : Char → Bool) (acc : Str) : lexWord E stop .unq acc [] = .ok (acc, []) := by
  rw [lexWord]

theorem lexWord_unq_stop (E : Env) {stop : Char → Bool} {c : Char} (acc r : Str)
    (h : c ≠ nulChar ∧ c ≠ '\'' ∧ c ≠ '"' ∧ stop c = true) :
    lexWord E stop .unq acc (c :: r) = .ok (acc, c :: r) := by
  rw [lexWord, if_neg h.1, if_neg h.2.1, if_neg h.2.2.1, if_pos h.2.2.2]

theorem lexWord_unq_quote (E : Env) (stop : Char → Bool) (acc r : Str) :
    lexWord E stop .unq acc ('\'' :: r) = lexWord E stop .sq acc r := by
  rw [lexWord, if_neg (by decide), if_pos rfl]

theorem lexWord_unq_dollar (E : Env) {stop : Char → Bool} (acc r : Str) (h : stop '$' = false) :
    lexWord E stop .unq acc ('$' :: r) = expandTail E stop acc r := by
  rw [lexWord, if_neg (by decide), if_neg (by decide), if_neg (by decide), h, if_neg (by decide),
    if_neg (by decide), if_pos rfl]

theorem lexWord_sq_quote (E : Env) (stop : Char → Bool) (acc r : Str) :
    lexWord E stop .sq acc ('\'' :: r) = lexWord E stop .unq acc r := by
  rw [lexWord, if_neg (by decide), if_pos rfl]

theorem lexWord_sq_char (E : Env) (stop : Char → Bool) {c : Char} (acc r : Str) (h0 : c ≠ nulChar) (h1 : c ≠ '\'') :
    lexWord E stop .sq acc (c :: r) = lexWord E stop .sq (acc ++ [c]) r := by
  rw [lexWord, if_neg h0, if_neg h1]

/-- `'"'"'`, the form in which `shlex.quote` writes a single quote: inside `'…'` it closes the quotation, gives one
`'` between double quotes, and opens the quotation again -/
theorem lexWord_sq_escapedQuote (E : Env) (stop : Char → Bool) (acc r : Str) :
    lexWord E stop .sq acc ('\'' :: '"' :: '\'' :: '"' :: '\'' :: r) = lexWord E stop .sq (acc ++ ['\'']) r := by
  rw [lexWord_sq_quote, lexWord, if_neg (by decide), if_neg (by decide), if_pos rfl,
    lexWord, if_neg (by decide), if_neg (by decide), if_neg (by decide), if_neg (by decide),
    lexWord, if_neg (by decide), if_pos rfl, lexWord_unq_quote]

theorem subStop_not_plain {c : Char} (h : subStop c = true) : plainChar c = false := by
  simp only [subStop, wordStop, Bool.or_eq_true, decide_eq_true_eq] at h
  rcases h with rfl | (((((((((rfl | rfl) | rfl) | rfl) | rfl) | rfl) | rfl) | rfl) | rfl) | rfl) <;> decide

theorem wordStop_of_subStop {c : Char} (h : subStop c = false) : wordStop c = false := by
  rw [subStop, Bool.or_eq_false_iff] at h
  exact h.2

theorem plainChar_literal {c : Char} (h : plainChar c = true) :
    (c ≠ nulChar ∧ c ≠ '\'' ∧ c ≠ '"' ∧ c ≠ '\\' ∧ c ≠ '$') ∧ subStop c = false := by
  refine ⟨⟨?_, ?_, ?_, ?_, ?_⟩, ?_⟩
  · rintro rfl; exact absurd h (by decide)
  · rintro rfl; exact absurd h (by decide)
  · rintro rfl; exact absurd h (by decide)
  · rintro rfl; exact absurd h (by decide)
  · rintro rfl; exact absurd h (by decide)
  · cases hs : subStop c with
    | false => rfl
    | true => rw [subStop_not_plain hs] at h; cases h

theorem lexWord_unq_plain (E : Env) {stop : Char → Bool} {c : Char} (acc r : Str)
    (hp : plainChar c = true) (hs : stop c = false) :
    lexWord E stop .unq acc (c :: r) = lexWord E stop .unq (acc ++ [c]) r := by
  obtain ⟨⟨h0, h1, h2, h3, h4⟩, _⟩ := plainChar_literal hp
  rw [lexWord, if_neg h0, if_neg h1, if_neg h2, hs, if_neg (by decide), if_neg h3, if_neg h4, if_pos hp]

/-- every character `shlex.quote` leaves unquoted is one bash takes literally; re-checked by `decide` against the
safe set extracted from the running `shlex` -/
theorem safe_plain : ∀ c ∈ Consts.C13.safeChars, plainChar c = true := by
  decide +kernel

theorem safeChar_plain {c : Char} (h : safeChar c = true) : plainChar c = true :=
  safe_plain c (List.contains_iff_mem.mp h)

/-- a stop predicate that never fires on a safe character (true of `wordStop` and `subStop`) -/
def SafeStop (stop : Char → Bool) : Prop := ∀ c, safeChar c = true → stop c = false

theorem safeStop_sub : SafeStop subStop := fun _ h => (plainChar_literal (safeChar_plain h)).2
theorem safeStop_word : SafeStop wordStop := fun c h => wordStop_of_subStop (safeStop_sub c h)

theorem lexWord_unq_safe (E : Env) {stop : Char → Bool} (hstop : SafeStop stop) {c : Char} (acc r : Str)
    (h : safeChar c = true) : lexWord E stop .unq acc (c :: r) = lexWord E stop .unq (acc ++ [c]) r :=
  lexWord_unq_plain E acc r (safeChar_plain h) (hstop c h)

theorem lexWord_safe (E : Env) {stop : Char → Bool} (hstop : SafeStop stop) :
    ∀ (s acc rest : Str), s.all safeChar = true →
      lexWord E stop .unq acc (s ++ rest) = lexWord E stop .unq (acc ++ s) rest
  | [], acc, rest, _ => by rw [List.nil_append, List.append_nil]
  | c :: s, acc, rest, h => by
    rw [List.all_cons, Bool.and_eq_true] at h
    rw [List.cons_append, lexWord_unq_safe E hstop _ _ h.1, lexWord_safe E hstop s _ rest h.2,
      List.append_assoc, List.singleton_append]

theorem lexWord_quoteBody (E : Env) (stop : Char → Bool) :
    ∀ (s acc rest : Str), NoNul s →
      lexWord E stop .sq acc (quoteBody s ++ '\'' :: rest) = lexWord E stop .unq (acc ++ s) rest
  | [], acc, rest, _ => by rw [quoteBody, List.nil_append, lexWord_sq_quote, List.append_nil]
  | c :: s, acc, rest, h => by
    have ih := lexWord_quoteBody E stop s (acc ++ [c]) rest fun d hd => h d (List.mem_cons_of_mem c hd)
    rw [List.append_assoc, List.singleton_append] at ih
    rw [quoteBody]
    split
    · next hq => rw [← ih, hq]; exact lexWord_sq_escapedQuote E stop acc _
    · next hq => rw [← ih]; exact lexWord_sq_char E stop acc _ (h c List.mem_cons_self) hq

/-- the continuation form of the round trip: a quoted string in front of ANY rest contributes exactly
its original characters to the word being read -/
theorem lexWord_quote (E : Env) {stop : Char → Bool} (hstop : SafeStop stop)
    (s acc rest : Str) (hn : NoNul s) :
    lexWord E stop .unq acc (shlexQuote s ++ rest) = lexWord E stop .unq (acc ++ s) rest := by
  unfold shlexQuote
  split
  · next h =>
    rw [List.isEmpty_iff.mp h, List.append_nil]
    exact (lexWord_unq_quote E stop acc _).trans (lexWord_sq_quote E stop acc rest)
  · split
    · next h => exact lexWord_safe E hstop s acc rest h
    · rw [List.cons_append, List.append_assoc, lexWord_unq_quote]
      exact lexWord_quoteBody E stop s acc rest hn

end ShellEnv
