import BobModel.Proofs.C18Forward
import BobModel.Proofs.C18Traverse
/-
The set `valid` of `LocationPath.evalForward`: what `__findReachableSubset` keeps reaches a context node, and it keeps
the valid context nodes and is closed under valid parents (its fuel suffices); after every iteration `valid`
only holds nodes between the root and the context nodes, and on acyclic graphs every node of
`valid`, in particular every context node, keeps a real path from the root inside `valid`.
-/
namespace PathSpec

theorem preds_length_le (g : Graph) (qi : Bool) (x : Node) : (preds g qi x).length ≤ g.size := by
  unfold preds allNodes
  calc _ ≤ (List.range g.size).length := List.length_filter_le _ _
    _ = g.size := List.length_range

/-- loop rule for `reachLoop`: an invariant of the stack and `ret` that survives dropping a node that
is not valid or already kept, and keeping a node while pushing its parents, holds at the end for
what is left of the stack.  With the fuel of `__findReachableSubset` nothing is left: a node that
enters `ret` pushes at most `size` parents. -/
theorem reachLoop_rule {g : Graph} {valid : List Node} (I : List Node → List Node → Prop)
    (skip : ∀ n todo ret, (n ∈ valid → n ∈ ret) → I (n :: todo) ret → I todo ret)
    (push : ∀ n todo ret, n ∈ valid → n ∉ ret → I (n :: todo) ret → I (preds g true n ++ todo) (n :: ret)) :
    ∀ (fuel : Nat) (todo ret : List Node), I todo ret →
      ∃ rest, I rest (reachLoop g valid fuel todo ret) ∧
        ((∀ x ∈ valid, x < g.size) → todo.length + g.size * unseen g.size ret < fuel → rest = []) := by
  intro fuel
  induction fuel with
  | zero => intro todo ret h; exact ⟨todo, h, fun _ h => by omega⟩
  | succ fuel ih =>
    intro todo ret h
    cases todo with
    | nil => exact ⟨[], h, fun _ _ => rfl⟩
    | cons n todo =>
      simp only [reachLoop]
      split
      · rename_i hskip
        obtain ⟨rest, hr, hf⟩ := ih todo ret (skip n todo ret (fun hv => by simpa [hv] using hskip) h)
        exact ⟨rest, hr, fun hvalid hfuel => hf hvalid (by simp only [List.length_cons] at hfuel; omega)⟩
      · rename_i hskip
        have hn : n ∈ valid ∧ n ∉ ret := by simpa using hskip
        obtain ⟨rest, hr, hf⟩ := ih _ _ (push n todo ret hn.1 hn.2 h)
        refine ⟨rest, hr, fun hvalid hfuel => hf hvalid ?_⟩
        have hun : unseen g.size (n :: ret) < unseen g.size ret :=
          unseen_lt (fun y hy => List.mem_cons_of_mem _ hy) List.mem_cons_self (hvalid n hn.1) hn.2
        have hpl := preds_length_le g true n
        have hmul : g.size * (unseen g.size (n :: ret) + 1) ≤ g.size * unseen g.size ret :=
          Nat.mul_le_mul_left _ hun
        rw [Nat.mul_succ] at hmul
        simp only [List.length_cons, List.length_append] at hfuel ⊢
        omega

/-- whatever the fuel, every node that is kept reaches a context node -/
theorem findReachableSubset_reach {g : Graph} (hwf : g.WF) (valid nodes : List Node) :
    ∀ y ∈ findReachableSubset g valid nodes, ∃ t ∈ nodes, Reach g y t := by
  obtain ⟨_, h, _⟩ := reachLoop_rule (g := g) (valid := valid)
    (fun todo ret => ∀ y, y ∈ todo ∨ y ∈ ret → ∃ t ∈ nodes, Reach g y t)
    (fun n todo ret _ h y hy => h y (hy.imp_left (List.mem_cons_of_mem _)))
    (by
      intro n todo ret _ _ h y hy
      obtain ⟨t, ht, hr⟩ := h n (Or.inl List.mem_cons_self)
      rcases hy with hy | hy
      · rcases List.mem_append.mp hy with hy | hy
        · exact ⟨t, ht, reach_trans (reach_of_edge ((mem_preds hwf).mp hy).2) hr⟩
        · exact h y (Or.inl (List.mem_cons_of_mem _ hy))
      · rcases List.mem_cons.mp hy with rfl | hy
        · exact ⟨t, ht, hr⟩
        · exact h y (Or.inr hy))
    (nodes.length + g.size * g.size + g.size + 1) nodes [] (fun y hy => ⟨y, by simpa using hy, reach_refl g y⟩)
  exact fun y hy => h y (Or.inr hy)

/-- the trimmed set contains the valid context nodes and is closed under valid parents: all the
while the valid context nodes and the valid parents of `ret` are in `ret` or still on the stack -/
theorem findReachableSubset_spec {g : Graph} (hwf : g.WF) (valid nodes : List Node)
    (hvalid : ∀ x ∈ valid, x < g.size) :
    (∀ n ∈ nodes, n ∈ valid → n ∈ findReachableSubset g valid nodes) ∧
    (∀ x ∈ findReachableSubset g valid nodes, ∀ p, p ∈ valid → edge g true p x →
      p ∈ findReachableSubset g valid nodes) := by
  obtain ⟨rest, h, hrest⟩ := reachLoop_rule (g := g) (valid := valid)
    (fun todo ret => ∀ p ∈ valid, (p ∈ nodes ∨ ∃ x ∈ ret, p ∈ preds g true x) → p ∈ ret ∨ p ∈ todo)
    (by
      intro n todo ret hn h p hp hw
      rcases h p hp hw with h | h
      · exact Or.inl h
      · rcases List.mem_cons.mp h with rfl | h
        · exact Or.inl (hn hp)
        · exact Or.inr h)
    (by
      intro n todo ret _ _ h p hp hw
      have hold : p ∈ ret ∨ p ∈ n :: todo → p ∈ n :: ret ∨ p ∈ preds g true n ++ todo := by
        rintro (h | h)
        · exact Or.inl (List.mem_cons_of_mem _ h)
        · exact (List.mem_cons.mp h).elim (fun e => Or.inl (e ▸ List.mem_cons_self))
            (fun h => Or.inr (List.mem_append_right _ h))
      rcases hw with hw | ⟨x, hx, hpx⟩
      · exact hold (h p hp (Or.inl hw))
      · rcases List.mem_cons.mp hx with rfl | hx
        · exact Or.inr (List.mem_append_left _ hpx)
        · exact hold (h p hp (Or.inr ⟨x, hx, hpx⟩)))
    (nodes.length + g.size * g.size + g.size + 1) nodes [] (fun p _ hw => by simpa using hw)
  obtain rfl := hrest hvalid (by rw [unseen_nil]; omega)
  have h' := fun p hp hw => (h p hp hw).resolve_right List.not_mem_nil
  exact ⟨fun n hn hv => h' n hv (Or.inl hn),
    fun x hx p hpv he => h' p hpv (Or.inr ⟨x, hx, (mem_preds hwf).mpr ⟨hvalid p hpv, he⟩⟩)⟩

/-- a path inside `v2` that ends in `rs` (closed under `v2`-parents) runs inside `rs`; so does its
start if it is in `v2` -/
theorem pathWithin_trim {g : Graph} {v2 rs : List Node}
    (hcl : ∀ x ∈ rs, ∀ p, p ∈ v2 → edge g true p x → p ∈ rs) :
    ∀ (s : List Str) (a b : Node), PathWithin g v2 a s b → b ∈ rs →
      (a ∈ v2 → a ∈ rs) ∧ PathWithin g (inter v2 rs) a s b
  | [], a, b, h, hb => by simp only [PathWithin] at h; subst h; exact ⟨fun _ => hb, rfl⟩
  | nm :: rest, a, b, h, hb => by
    simp only [PathWithin] at h ⊢
    obtain ⟨e, he, hn, hv, hr⟩ := h
    obtain ⟨hs, hp⟩ := pathWithin_trim hcl rest e.node b hr hb
    exact ⟨fun ha => hcl e.node (hs hv) a ha ⟨e, he, rfl, Or.inl rfl⟩,
      e, he, hn, mem_inter.mpr ⟨hv, hs hv⟩, hp⟩

/-- what the result walk, which only descends into `valid`, needs in order to find every node of `valid` -/
def RootConn (g : Graph) (r : Node) (valid : List Node) : Prop :=
  ∀ v ∈ valid, ∃ s, PathWithin g valid r s v

theorem rootConn_lt {g : Graph} (hwf : g.WF) {r : Node} (hr : r < g.size) {valid : List Node}
    (hconn : RootConn g r valid) : ∀ x ∈ valid, x < g.size := by
  intro x hx
  obtain ⟨s, hs⟩ := hconn x hx
  exact pathWithin_lt hwf s r x hr hs

/-- nodes that have real paths from `valid` through added nodes only may be added -/
theorem rootConn_extend {g : Graph} {r : Node} {valid extra v2 : List Node} (hconn : RootConn g r valid)
    (hext : ∀ y ∈ extra, ∃ o ∈ valid, ∃ s, PathWithin g extra o s y)
    (hv2 : ∀ x, x ∈ v2 ↔ x ∈ valid ∨ x ∈ extra) : RootConn g r v2 := by
  intro y hy
  have hsub : ∀ x ∈ valid, x ∈ v2 := fun x hx => (hv2 x).mpr (Or.inl hx)
  rcases (hv2 y).mp hy with hy | hy
  · obtain ⟨s, hs⟩ := hconn y hy
    exact ⟨s, pathWithin_mono hsub s r y hs⟩
  · obtain ⟨o, ho, s2, hs2⟩ := hext y hy
    obtain ⟨s1, hs1⟩ := hconn o ho
    exact ⟨s1 ++ s2, pathWithin_append s1 r o y s2 (pathWithin_mono hsub s1 r o hs1)
      (pathWithin_mono (fun x hx => (hv2 x).mpr (Or.inr hx)) s2 o y hs2)⟩

theorem rootConn_trim {g : Graph} (hwf : g.WF) {r : Node} (hr : r < g.size) (v2 nodes : List Node)
    (hconn : RootConn g r v2) : RootConn g r (inter v2 (findReachableSubset g v2 nodes)) := by
  obtain ⟨_, hcl⟩ := findReachableSubset_spec hwf v2 nodes (rootConn_lt hwf hr hconn)
  intro v hv
  obtain ⟨hv1, hv3⟩ := mem_inter.mp hv
  obtain ⟨s, hs⟩ := hconn v hv1
  exact ⟨s, (pathWithin_trim hcl s r v hs hv3).2⟩

theorem between_reach (g : Graph) (old ns : List Node) (search : Option Bool) :
    ∀ y ∈ between g old ns search, y ∈ ns ∨ ∃ o ∈ old, Reach g o y := by
  intro y hy
  cases search with
  | none => exact Or.inl hy
  | some qi => exact Or.inr (findIntermediateNodes_reach g old ns qi y hy)

/-- an axis without search takes at most one edge, one with `search = some qi` follows edges
admitted by `qi` -/
theorem axisRel_search {g : Graph} {ax : Axis} (old : List Node) {a y : Node} (hr : axisRel g ax a y) :
    a = y ∨ match (axisForward g ax old).2 with
      | none => edge g true a y
      | some qi => Relation.TransGen (edge g qi) a y := by
  cases ax <;> simp only [axisForward, axisRel] at hr ⊢
  · exact Or.inl hr
  · exact Or.inr hr
  · exact Or.inr hr
  · exact hr
  · exact Or.inr (edge_true_of_edge hr)
  · exact Or.inr hr
  · exact hr

/-- every node an iteration adds has a real path from an old context node through added nodes only -/
theorem between_conn {g : Graph} (hwf : g.WF) (hac : g.Acyclic) {ax : Axis} {old ns : List Node}
    (hrel : ∀ t ∈ ns, ∃ a ∈ old, axisRel g ax a t) :
    ∀ y ∈ union (between g old ns (axisForward g ax old).2) ns,
      ∃ o ∈ old, ∃ s, PathWithin g (union (between g old ns (axisForward g ax old).2) ns) o s y := by
  intro y hy
  cases hs : (axisForward g ax old).2 with
  | none =>
    rw [hs] at hy
    have hyn : y ∈ ns := by simpa [between] using hy
    obtain ⟨a, ha, hax⟩ := hrel y hyn
    have hax := axisRel_search old hax
    rw [hs] at hax
    rcases hax with rfl | ⟨e, he, rfl, _⟩
    · exact ⟨a, ha, [], rfl⟩
    · exact ⟨a, ha, [e.name], e, he, rfl, hy, rfl⟩
  | some qi =>
    rw [hs] at hy
    refine intermediate_conn hwf hac old ns qi (fun t ht => ?_) y hy
    obtain ⟨a, ha, hax⟩ := hrel t ht
    have hax := axisRel_search old hax
    rw [hs] at hax
    exact ⟨a, ha, hax⟩

theorem forwardLoop_valid {g : Graph} (hwf : g.WF) {mode : Mode} (r : Node) {steps : Steps} {old valid : List Node}
    {wc : Bool} {nodes v : List Node} (h : forwardLoop g mode steps old valid wc = .ok (nodes, v))
    (hold : ∀ a ∈ old, a < g.size) (hroot : ∀ a ∈ old, Reach g r a) (hvalid : ∀ x ∈ valid, Reach g r x)
    (hdown : ∀ x ∈ valid, ∃ t ∈ old, Reach g x t) :
    ∀ x ∈ v, Reach g r x ∧ ∃ t ∈ nodes, Reach g x t := by
  have := forwardLoop_induction
    (fun _ old valid => (∀ a ∈ old, a < g.size) ∧ (∀ a ∈ old, Reach g r a) ∧
      ∀ x ∈ valid, Reach g r x ∧ ∃ t ∈ old, Reach g x t)
    ?_ steps old valid wc nodes v h ⟨hold, hroot, fun x hx => ⟨hvalid x hx, hdown x hx⟩⟩
  · exact this.2.2
  · rintro ax test op _ old valid ⟨hold, hroot, hvalid⟩
    have hns : ∀ x ∈ (stepForward g ax test op old).1, Reach g r x := by
      intro x hx
      obtain ⟨a, ha, hax, _⟩ := (mem_stepForward hwf hold).mp hx
      exact reach_trans (hroot a ha) (reach_of_axisRel hax)
    refine ⟨stepForward_lt hwf hold, hns, fun x hx => ?_⟩
    obtain ⟨hx1, hx2⟩ := mem_inter.mp hx
    refine ⟨?_, findReachableSubset_reach hwf _ _ x hx2⟩
    rcases mem_union.mp hx1 with hx1 | hx1
    · rcases mem_union.mp hx1 with hx1 | hx1
      · exact (hvalid x hx1).1
      · rcases between_reach g _ _ _ x hx1 with hx1 | ⟨o, ho, hox⟩
        · exact hns x hx1
        · exact reach_trans (hroot o ho) hox
    · exact hns x hx1

theorem forwardLoop_conn {g : Graph} (hwf : g.WF) (hac : g.Acyclic) {mode : Mode} {r : Node} (hr : r < g.size)
    {steps : Steps} {old valid : List Node} {wc : Bool} {nodes v : List Node}
    (h : forwardLoop g mode steps old valid wc = .ok (nodes, v))
    (hold : ∀ a ∈ old, a ∈ valid) (hconn : RootConn g r valid) :
    (∀ n ∈ nodes, n ∈ v) ∧ RootConn g r v := by
  refine forwardLoop_induction (fun _ old valid => (∀ a ∈ old, a ∈ valid) ∧ RootConn g r valid)
    ?_ steps old valid wc nodes v h ⟨hold, hconn⟩
  rintro ax test op _ old valid ⟨hold, hconn⟩
  have holdlt : ∀ a ∈ old, a < g.size := fun a ha => rootConn_lt hwf hr hconn a (hold a ha)
  generalize hns : (stepForward g ax test op old).1 = ns
  have hrel : ∀ t ∈ ns, ∃ a ∈ old, axisRel g ax a t := by
    intro t ht
    obtain ⟨a, ha, hax, _⟩ := (mem_stepForward hwf holdlt).mp (hns ▸ ht)
    exact ⟨a, ha, hax⟩
  -- before trimming: the added nodes are reached through the old context nodes
  have hv2 : RootConn g r (union (union valid (between g old ns (axisForward g ax old).2)) ns) := by
    refine rootConn_extend hconn (fun y hy => ?_) (fun x => ?_)
      (extra := union (between g old ns (axisForward g ax old).2) ns)
    · obtain ⟨o, ho, s⟩ := between_conn hwf hac hrel y hy
      exact ⟨o, hold o ho, s⟩
    · simp only [mem_union, or_assoc]
  obtain ⟨hspec, _⟩ := findReachableSubset_spec hwf _ ns (rootConn_lt hwf hr hv2)
  exact ⟨fun a ha => mem_inter.mpr ⟨mem_union.mpr (Or.inr ha), hspec a ha (mem_union.mpr (Or.inr ha))⟩,
    rootConn_trim hwf hr _ ns hv2⟩

end PathSpec
