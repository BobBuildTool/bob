import BobModel.Proofs.C13Eval
/-
The environment after an export block, independent of the order of the exports; the command lists of the
prolog without `keepEnv` and of the fingerprint preamble are well formed, and which exports they contain; lookups in the
environments of the construction chain; `IsComponent` of a `:`-joined
list; `bashReadsRc` on an argv with `--norc` or without `-c`.
-/
namespace ShellEnv

theorem lookup_append (a b : Env) (k : Str) : lookup (a ++ b) k = (lookup a k).or (lookup b k) := by
  induction a with
  | nil => rfl
  | cons x r ih =>
    obtain ⟨k', v⟩ := x
    rw [List.cons_append, lookup, lookup, ih]
    split <;> rfl

theorem lookup_none_iff (e : Env) (k : Str) : lookup e k = none ↔ k ∉ keys e := by
  induction e with
  | nil => exact ⟨fun _ => List.not_mem_nil, fun _ => rfl⟩
  | cons x r ih =>
    rw [lookup, keys, List.map_cons, List.mem_cons, not_or, ← keys, ← ih]
    split
    · next h => exact ⟨nofun, fun hn => absurd h.symm hn.1⟩
    · next h => exact ⟨fun hr => ⟨fun e => h e.symm, hr⟩, fun hn => hn.2⟩

theorem lookup_of_mem (e : Env) (k v : Str) (hn : (keys e).Nodup) (hm : (k, v) ∈ e) : lookup e k = some v := by
  induction e with
  | nil => cases hm
  | cons x r ih =>
    obtain ⟨k', v'⟩ := x
    rw [keys, List.map_cons, List.nodup_cons] at hn
    rw [lookup]
    rcases List.mem_cons.mp hm with h | hm
    · cases h; exact if_pos rfl
    · rw [if_neg fun hk : k' = k => hn.1 (List.mem_map.mpr ⟨(k, v), hm, hk.symm⟩)]
      exact ih hn.2 hm

theorem mem_of_lookup (e : Env) (k v : Str) (h : lookup e k = some v) : (k, v) ∈ e := by
  induction e with
  | nil => cases h
  | cons x r ih =>
    obtain ⟨k', v'⟩ := x
    rw [lookup] at h
    split at h
    · next hk => cases h; exact hk ▸ List.mem_cons_self
    · exact List.mem_cons_of_mem _ (ih h)

theorem lookup_filter (e : Env) (p : Str → Bool) (k : Str) :
    lookup (e.filter fun kv => p kv.1) k = if p k then lookup e k else none := by
  induction e with
  | nil => exact (ite_self _).symm
  | cons x r ih =>
    obtain ⟨k', v⟩ := x
    rw [List.filter_cons, lookup]
    by_cases hk : k' = k
    · subst hk
      cases hp : p k' <;> simp [hp, lookup, ih]
    · rw [if_neg hk, ← ih]
      split
      · rw [lookup, if_neg hk]
      · rfl

theorem lookup_filter_mem (e : Env) (l : List Str) (k : Str) :
    lookup (e.filter fun kv => l.contains kv.1) k = if k ∈ l then lookup e k else none := by
  rw [lookup_filter e (fun k => l.contains k) k]
  simp only [List.contains_iff_mem]

/-- the environment after a sequence of `export` commands -/
def exportsEnv (E : Env) (xs : List Export) : Env := xs.foldl (fun E x => (x.name, x.value E) :: E) E

theorem exportsEnv_cons (E : Env) (x : Export) (xs : List Export) :
    exportsEnv E (x :: xs) = exportsEnv ((x.name, x.value E) :: E) xs := rfl

def Cmd.exports : Cmd → List Export
  | .export e => [e]
  | _ => []

/-- only the `export` commands of a script touch the environment -/
theorem foldl_eval_env (cs : List Cmd) (sh : Sh) :
    (cs.foldl Cmd.eval sh).env = exportsEnv sh.env (cs.flatMap Cmd.exports) := by
  induction cs generalizing sh with
  | nil => rfl
  | cons c cs ih => rw [List.foldl_cons, ih, List.flatMap_cons]; cases c <;> rfl

theorem exports_map_export (xs : List Export) : (xs.map Cmd.export).flatMap Cmd.exports = xs := by
  rw [List.flatMap_map]; exact List.flatMap_singleton' xs

theorem exportsEnv_notin (xs : List Export) (E : Env) (k : Str) (h : ∀ x ∈ xs, x.name ≠ k) :
    lookup (exportsEnv E xs) k = lookup E k := by
  induction xs generalizing E with
  | nil => rfl
  | cons x xs ih =>
    rw [exportsEnv_cons, ih _ fun y hy => h y (List.mem_cons_of_mem x hy), lookup, if_neg (h x List.mem_cons_self)]

theorem value_congr (x : Export) (E E' : Env)
    (h : x.withPath = true → lookup E' Consts.C13.varPath = lookup E Consts.C13.varPath) :
    x.value E' = x.value E := by
  unfold Export.value
  cases hw : x.withPath with
  | false => rfl
  | true => rw [h hw]

theorem exportsEnv_mem (xs : List Export) (E : Env) (x : Export)
    (hn : (xs.map Export.name).Nodup) (hm : x ∈ xs)
    (hp : ∀ y ∈ xs, y.withPath = true → y.name = Consts.C13.varPath) :
    lookup (exportsEnv E xs) x.name = some (x.value E) := by
  induction xs generalizing E with
  | nil => cases hm
  | cons y ys ih =>
    rw [List.map_cons, List.nodup_cons] at hn
    rw [exportsEnv_cons]
    rcases List.mem_cons.mp hm with rfl | h
    · rw [exportsEnv_notin ys _ _ fun z hz e => hn.1 (List.mem_map.mpr ⟨z, hz, e⟩), lookup, if_pos rfl]
    · have hne : y.name ≠ x.name := fun e => hn.1 (List.mem_map.mpr ⟨x, h, e.symm⟩)
      rw [ih _ hn.2 h fun z hz => hp z (List.mem_cons_of_mem y hz)]
      -- the earlier export `y` could change the value of `x` only by setting `PATH`, the name of `x` itself
      exact congrArg some (value_congr x _ _ fun hw => by rw [lookup, if_neg (hp x hm hw ▸ hne)])

/-- `export k=v` for a dict entry, as `exportEntries` and `fingerprintCmds` write it -/
def plainExport (kv : Str × Str) : Export := ⟨kv.1, [kv.2], false⟩

/-- **the environment after an export block, whatever its order**: the block consists of `pre` and one plain
`export k=v` per entry of the dict `e` whose name passes `p`; the names in `pre` are distinct and do not pass `p`, and
only an entry of `pre` named `PATH` may end in `$PATH`.  Then each entry of `pre` has its value as computed in the
initial environment, and any other name is looked up in `e` first (if it passes `p`) and in the initial environment
second. -/
theorem lookup_exportsEnv (E : Env) (pre : List Export) (e : Env) (p : Str → Bool) {xs : List Export}
    (hperm : xs.Perm (pre ++ (e.filter fun kv => p kv.1).map plainExport))
    (hpre : (pre.map Export.name).Nodup) (he : (keys e).Nodup)
    (hp : ∀ x ∈ pre, p x.name = false ∧ (x.withPath = true → x.name = Consts.C13.varPath)) :
    (∀ x ∈ pre, lookup (exportsEnv E xs) x.name = some (x.value E)) ∧
    ∀ k, (∀ x ∈ pre, x.name ≠ k) →
      lookup (exportsEnv E xs) k = if p k then (lookup e k).or (lookup E k) else lookup E k := by
  have hnd : (xs.map Export.name).Nodup := by
    rw [(hperm.map _).nodup_iff, List.map_append, List.map_map, List.nodup_append]
    refine ⟨hpre, he.sublist (List.filter_sublist.map Prod.fst), ?_⟩
    rintro _ ha _ hb rfl
    obtain ⟨x, hx, rfl⟩ := List.mem_map.mp ha
    obtain ⟨kv, hkv, hk⟩ := List.mem_map.mp hb
    have := (List.mem_filter.mp hkv).2
    rw [show kv.1 = x.name from hk, (hp x hx).1] at this
    cases this
  have hwp : ∀ y ∈ xs, y.withPath = true → y.name = Consts.C13.varPath := fun y hy hw => by
    rcases List.mem_append.mp (hperm.mem_iff.mp hy) with h | h
    · exact (hp y h).2 hw
    · obtain ⟨kv, _, rfl⟩ := List.mem_map.mp h
      cases hw
  refine ⟨fun x hx => exportsEnv_mem xs E x hnd (hperm.mem_iff.mpr (List.mem_append_left _ hx)) hwp, fun k hk => ?_⟩
  have key : lookup (exportsEnv E xs) k = (lookup (e.filter fun kv => p kv.1) k).or (lookup E k) := by
    cases hl : lookup (e.filter fun kv => p kv.1) k with
    | some v =>
      exact exportsEnv_mem xs E (plainExport (k, v)) hnd
        (hperm.mem_iff.mpr (List.mem_append_right _ (List.mem_map_of_mem (mem_of_lookup _ _ _ hl)))) hwp
    | none =>
      rw [exportsEnv_notin xs E k, Option.none_or]
      intro x hx hxk
      rcases List.mem_append.mp (hperm.mem_iff.mp hx) with h | h
      · exact hk x h hxk
      · obtain ⟨kv, hkv, rfl⟩ := List.mem_map.mp h
        exact (lookup_none_iff _ k).mp hl (List.mem_map.mpr ⟨kv, hkv, hxk⟩)
  rw [key, lookup_filter]
  cases p k <;> rfl

theorem lineOk_wf {t : Str} (h : lineOk t = true) : (Cmd.line t).WF := by
  simp only [lineOk, Bool.and_eq_true, Bool.or_eq_true, Bool.not_eq_true', List.contains_eq_mem,
    decide_eq_false_iff_not] at h
  refine ⟨?_, h.2⟩
  cases t with
  | nil => exact Or.inl rfl
  | cons c r =>
    right
    have : c = '#' := by simpa [headIs] using h.1
    exact ⟨r, by rw [this]⟩

theorem const_lines_ok :
    Consts.C13.prologHeader.all lineOk = true ∧ lineOk Consts.C13.prologArraysComment = true ∧
    lineOk Consts.C13.prologEnvComment = true ∧ lineOk [] = true := by decide +kernel

theorem const_names_ident :
    isIdent Consts.C13.arrayAll = true ∧ isIdent Consts.C13.arrayDep = true ∧ isIdent Consts.C13.arrayTool = true ∧
    isIdent Consts.C13.varPath = true ∧ isIdent Consts.C13.varLdLibraryPath = true ∧
    isIdent Consts.C13.varBobCwd = true := by decide +kernel

theorem declareA_wf {abs : Str → Str} {s : Spec} (h : Spec.WF abs s) {n : Str} (hn : isIdent n = true)
    {ps : List (Str × Str)} (hps : ∀ np ∈ ps, np ∈ s.allPaths ++ s.depPaths ++ s.toolPaths) :
    (Cmd.declareA n (sortElems (absPairs abs ps))).WF := by
  refine ⟨hn, fun kv hkv => ?_⟩
  obtain ⟨np, hnp, rfl⟩ := List.mem_map.mp (List.mem_mergeSort.mp hkv)
  exact h.names np (hps np hnp)

theorem arrayCmds_wf (abs : Str → Str) (s : Spec) (h : Spec.WF abs s) : ∀ c ∈ arrayCmds abs s, c.WF := by
  simp only [arrayCmds, List.forall_mem_cons]
  exact ⟨declareA_wf h const_names_ident.1 fun _ hp => List.mem_append_left _ (List.mem_append_left _ hp),
    declareA_wf h const_names_ident.2.1 fun _ hp => List.mem_append_left _ (List.mem_append_right _ hp),
    declareA_wf h const_names_ident.2.2.1 fun _ hp => List.mem_append_right _ hp, List.forall_mem_nil _⟩

theorem plainExport_wf {k v : Str} (h : isIdent k = true ∧ NoNul v) : (Cmd.export ⟨k, [v], false⟩).WF :=
  ⟨h.1, fun p hp => by cases List.mem_singleton.mp hp; exact h.2⟩

theorem exportEntries_wf (abs : Str → Str) (s : Spec) (h : Spec.WF abs s) :
    ∀ e ∈ exportEntries abs s, (Cmd.export e).WF := by
  intro e he
  simp only [exportEntries, bobExports, List.mem_append, List.mem_cons, List.mem_nil_iff, or_false, List.mem_map,
    List.mem_filter] at he
  rcases he with (rfl | rfl | rfl) | ⟨kv, ⟨hkv, _⟩, rfl⟩
  · exact ⟨const_names_ident.2.2.2.1, fun p hp => by
      obtain ⟨q, hq, rfl⟩ := List.mem_map.mp hp; exact h.paths q hq⟩
  · exact ⟨const_names_ident.2.2.2.2.1, fun p hp => by
      obtain ⟨q, hq, rfl⟩ := List.mem_map.mp hp; exact h.libs q hq⟩
  · exact plainExport_wf ⟨const_names_ident.2.2.2.2.2, h.cwd⟩
  · exact plainExport_wf (h.envIdent kv hkv)

theorem prologCmds_wf (abs : Str → Str) (s : Spec) (h : Spec.WF abs s) : ∀ c ∈ prologCmds abs s false, c.WF := by
  intro c hc
  simp only [prologCmds, prologHead, Bool.false_eq_true, if_false, List.append_nil, List.mem_append, List.mem_map,
    List.mem_cons, List.mem_nil_iff, or_false] at hc
  rcases hc with (((⟨t, ht, rfl⟩ | rfl) | hc) | (rfl | rfl)) | ⟨e, he, rfl⟩
  · exact lineOk_wf (List.all_eq_true.mp const_lines_ok.1 t ht)
  · exact lineOk_wf const_lines_ok.2.1
  · exact arrayCmds_wf abs s h c hc
  · exact lineOk_wf const_lines_ok.2.2.2
  · exact lineOk_wf const_lines_ok.2.2.1
  · exact exportEntries_wf abs s h e (List.mem_mergeSort.mp he)

theorem prologCmds_exports (abs : Str → Str) (s : Spec) :
    (prologCmds abs s false).flatMap Cmd.exports = sortExports (exportEntries abs s) := by
  simp [prologCmds, prologHead, arrayCmds, List.flatMap_map, Cmd.exports]

theorem bobExports_spec (abs : Str → Str) (s : Spec) :
    ∀ x ∈ bobExports abs s, (!isBobVar x.name) = false ∧ (x.withPath = true → x.name = Consts.C13.varPath) := by
  intro x hx
  simp only [bobExports, List.mem_cons, List.mem_nil_iff, or_false] at hx
  rcases hx with rfl | rfl | rfl
  · exact ⟨(by decide : (!isBobVar Consts.C13.varPath) = false), fun _ => rfl⟩
  · exact ⟨(by decide : (!isBobVar Consts.C13.varLdLibraryPath) = false), Bool.noConfusion⟩
  · exact ⟨(by decide : (!isBobVar Consts.C13.varBobCwd) = false), Bool.noConfusion⟩

theorem bobExports_nodup (abs : Str → Str) (s : Spec) : ((bobExports abs s).map Export.name).Nodup :=
  (by decide : [Consts.C13.varPath, Consts.C13.varLdLibraryPath, Consts.C13.varBobCwd].Nodup)

theorem stepEnvOf_eq (full : Env) (strong weak : List Str) : stepEnvOf full strong weak = prune full (strong ++ weak) := by
  unfold stepEnvOf
  split
  · next h => rw [List.isEmpty_iff.mp h, List.append_nil]
  · rfl

theorem lookup_stepEnvOf (full : Env) (strong weak : List Str) (k : Str) :
    lookup (stepEnvOf full strong weak) k = if k ∈ strong ∨ k ∈ weak then lookup full k else none := by
  rw [stepEnvOf_eq, prune, lookup_filter_mem]
  simp only [List.mem_append]

theorem lookup_hostFilter (preserve : Bool) (wl : List Str) (host : Env) (k : Str) :
    lookup (hostFilter preserve wl host) k = if preserve = true ∨ k ∈ wl then lookup host k else none := by
  cases preserve
  · rw [hostFilter, if_neg Bool.false_ne_true, lookup_filter_mem]
    simp only [Bool.false_eq_true, false_or]
  · rw [hostFilter, if_pos rfl, if_pos (Or.inl rfl)]

theorem lookup_processEnv (preserve : Bool) (wl : List Str) (host extra : Env) (k : Str) :
    lookup (processEnv preserve wl host none extra) k =
      (lookup extra k).or (if preserve = true ∨ k ∈ wl then lookup host k else none) := by
  rw [processEnv, lookup_append, Option.getD_none, List.nil_append, lookup_hostFilter]

/-- `p` is one of the `:`-separated components of `v` -/
def IsComponent (p v : Str) : Prop :=
  ∃ pre post, v = pre ++ p ++ post ∧ (pre = [] ∨ ∃ q, pre = q ++ [':']) ∧ (post = [] ∨ ∃ q, post = ':' :: q)

theorem isComponent_join : ∀ (l : List Str) (x : Str), x ∈ l → IsComponent x (joinWith [':'] l)
  | [], _, h => by simp at h
  | [y], x, h => by
    have : x = y := by simpa using h
    subst this
    exact ⟨[], [], by simp [joinWith], Or.inl rfl, Or.inl rfl⟩
  | y :: z :: r, x, h => by
    rcases List.mem_cons.mp h with rfl | h
    · exact ⟨[], ':' :: joinWith [':'] (z :: r), by simp [joinWith], Or.inl rfl, Or.inr ⟨_, rfl⟩⟩
    · obtain ⟨pre, post, e, _, hpost⟩ := isComponent_join (z :: r) x h
      refine ⟨y ++ ':' :: pre, post, by simp [joinWith, e], Or.inr ?_, hpost⟩
      rcases ‹pre = [] ∨ ∃ q, pre = q ++ [':']› with rfl | ⟨q, rfl⟩
      · exact ⟨y, by simp⟩
      · exact ⟨y ++ ':' :: q, by simp⟩

theorem setO_wf : ∀ t ∈ Consts.C13.fingerprintSetO, (Cmd.setO t).WF := by
  have : ∀ t ∈ Consts.C13.fingerprintSetO, (stripPrefix kwSetO t).isSome = true ∧ '\n' ∉ t := by decide +kernel
  intro t ht
  obtain ⟨r, hr⟩ := Option.isSome_iff_exists.mp (this t ht).1
  have ht' := stripPrefix_some _ _ _ hr
  exact ⟨r, ht', fun h => (this t ht).2 (ht' ▸ List.mem_append_right _ h)⟩

theorem fingerprintCmds_wf (env : Env) (h : ∀ kv ∈ env, isIdent kv.1 = true ∧ NoNul kv.2) :
    ∀ c ∈ fingerprintCmds env, c.WF := by
  intro c hc
  simp only [fingerprintCmds, List.mem_reverse, List.mem_append, List.mem_map] at hc
  rcases hc with ⟨t, ht, rfl⟩ | ⟨e, he, rfl⟩
  · exact setO_wf t ht
  · obtain ⟨kv, hkv, rfl⟩ := List.mem_map.mp (List.mem_mergeSort.mp he)
    exact plainExport_wf (h kv hkv)

/-- the preamble is built back to front: the (sorted) exports in reverse order, then the `set -o` lines -/
theorem fingerprintCmds_exports (env : Env) :
    (fingerprintCmds env).flatMap Cmd.exports = (sortExports (env.map plainExport)).reverse := by
  rw [fingerprintCmds, List.reverse_append, ← List.map_reverse, ← List.map_reverse, List.flatMap_append,
    exports_map_export, List.flatMap_map]
  exact (congrArg _ (List.flatMap_eq_nil_iff.mpr fun _ _ => rfl)).trans (List.append_nil _)

theorem bashReadsRc_false {argv : List Str} (sock : Bool)
    (h : ['-', '-', 'n', 'o', 'r', 'c'] ∈ argv ∨ ['-', 'c'] ∉ argv) : bashReadsRc argv sock = false := by
  rw [bashReadsRc]
  rcases h with h | h
  · rw [List.contains_iff_mem.mpr h]; exact Bool.and_false _
  · rw [eq_false_of_ne_true (mt List.contains_iff_mem.mp h), Bool.and_false, Bool.false_and]

end ShellEnv
