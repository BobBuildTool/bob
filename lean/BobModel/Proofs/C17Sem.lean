import BobModel.Proofs.C17Fuel
/-
C17: a fuel-free ("eventually") view of the parser functions and its introduction rules.
`GS … inp R` means: from some fuel on, `getString` on `inp` returns `R`.  The rules are the equations of
`C17Step` read through `Ev.succ` and `Ev.bind`, which hide the fuel; at the end the eventual result is
tied to the fuel that `parse` provides.
-/
namespace C17
open StringParser SubstSpec

/-- from some fuel on, `f` returns `R`.  `GS`, `GV`, `GC`, `GI`, `GO` below are written out, not defined
through `Ev`: each unfolds to `Ev (fun m => …) R` by `rfl`, and that is how `Ev.succ`, `Ev.bind`, `Ev.congr`
and `Ev.map` apply to them. -/
def Ev (f : Nat → Res) (R : Res) : Prop := ∃ n, ∀ m, n ≤ m → f m = R

def GS (cfg : Cfg) (E : List Char) (o k sb : Bool) (inp : Str) (R : Res) : Prop :=
  ∃ n, ∀ m, n ≤ m → getString cfg m E o k sb inp = R

def GV (cfg : Cfg) (sb : Bool) (inp : Str) (R : Res) : Prop :=
  ∃ n, ∀ m, n ≤ m → getVariable cfg m sb inp = R

def GC (cfg : Cfg) (sb : Bool) (inp : Str) (acc : List Str) (R : Res) : Prop :=
  ∃ n, ∀ m, n ≤ m → getCommand cfg m sb inp acc = R

/-- `Ev` for the item that starts with the delimiter `c` in front of `rest` -/
def GI (cfg : Cfg) (sb : Bool) (c : Char) (rest : Str) (R : Res) : Prop :=
  ∃ n, ∀ m, n ≤ m → item cfg m sb c rest = R

/-- `Ev` for `getVariable` from the operator `op` on -/
def GO (cfg : Cfg) (sb : Bool) (nm : Str) (u : Bool) (op : Char) (r3 : Str) (R : Res) : Prop :=
  ∃ n, ∀ m, n ≤ m → varOp cfg m sb nm u op r3 = R

namespace Ev
variable {f g : Nat → Res} {R : Res}

theorem const (R : Res) : Ev (fun _ => R) R := ⟨0, fun _ _ => rfl⟩

theorem congr (h : ∀ n, f n = g n) (hg : Ev g R) : Ev f R :=
  hg.imp fun _ hn m hm => (h m).trans (hn m hm)

theorem map (F : Res → Res) (h : Ev f R) : Ev (fun m => F (f m)) (F R) :=
  h.imp fun _ hn m hm => congrArg F (hn m hm)

/-- `f` with fuel `n + 1` does what `g` does with fuel `n` -/
theorem succ (h : ∀ n, f (n + 1) = g n) (hg : Ev g R) : Ev f R := by
  obtain ⟨n, hn⟩ := hg
  refine ⟨n + 1, fun m hm => ?_⟩
  obtain ⟨M, rfl⟩ : ∃ M, m = M + 1 := ⟨m - 1, by omega⟩
  exact (h M).trans (hn M (by omega))

/-- a call whose value is `A` and whose rest is `X`, then a continuation -/
theorem bind {A : Except PErr Str} {X : Str} {k : Nat → Str × Str → Res} {K : Str → Res}
    (hf : Ev f (bindE A fun v => .ok (v, X))) (hk : ∀ v, Ev (fun m => k m (v, X)) (K v)) :
    Ev (fun m => bindE (f m) (k m)) (bindE A K) := by
  obtain ⟨n1, h1⟩ := hf
  cases A with
  | error e => exact ⟨n1, fun m hm => congrArg (bindE · (k m)) (h1 m hm)⟩
  | ok v =>
    obtain ⟨n2, h2⟩ := hk v
    exact ⟨max n1 n2, fun m hm =>
      (congrArg (bindE · (k m)) (h1 m (by omega))).trans (h2 m (by omega))⟩

end Ev

/-! Constants of the current source that the rules rely on. -/

theorem esc_is_backslash : Consts.C17.escapeChar = '\\' := by decide
theorem base_sq : Consts.C17.baseDelims.contains '\'' = true := by decide
theorem base_dq : Consts.C17.baseDelims.contains '"' = true := by decide
theorem base_dollar : Consts.C17.baseDelims.contains '$' = true := by decide
theorem base_esc : Consts.C17.baseDelims.contains Consts.C17.escapeChar = false := by decide
theorem nameStart_not_special : ∀ c ∈ Consts.C17.nameStart, c ≠ '{' ∧ c ≠ '(' := by decide +kernel

theorem trigger_covers' :
    Consts.C17.trigger.contains Consts.C17.escapeChar = true ∧
    ∀ c ∈ Consts.C17.baseDelims, Consts.C17.trigger.contains c = true := by
  decide

theorem plain_lit (E : List Char) (c : Char) (h : (Consts.C17.trigger.contains c || E.contains c) = false) :
    isDelim E c = false ∧ c ≠ Consts.C17.escapeChar := by
  rw [Bool.or_eq_false_iff] at h
  constructor
  · rw [isDelim, h.2, Bool.or_false]
    refine Bool.eq_false_iff.mpr fun hb => ?_
    rw [trigger_covers'.2 c (by simpa using hb)] at h
    cases h.1
  · intro heq
    have := trigger_covers'.1
    rw [← heq, h.1] at this
    cases this

section first
variable {cfg : Cfg} {n : Nat} {E : List Char} {o k sb : Bool}

theorem getString_delim {c : Char} (rest : Str) (hc : isDelim E c = true) :
    getString cfg (n + 1) E o k sb (c :: rest) =
      if E.contains c then .ok ([], if k then c :: rest else rest)
      else bindE (item cfg n sb c rest) fun (s, r1) => cat s (getString cfg n E o k sb r1) := by
  rw [getString_succ, nextToken, if_pos hc]; rfl

theorem getString_scan {p : Char} (t : Str) (hp : isDelim E p = false) :
    getString cfg (n + 1) E o k sb (p :: t) =
      bindE (scan E (p :: t) []) fun (s, r) => cat s (getString cfg n E o k sb r) := by
  rw [getString_succ, nextToken, if_neg (by simp [hp])]
  cases scan E (p :: t) [] <;> rfl

end first

/-! Literals: what is scanned in front of `rest` is joined with the literal `rest` may start with. -/

theorem scan_app (E : List Char) (inp acc acc' : Str) :
    scan E inp (acc ++ acc') = cat acc'.reverse (scan E inp acc) := by
  fun_induction scan E inp acc <;> rw [scan.eq_def] <;> simp_all

section rules
variable {cfg : Cfg} {E : List Char} {o k sb : Bool}

/-- a scan that stops where the next token of `rest` starts, followed by `getString`, is `getString`
on `rest` -/
theorem GS_scan {rest : Str} {R : Res} (h : GS cfg E o k sb rest R) :
    Ev (fun m => bindE (scan E rest []) fun (s, r) => cat s (getString cfg m E o k sb r)) R := by
  cases rest with
  | nil => exact Ev.congr (fun _ => cat_nil _) h
  | cons d t =>
    cases hd : isDelim E d with
    | true => exact Ev.congr (fun _ => by rw [scan.eq_def]; simp only [hd, if_true]; exact cat_nil _) h
    | false => exact h.imp fun n hn m hm => (getString_scan t hd).symm.trans (hn _ (by omega))

/-- one literal step: if scanning `p :: pre'` in front of any `rest` just pushes `c`, then `getString`
on `p :: pre' ++ rest` is `c` in front of `getString` on `rest` -/
theorem GS_litstep (p : Char) (pre' rest : Str) (c : Char) (hpd : isDelim E p = false)
    (hscan : ∀ acc, scan E (p :: pre' ++ rest) acc = scan E rest (c :: acc))
    {R : Res} (h : GS cfg E o k sb rest R) : GS cfg E o k sb (p :: pre' ++ rest) (cat [c] R) := by
  refine Ev.succ (fun _ => getString_scan (pre' ++ rest) hpd) ?_
  rw [← List.cons_append, hscan, show scan E rest [c] = cat [c] (scan E rest []) from scan_app E rest [] [c]]
  exact ((GS_scan h).map (cat [c])).congr fun _ => bindE_cat_cat ..

theorem GS_eos : GS cfg E true k sb [] (.ok ([], [])) :=
  Ev.succ (fun _ => getString_succ ..) (.const _)

theorem GS_close {c : Char} {t : Str} (hc : E.contains c = true) :
    GS cfg E o k sb (c :: t) (.ok ([], if k then c :: t else t)) :=
  Ev.succ (fun _ => (getString_delim t (by rw [isDelim, hc, Bool.or_true])).trans (if_pos hc)) (.const _)

theorem GS_lit {c : Char} {rest : Str} (hnd : isDelim E c = false) (hne : c ≠ Consts.C17.escapeChar)
    {R : Res} (h : GS cfg E o k sb rest R) : GS cfg E o k sb (c :: rest) (cat [c] R) :=
  GS_litstep c [] rest c hnd (by intro acc; rw [scan.eq_def]; simp [hnd, hne]) h

/-- an item with value `A` in front of `X`, then the rest of the string from `X` on -/
theorem GS_item {c : Char} {rest X : Str} (hb : Consts.C17.baseDelims.contains c = true)
    (hE : E.contains c = false) (A : Except PErr Str) {RX : Res}
    (h1 : GI cfg sb c rest (bindE A fun v => .ok (v, X))) (h2 : GS cfg E o k sb X RX) :
    GS cfg E o k sb (c :: rest) (bindE A fun v => cat v RX) :=
  Ev.succ (fun _ => (getString_delim rest (by rw [isDelim, hb, Bool.true_or])).trans
    (if_neg (ne_true_of_eq_false hE))) (Ev.bind h1 fun v => Ev.map (cat v) h2)

end rules

section items
variable {cfg : Cfg} {sb : Bool}

theorem getSingleQuoted_app (s rest : Str) (hs : s.contains '\'' = false) :
    getSingleQuoted (s ++ '\'' :: rest) = .ok (s, rest) := by
  induction s with
  | nil => simp [getSingleQuoted]
  | cons c s ih =>
    simp only [List.contains_cons, Bool.or_eq_false_iff] at hs
    have hc : c ≠ '\'' := by intro h; subst h; simp at hs
    simp only [List.cons_append, getSingleQuoted, hc, if_false, ih hs.2]

theorem GI_sq {s : Str} (rest : Str) (hs : s.contains '\'' = false) :
    GI cfg sb '\'' (s ++ '\'' :: rest) (.ok (s, rest)) :=
  ⟨0, fun _ _ => getSingleQuoted_app s rest hs⟩

theorem GI_dq {inner : Str} {R : Res} (h : GS cfg ctxDq false false sb inner R) : GI cfg sb '"' inner R :=
  Ev.congr (fun _ => rfl) h

theorem GI_var {r0 : Str} {R : Res} (h : GV cfg sb r0 R) : GI cfg sb '$' ('{' :: r0) R :=
  Ev.congr (fun _ => rfl) h

theorem GI_cmd {r0 : Str} {R : Res} (h : GC cfg sb r0 [] R) : GI cfg sb '$' ('(' :: r0) R :=
  Ev.congr (fun _ => rfl) h

theorem GI_bare {d : Char} {r0 nm r1 : Str} (hd : Consts.C17.nameStart.contains d = true)
    (hr : getRestOfName r0 = (nm, r1)) :
    GI cfg sb '$' (d :: r0) (bindE (varValue cfg sb (d :: nm)) fun v => .ok (v, r1)) :=
  ⟨0, fun m _ => by
    have hsp := nameStart_not_special d (by simpa using hd)
    simp only [item, show ('$' = '"') = False by decide, show ('$' = '\'') = False by decide, if_false,
      nextChar, bindE_ok, hsp.1, hsp.2, hd, if_true, hr]⟩

end items

/-! Rules for `getVariable` and `getCommand`.  `A` is the value of the name resp. the word in front; a rule passes its error on. -/

section rules2
variable {cfg : Cfg} {sb : Bool}

/-- the operator `op` after an optional colon is seen by `getVariable` as it is written -/
theorem GV_op (colon : Bool) (op : Char) (hop : op ≠ ':') {inp r3 : Str} {A : Except PErr Str}
    {K : Str → Res}
    (h1 : GS cfg ctxName false true sb inp (bindE A fun nm => .ok (nm, colonStr colon ++ op :: r3)))
    (h2 : ∀ nm, GO cfg sb nm (isUnset cfg colon nm) op r3 (K nm)) : GV cfg sb inp (bindE A K) := by
  refine Ev.succ (fun _ => getVariable_succ ..) (Ev.bind h1 fun nm => Ev.congr (fun m => ?_) (h2 nm))
  cases colon with
  | true => rfl
  | false => simp only [colonStr, Bool.false_eq_true, if_false, List.nil_append, bindE_ok, nextChar, hop,
      decide_false]

theorem GO_close {nm : Str} {u : Bool} {r3 : Str} :
    GO cfg sb nm u '}' r3 (bindE (varValue cfg sb nm) fun v => .ok (v, r3)) :=
  ⟨0, fun _ _ => rfl⟩

theorem GO_dflt {nm : Str} {u : Bool} {r3 X : Str} {B : Except PErr Str}
    (h : GS cfg ctxBranch false false (sb && u) r3 (bindE B fun d => .ok (d, X))) :
    GO cfg sb nm u '-' r3 (bindE B fun d => .ok (if u then d else (lookup cfg.env nm).getD [], X)) :=
  Ev.congr (fun _ => rfl) (Ev.bind h fun _ => .const _)

theorem GO_altv {nm : Str} {u : Bool} {r3 X : Str} {B : Except PErr Str}
    (h : GS cfg ctxBranch false false (sb && !u) r3 (bindE B fun a => .ok (a, X))) :
    GO cfg sb nm u '+' r3 (bindE B fun a => .ok (if u then [] else a, X)) :=
  Ev.congr (fun _ => rfl) (Ev.bind h fun _ => .const _)

theorem GC_last {inp r2 : Str} {acc : List Str} {A : Except PErr Str}
    (h1 : GS cfg ctxWord false true sb inp (bindE A fun w => .ok (w, ')' :: r2))) :
    GC cfg sb inp acc (bindE A fun w => finish cfg sb (w :: acc) r2) :=
  Ev.succ (fun _ => getCommand_succ ..) (Ev.bind h1 fun _ => .const _)

theorem GC_more {inp r2 : Str} {acc : List Str} {A : Except PErr Str} {K : Str → Res}
    (h1 : GS cfg ctxWord false true sb inp (bindE A fun w => .ok (w, ',' :: r2)))
    (h2 : ∀ w, GC cfg sb r2 (w :: acc) (K w)) : GC cfg sb inp acc (bindE A K) :=
  Ev.succ (fun _ => getCommand_succ ..) (Ev.bind h1 h2)

end rules2

theorem getString_of_GS {cfg : Cfg} {E : List Char} {o k sb : Bool} {inp : Str} {R : Res}
    (h : GS cfg E o k sb inp R) {n : Nat} (hn : 2 * inp.length + 1 ≤ n) :
    getString cfg n E o k sb inp = R := by
  obtain ⟨m, hm⟩ := h
  rw [← hm _ (Nat.le_max_right n m)]
  exact (mono_le cfg (Nat.le_max_left n m) E o k sb inp (((fuelSteps cfg n).S ..).total hn)).symm

/-- a text without trigger characters is one literal after the other -/
theorem getString_plain (cfg : Cfg) (text : Str) (h : hasMeta text = false) :
    getString cfg (fuelFor text) [] true false true text = .ok (text, []) := by
  refine getString_of_GS ?_ (by unfold fuelFor; omega)
  unfold hasMeta at h
  induction text with
  | nil => exact GS_eos
  | cons c rest ih =>
    rw [List.any_cons, Bool.or_eq_false_iff] at h
    have ⟨hd, he⟩ := plain_lit [] c (by rw [h.1]; rfl)
    exact GS_lit hd he (ih h.2)

/-- the value of a top-level result (the rest is dropped by `parse`) -/
def valOf (R : Except PErr (Str × Str)) : Except PErr Str :=
  match R with
  | .error e => .error e
  | .ok (s, _) => .ok s

/-- `parse` is `getString` at top level with fuel `fuelFor`, fast path or not -/
theorem parse_eq (cfg : Cfg) (text : Str) :
    parse cfg text = valOf (getString cfg (fuelFor text) [] true false true text) := by
  unfold parse
  cases h : hasMeta text with
  | false => simp [getString_plain cfg text h, valOf]
  | true =>
    simp only [Bool.not_true, Bool.false_eq_true, if_false]
    cases getString cfg (fuelFor text) [] true false true text with
    | error e => rfl
    | ok p => cases p; rfl

theorem parse_of_eventually {cfg : Cfg} {text : Str} {R : Res} (h : GS cfg [] true false true text R) :
    parse cfg text = valOf R := by
  rw [parse_eq, getString_of_GS h (by unfold fuelFor; omega)]

end C17
