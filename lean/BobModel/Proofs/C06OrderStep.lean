import BobModel.Proofs.C06Step
/-
What the invariants of **once**, **deps_first** and of the dataflow need to know of the operations besides the rules
of `Step`: which operations belong to a lock section and which step they name, which create cook tasks, what
`_cookStep` pushes, that only the creation of cook tasks adds to their table, and that only the end of a script writes
to a workspace (`Step.disk`).
-/
namespace Sched
open JobSem

/-- operations of a lock section -/
def Op.sec : Op → Bool
  | .underLock _ _ | .run _ | .runWait _ _ | .setRun _ _ => true
  | _ => false

/-- the step an operation locks / runs / records -/
def Op.relStep : Op → Option Nat
  | .lock s _ _ | .lockWait s _ _ | .underLock s _ | .run s | .runWait s _ | .setRun s _ => some s
  | _ => none

theorem sec_iff_section {P : Project} {o : Op} : o.sec = true ↔ ∃ p, o.section? P = some p := by
  cases o <;> simp [Op.sec, Op.section?]

theorem section_relStep {P : Project} {o : Op} {p : Nat} (h : o.section? P = some p) :
    ∃ s, o.relStep = some s ∧ (P.info s).path = p := by
  cases o <;> simp [Op.section?, Op.relStep] at h ⊢ <;> exact h

theorem relStep_none_sec {o : Op} (h : o.relStep = none) : o.sec = false := by
  cases o with
  | underLock | run | runWait | setRun => cases h
  | _ => rfl

/-- operations that create cook tasks -/
def Op.makesCook : Op → Bool
  | .spawn .cook _ _ | .spawnSeq .cook _ _ _ => true
  | _ => false

/-- the operations of `cookBodyOps P s co` belong to no lock section, name no step but `s`, and create no task but
the build-id task; the `lock` that leads to the script is among them -/
theorem cookBodyOps_all (P : Project) (s : Nat) (co : Bool) :
    (cookBodyOps P s co).all (fun o => !o.sec && (o.relStep == none || o.relStep == some s) && !o.makesCook) = true ∧
    Op.lock s co false ∈ cookBodyOps P s co := by
  obtain ⟨pre, c, e, hp⟩ := cookBodyOps_eq P s co
  rw [e]
  rcases hp with rfl | rfl <;> simp [Op.sec, Op.relStep, Op.makesCook]

theorem createTask_bid_cookT (P : Project) (st : St) (s : Nat) (co : Bool) :
    (createTask P st .bid s co).1.cookT = st.cookT := by
  unfold createTask
  simp only
  split <;> rfl

theorem createTasks_bid_cookT (P : Project) (co : Bool) : ∀ (steps : List Nat) (st : St),
    (createTasks P .bid co steps st).1.cookT = st.cookT
  | [], _ => rfl
  | s :: r, st => by
    simp only [createTasks]
    rw [createTasks_bid_cookT P co r, createTask_bid_cookT]

theorem createTops_cookT : ∀ (targets : List Nat) (st : St), (createTops targets st).1.cookT = st.cookT
  | [], _ => rfl
  | s :: r, st => by
    simp only [createTops]
    rw [createTops_cookT r]
    rfl

theorem underLockOps_mem {P : Project} {s : Nat} {co : Bool} {o : Op} (ho : o ∈ underLockOps P s co) :
    o = .spawn .bid [s] false ∨ o = .run s ∨ ∃ sk, o = .setRun s sk := by
  rcases underLockOps_cases P s co with ⟨_, e | e⟩ | ⟨_, e⟩ <;> rw [e] at ho <;>
    simp only [List.mem_cons, List.not_mem_nil, or_false] at ho
  · rcases ho with h | h <;> simp [h]
  · rcases ho with h | h | h <;> simp [h]
  · simp [ho]

/-- only the end of a script writes to a workspace -/
theorem Step.disk {P : Project} {cfg : Cfg} {st st' : St} {t : Nat} {op : Op} {rest : List Op}
    (hne : ∀ s r, op ≠ .runWait s r) (h : Step P cfg st t op rest st') : st'.disk = st.disk := by
  cases h with
  | rule hr =>
    cases hr with
    | @spawnPar trk steps co => obtain ⟨_, hg⟩ := createTasks_spawn P trk co steps st; exact hg.disk
    | @seqNext trk s todo made co => obtain ⟨_, hg⟩ := createTask_spawn P st trk s co; exact hg.disk
    | @topPar targets => obtain ⟨_, hg⟩ := createTops_spawn targets st; exact hg.disk
    | download => simp only [setTask_disk]; split <;> rfl
    | finish | finOk => exact absurd rfl (hne _ _)
    | _ => rfl
  | raise hr =>
    cases hr with
    | finFail => exact absurd rfl (hne _ _)
    | _ => rfl
  | tok hr => cases hr <;> rfl
  | endOk => simp only [setTask_disk, emit_disk]; generalize (st.task t).kind = kd; cases kd <;> rfl
  | _ => rfl

end Sched
