import BobModel.Proofs.C19Spec
import BobModel.Proofs.C19Order
/-
C19: the insertion queue of `RetainExpression.evaluate`.
-/
namespace Retention

theorem notWorse_total (asc : Bool) (a b : Option Str) : notWorse asc a b = true ∨ notWorse asc b a = true := by
  cases a <;> cases b <;> simp [notWorse]
  rename_i x y
  cases asc <;> simp
  · exact (strLe_total y x)
  · exact (strLe_total x y)

theorem notWorse_trans {asc : Bool} {a b c : Option Str}
    (h1 : notWorse asc a b = true) (h2 : notWorse asc b c = true) : notWorse asc a c = true := by
  cases a <;> cases b <;> cases c <;> simp [notWorse] at h1 h2 ⊢
  rename_i x y z
  cases asc <;> simp at h1 h2 ⊢
  · exact strLe_trans h2 h1
  · exact strLe_trans h1 h2

/-- `cmpItem(existing, new)`: the new item goes in front if it has a sort key and ranks at least as high -/
theorem cmpItem_eq (asc : Bool) (e n : Option Str) : cmpItem asc e n = (n.isSome && notWorse asc n e) := by
  cases n <;> cases e <;> rfl

theorem cmpItem_true {asc : Bool} {e n : Option Str} (h : cmpItem asc e n = true) : notWorse asc n e = true :=
  (Bool.and_eq_true_iff.mp (cmpItem_eq asc e n ▸ h)).2

theorem cmpItem_false {asc : Bool} {e n : Option Str} (h : cmpItem asc e n = false) : notWorse asc e n = true := by
  cases n with
  | none => cases e <;> rfl
  | some n =>
    have hn : notWorse asc (some n) e = false := (cmpItem_eq asc e (some n)).symm.trans h
    exact (notWorse_total asc e (some n)).resolve_right (hn ▸ Bool.false_ne_true)

def Sorted (asc : Bool) (q : List (Bid × Option Str)) : Prop :=
  q.Pairwise (fun x y => notWorse asc x.2 y.2 = true)

theorem insertQ_is (asc : Bool) : SortKey.IsIns (fun x e => cmpItem asc e.2 x.2) fun x q => insertQ asc q x :=
  ⟨fun _ => rfl, fun _ _ _ => rfl⟩

theorem perm_insertQ (asc : Bool) (x : Bid × Option Str) (q : List (Bid × Option Str)) : (insertQ asc q x).Perm (x :: q) :=
  (insertQ_is asc).perm x q

theorem sorted_insertQ {asc : Bool} {q : List (Bid × Option Str)} (x : Bid × Option Str) (h : Sorted asc q) :
    Sorted asc (insertQ asc q x) :=
  (insertQ_is asc).pairwise (R := fun x y => notWorse asc x.2 y.2 = true) notWorse_trans cmpItem_true
    (fun hc => cmpItem_false (Bool.eq_false_iff.mpr hc)) x h

/-- the item only has to be compared with the part of the queue that survives the `LIMIT` -/
theorem take_insertQ (asc : Bool) (x : Bid × Option Str) : ∀ (q : List (Bid × Option Str)) (n : Nat),
    (insertQ asc (q.take n) x).take n = (insertQ asc q x).take n
  | _, 0 => by rw [List.take_zero, List.take_zero]
  | [], _ + 1 => rfl
  | e :: rest, n + 1 => by
    rw [List.take_succ_cons, insertQ, insertQ]
    split
    · have : e :: rest.take n = (e :: rest).take (n + 1) := rfl
      simp only [List.take_succ_cons]
      rw [this, List.take_take, Nat.min_eq_left (Nat.le_succ n)]
    · simp only [List.take_succ_cons]
      rw [take_insertQ asc x rest n]

/-- all selected items in queue order: what the queue would hold without the `LIMIT` -/
def ranked (asc : Bool) (P : List (Bid × Option Str)) : List (Bid × Option Str) := P.foldl (insertQ asc) []

theorem ranked_concat (asc : Bool) (P : List (Bid × Option Str)) (x : Bid × Option Str) :
    ranked asc (P ++ [x]) = insertQ asc (ranked asc P) x := by
  rw [ranked, List.foldl_append]; rfl

theorem sorted_ranked (asc : Bool) (P : List (Bid × Option Str)) : Sorted asc (ranked asc P) :=
  List.foldlRecOn P (insertQ asc) .nil fun _ h x _ => sorted_insertQ x h

theorem perm_foldl_insertQ {asc : Bool} : ∀ (P acc : List (Bid × Option Str)), (P.foldl (insertQ asc) acc).Perm (acc ++ P)
  | [], acc => by rw [List.append_nil]; exact .refl _
  | x :: P, acc =>
    (perm_foldl_insertQ P (insertQ asc acc x)).trans (((perm_insertQ asc x acc).append_right P).trans List.perm_middle.symm)

theorem perm_ranked (asc : Bool) (P : List (Bid × Option Str)) : (ranked asc P).Perm P :=
  perm_foldl_insertQ P []

/-- `retained` and `queue` of an expression with `LIMIT` hold the same build ids, each once: a `pop` then removes from
`retained` exactly the item that left the queue -/
structure Agree (st : EState) : Prop where
  retNodup : st.retained.Nodup
  qNodup : (st.queue.map (·.1)).Nodup
  mem : ∀ b, b ∈ st.retained ↔ b ∈ st.queue.map (·.1)

theorem agree_push {st : EState} (h : Agree st) {b : Bid} (hb : b ∉ st.retained) (asc : Bool) (k : Option Str) :
    Agree ⟨b :: st.retained, insertQ asc st.queue (b, k)⟩ := by
  have hp := (perm_insertQ asc (b, k) st.queue).map (·.1)
  refine ⟨List.nodup_cons.mpr ⟨hb, h.retNodup⟩, hp.nodup_iff.mpr ?_, fun b' => ?_⟩
  · exact List.nodup_cons.mpr ⟨fun hm => hb ((h.mem b).mpr hm), h.qNodup⟩
  · rw [hp.mem_iff, List.map_cons, List.mem_cons, List.mem_cons, h.mem]

theorem popOne_concat (ret : List Bid) (init : List (Bid × Option Str)) (v : Bid × Option Str) :
    popOne ⟨ret, init ++ [v]⟩ = ⟨ret.filter (fun b => b != v.1), init⟩ := by
  simp [popOne]

theorem popOne_spec {st : EState} (h : Agree st) : Agree (popOne st) ∧ (popOne st).queue = st.queue.dropLast := by
  obtain ⟨ret, q⟩ := st
  rcases List.eq_nil_or_concat q with rfl | ⟨init, v, rfl⟩
  · exact ⟨h, rfl⟩
  · obtain ⟨h1, h2, h3⟩ := h
    simp only [List.concat_eq_append, List.map_append, List.map_cons, List.map_nil, List.nodup_append, List.mem_singleton,
      List.mem_append] at h2 h3
    rw [List.concat_eq_append, popOne_concat, List.dropLast_concat]
    refine ⟨⟨h1.sublist List.filter_sublist, h2.1, fun b => ?_⟩, rfl⟩
    -- the build id that goes is not the build id of another item of the queue
    have hv : b ∈ init.map (·.1) → b ≠ v.1 := fun hb => h2.2.2 b hb v.1 rfl
    rw [List.mem_filter, h3, bne_iff_ne]
    exact ⟨fun hb => hb.1.resolve_right hb.2, fun hb => ⟨Or.inl hb, hv hb⟩⟩

theorem popN_spec (n : Nat) {st : EState} (h : Agree st) :
    Agree (popN n st) ∧ (popN n st).queue = st.queue.take (st.queue.length - n) := by
  induction n generalizing st with
  | zero => exact ⟨h, List.take_length.symm⟩
  | succ n ih =>
    obtain ⟨h1, h2⟩ := popOne_spec h
    obtain ⟨h3, h4⟩ := ih h1
    refine ⟨h3, ?_⟩
    rw [popN, h4, h2, List.length_dropLast, List.dropLast_eq_take, List.take_take, Nat.min_eq_left (Nat.sub_le _ _),
      Nat.sub_sub, Nat.add_comm]

theorem trim_spec (lim : Nat) {st : EState} (h : Agree st) :
    Agree (trim lim st) ∧ (trim lim st).queue = st.queue.take lim := by
  obtain ⟨h1, h2⟩ := popN_spec (st.queue.length - lim) h
  refine ⟨h1, h2.trans ?_⟩
  rcases Nat.le_total lim st.queue.length with hl | hl
  · rw [Nat.sub_sub_self hl]
  · rw [Nat.sub_eq_zero_of_le hl, Nat.sub_zero, List.take_length, List.take_of_length_le hl]

/-- invariant of one `RetainExpression` with `LIMIT lim` after the matching artifacts `P` were evaluated -/
structure Inv (asc : Bool) (lim : Nat) (P : List (Bid × Option Str)) (st : EState) : Prop where
  sorted : Sorted asc st.queue
  sub : ∀ x ∈ st.queue, x ∈ P
  ret : ∀ b, b ∈ st.retained ↔ ∃ k, (b, k) ∈ st.queue
  dropped : ∀ d ∈ P, d ∉ st.queue → st.queue.length = lim ∧ ∀ q ∈ st.queue, notWorse asc q.2 d.2 = true
  len : st.queue.length = min lim P.length
  retNodup : st.retained.Nodup
  qNodup : (st.queue.map (·.1)).Nodup

/-- The queue holds the first `lim` of all selected items in queue order, so whatever is not in it ranks no
higher than anything that is. -/
theorem inv_of_ranked {asc : Bool} {lim : Nat} {P : List (Bid × Option Str)} {st : EState}
    (hq : st.queue = (ranked asc P).take lim) (ha : Agree st) : Inv asc lim P st := by
  have hlen : (ranked asc P).length = P.length := (perm_ranked asc P).length_eq
  refine ⟨hq ▸ (sorted_ranked asc P).take, fun x hx => ?_, fun b => ?_, fun d hd hdq => ?_, ?_, ha.retNodup, ha.qNodup⟩
  · exact (perm_ranked asc P).mem_iff.mp (List.mem_of_mem_take (hq ▸ hx))
  · rw [ha.mem, List.mem_map]
    exact ⟨fun ⟨x, hx, hb⟩ => ⟨x.2, hb ▸ hx⟩, fun ⟨k, hk⟩ => ⟨(b, k), hk, rfl⟩⟩
  · -- `d` is among the items beyond the first `lim`
    rw [hq] at hdq ⊢
    have hd' : d ∈ (ranked asc P).drop lim := by
      have := (perm_ranked asc P).mem_iff.mpr hd
      rw [← List.take_append_drop lim (ranked asc P), List.mem_append] at this
      exact this.resolve_left hdq
    refine ⟨?_, fun q hq' => (sorted_ranked asc P).rel_of_mem_take_of_mem_drop hq' hd'⟩
    have := List.length_pos_of_mem hd'
    rw [List.length_drop] at this
    rw [List.length_take]
    omega
  · rw [hq, List.length_take, hlen]

end Retention
