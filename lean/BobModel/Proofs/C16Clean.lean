import BobModel.Model.Clean
import BobModel.Proofs.CommonSort
/-
`bob clean`: the recursive `walk` of `collectPaths` visits exactly the packages reachable from the
root and does not run out of fuel; the op list of `doClean` and its effect on the world.
-/
namespace BobClean
open BobDirs (Str lookup)

/-- reachability over `getDirectDepSteps()` -/
inductive Reach (g : Graph) (root : Nat) : Nat → Prop
  | root : Reach g root root
  | step {i d : Nat} {p : Pkg} : Reach g root i → g.get i = some p → d ∈ p.deps → Reach g root d

/-- every finished package has all its dependencies finished, except those still on the call stack `S` -/
def Closed (g : Graph) (D S : List Nat) : Prop :=
  ∀ q ∈ D, q ∈ S ∨ ∀ p, g.get q = some p → ∀ d ∈ p.deps, d ∈ D

/-- the paths of every finished package were added -/
def PInv (g : Graph) (st : States) (acc : List Nat × List Str) : Prop :=
  ∀ q ∈ acc.1, ∀ p, g.get q = some p → ∀ x ∈ pathsOf st p, x ∈ acc.2

/-- only paths of packages reachable from the root were added -/
def Sound (g : Graph) (st : States) (root : Nat) (paths : List Str) : Prop :=
  ∀ x ∈ paths, ∃ q p, Reach g root q ∧ g.get q = some p ∧ x ∈ pathsOf st p

/-- what a stretch of the walk does to the accumulator, whatever it visits -/
structure WalkOk (g : Graph) (st : States) (acc acc' : List Nat × List Str) : Prop where
  mono : ∀ x ∈ acc.1, x ∈ acc'.1
  closed : ∀ S, Closed g acc.1 S → Closed g acc'.1 S
  pinv : PInv g st acc → PInv g st acc'

variable {g : Graph} {st : States}

theorem WalkOk.refl (g : Graph) (st : States) (a : List Nat × List Str) : WalkOk g st a a :=
  ⟨fun _ h => h, fun _ h => h, fun h => h⟩

theorem WalkOk.trans {a b c : List Nat × List Str}
    (h1 : WalkOk g st a b) (h2 : WalkOk g st b c) : WalkOk g st a c :=
  ⟨fun x h => h2.mono x (h1.mono x h), fun S h => h2.closed S (h1.closed S h), fun h => h2.pinv (h1.pinv h)⟩

/-- `i` is marked finished when its visit begins, and is on the call stack until it ends -/
theorem closed_push {g : Graph} {D S : List Nat} (i : Nat) (h : Closed g D S) :
    Closed g (i :: D) (i :: S) := by
  intro q hq
  rcases List.mem_cons.mp hq with heq | hmem
  · exact Or.inl (by simp [heq])
  · rcases h q hmem with h1 | h1
    · exact Or.inl (List.mem_cons_of_mem _ h1)
    · exact Or.inr (fun p hp d hd => List.mem_cons_of_mem _ (h1 p hp d hd))

/-- visiting `i`: once the walk below `i` is done (`w`), the dependencies of `i` are finished and its
paths are among the collected ones -/
theorem WalkOk.push {acc acc' : List Nat × List Str} {i : Nat} {P : List Str}
    (w : WalkOk g st (i :: acc.1, P) acc') (hsub : ∀ x ∈ acc.2, x ∈ P)
    (hdeps : ∀ p, g.get i = some p → ∀ d ∈ p.deps, d ∈ acc'.1)
    (hpaths : ∀ p, g.get i = some p → ∀ x ∈ pathsOf st p, x ∈ P) : WalkOk g st acc acc' := by
  refine ⟨fun x hx => w.mono x (List.mem_cons_of_mem _ hx), fun S hS q hq => ?_,
    fun hP => w.pinv fun q hq p hp x hx => ?_⟩
  · -- `i` is on the call stack while its dependencies are walked
    rcases w.closed (i :: S) (closed_push i hS) q hq with h2 | h2
    · rcases List.mem_cons.mp h2 with rfl | hmem
      · exact Or.inr hdeps
      · exact Or.inl hmem
    · exact Or.inr h2
  · rcases List.mem_cons.mp hq with rfl | hmem
    · exact hpaths p hp x hx
    · exact hsub x (hP q hmem p hp x hx)

/-- what a successful call of `walk` for `i` achieves: `i` is finished, and if `i` is reachable from
a root only paths of packages reachable from that root are added -/
def Visit (g : Graph) (st : States) (acc : List Nat × List Str) (i : Nat) (acc' : List Nat × List Str) : Prop :=
  (WalkOk g st acc acc' ∧ i ∈ acc'.1) ∧
    ∀ root, Reach g root i → Sound g st root acc.2 → Sound g st root acc'.2

/-- the loop over the dependencies, given `Visit` for every recursive call -/
theorem fold_visit {f : Nat} (ih : ∀ acc i acc', walk g st f acc i = some acc' → Visit g st acc i acc')
    (deps : List Nat) (a a' : List Nat × List Str)
    (h : deps.foldlM (fun a d => walk g st f a d) a = some a') :
    (WalkOk g st a a' ∧ ∀ d ∈ deps, d ∈ a'.1) ∧
      ∀ root, (∀ d ∈ deps, Reach g root d) → Sound g st root a.2 → Sound g st root a'.2 := by
  induction deps generalizing a with
  | nil => cases h; exact ⟨⟨WalkOk.refl _ _ _, nofun⟩, fun _ _ hs => hs⟩
  | cons d rest ihd =>
    simp only [List.foldlM_cons, bind, Option.bind_eq_some_iff] at h
    obtain ⟨a1, h1, h2⟩ := h
    obtain ⟨⟨w1, m1⟩, s1⟩ := ih a d a1 h1
    obtain ⟨⟨w2, m2⟩, s2⟩ := ihd a1 h2
    refine ⟨⟨w1.trans w2, fun x hx => ?_⟩, fun root hr hs =>
      s2 root (fun x hx => hr x (List.mem_cons_of_mem _ hx)) (s1 root (hr d List.mem_cons_self) hs)⟩
    rcases List.mem_cons.mp hx with rfl | hmem
    · exact w2.mono x m1
    · exact m2 x hmem

theorem walk_visit (g : Graph) (st : States) (fuel : Nat) (acc : List Nat × List Str) (i : Nat)
    (acc' : List Nat × List Str) (h : walk g st fuel acc i = some acc') : Visit g st acc i acc' := by
  fun_induction walk g st fuel acc i generalizing acc' with
  | case1 _ acc i hc => cases h; exact ⟨⟨WalkOk.refl _ _ _, by simpa using hc⟩, fun _ _ hs => hs⟩
  | case2 => cases h
  | case3 acc i hc f hg =>
    cases h
    exact ⟨⟨(WalkOk.refl _ _ _).push (fun _ hx => hx) (fun p hp => nomatch hg.symm.trans hp)
      (fun p hp => nomatch hg.symm.trans hp), List.mem_cons_self⟩, fun _ _ hs => hs⟩
  | case4 acc i hc f p hg ih =>
    obtain ⟨⟨w, m⟩, s⟩ := fold_visit ih p.deps _ acc' h
    refine ⟨⟨w.push (fun _ hx => List.mem_append_left _ hx) (fun p' hp' => ?_) (fun p' hp' x hx => ?_),
      w.mono i List.mem_cons_self⟩, fun root hri hs => s root (fun d hd => hri.step hg hd) fun x hx => ?_⟩
    · cases hg.symm.trans hp'; exact m
    · cases hg.symm.trans hp'; exact List.mem_append_right _ hx
    · exact (List.mem_append.mp hx).elim (hs x) fun hx => ⟨i, p, hri, hg, hx⟩

theorem reach_in_closed {g : Graph} {root : Nat} {D : List Nat} (hc : Closed g D []) (hr : root ∈ D)
    {q : Nat} (h : Reach g root q) : q ∈ D := by
  induction h with
  | root => exact hr
  | step _ hg hd ih =>
    rcases hc _ ih with h1 | h1
    · cases h1
    · exact h1 _ hg _ hd

theorem mem_collectPaths {fuel root : Nat} {used : List Str}
    (h : collectPaths g st fuel root = some used) {d : Str} :
    d ∈ used ↔ ∃ q p, Reach g root q ∧ g.get q = some p ∧ d ∈ pathsOf st p := by
  obtain ⟨acc', hw, rfl⟩ := Option.map_eq_some_iff.mp h
  obtain ⟨⟨w, m⟩, s⟩ := walk_visit g st fuel _ _ _ hw
  constructor
  · exact s root Reach.root nofun d
  · rintro ⟨q, p, hr, hg, hx⟩
    exact w.pinv nofun q (reach_in_closed (w.closed [] nofun) m hr) p hg d hx

variable {o : Opts} {w : World}

theorem sortStr_is : SortKey.IsSort leStr insertSorted sortStr :=
  ⟨⟨fun _ => rfl, fun _ _ _ => rfl⟩, rfl, fun _ _ => rfl⟩

theorem mem_sortStr (x : Str) (l : List Str) : x ∈ sortStr l ↔ x ∈ l :=
  (sortStr_is.perm l).mem_iff

theorem mem_delPaths {used : List Str} {d : Str} :
    d ∈ delPaths o w used ↔ d ∈ delCandidates o w used := by
  unfold delPaths
  exact mem_sortStr _ _

theorem buildUsed_iff (st : States) (s : Step) (q : Str) :
    buildUsed st s q = true ↔ lookup st q = none ∨ lookup st q = some (.build s.vid) := by
  unfold buildUsed
  cases lookup st q with
  | none => simp
  | some v => cases v <;> simp [eq_comm]

theorem pkgUsed_iff (st : States) (s : Step) (q : Str) :
    pkgUsed st s q = true ↔ lookup st q = none ∨ lookup st q = some (.pkg s.vid) := by
  unfold pkgUsed
  cases lookup st q with
  | none => simp
  | some v => cases v <;> simp [eq_comm]

theorem mem_pathsOf {st : States} {p : Pkg} {d : Str} :
    d ∈ pathsOf st p ↔
      (p.checkout.valid = true ∧ p.checkout.path = some d) ∨
      (p.build.valid = true ∧ p.build.path = some d ∧
        (lookup st d = none ∨ lookup st d = some (.build p.build.vid))) ∨
      (p.package.path = some d ∧ (lookup st d = none ∨ lookup st d = some (.pkg p.package.vid))) := by
  unfold pathsOf
  rw [List.mem_append, List.mem_append, or_assoc]
  refine or_congr ?_ (or_congr ?_ ?_)
  · cases p.checkout.valid <;> simp
  · cases p.build.valid <;> cases p.build.path <;> simp [buildUsed_iff, eq_comm (a := d), and_comm]
    exact fun e => e ▸ Iff.rfl
  · cases p.package.path <;> simp [pkgUsed_iff, eq_comm (a := d), and_comm]
    exact fun e => e ▸ Iff.rfl

theorem mayClean_iff {d : Str} :
    mayClean o w d = true ↔ o.src = true ∧ (o.force = true ∨ d ∈ w.expendable) := by
  unfold mayClean
  cases o.src <;> cases o.force <;> simp

theorem mem_delCandidates {used : List Str} {d : Str} (hm : o.mode ≠ .attic) :
    d ∈ delCandidates o w used ↔
      (∃ isSrc, (d, isSrc) ∈ allPaths o w ∧ (isSrc = true → mayClean o w d = true)) ∧ d ∈ w.existing ∧ d ∉ used := by
  unfold delCandidates
  split
  · contradiction
  · simp only [List.mem_map, List.mem_filter, Bool.and_eq_true, Bool.not_eq_eq_eq_not, Bool.not_true,
      Bool.or_eq_true, List.contains_eq_mem, decide_eq_false_iff_not, decide_eq_true_eq]
    constructor
    · rintro ⟨⟨d0, isSrc⟩, ⟨hall, ⟨hnot, hex⟩, hsrc⟩, rfl⟩
      exact ⟨⟨isSrc, hall, fun hs => hsrc.resolve_left (by simp [hs])⟩, hex, hnot⟩
    · rintro ⟨⟨isSrc, hall, hsrc⟩, hex, hnot⟩
      refine ⟨(d, isSrc), ⟨hall, ⟨hnot, hex⟩, ?_⟩, rfl⟩
      cases isSrc
      · exact Or.inl rfl
      · exact Or.inr (hsrc rfl)

theorem mem_delCandidates_attic {used : List Str} {d : Str} (hm : o.mode = .attic) :
    d ∈ delCandidates o w used ↔ d ∈ w.attic ∧ d ∈ w.existing ∧ (o.force = true ∨ d ∈ w.atticExpendable) := by
  unfold delCandidates
  simp only [hm, List.mem_filter, Bool.and_eq_true, Bool.or_eq_true, List.contains_eq_mem, decide_eq_true_eq]

theorem doClean_eq_some {fuel root : Nat} {r : Result}
    (h : doClean o w g fuel root = some r) :
    ∃ used, (if o.mode = .attic then some [] else collectPaths g w.states fuel root) = some used ∧
      r.del = delPaths o w used ∧ r.ops = cleanOps o w r.del ∧ r.world = r.ops.foldl applyOp w := by
  unfold doClean at h
  generalize (if o.mode = .attic then some [] else collectPaths g w.states fuel root) = u at h ⊢
  cases u with
  | none => cases h
  | some used => cases h; exact ⟨used, rfl, rfl, rfl, rfl⟩

theorem mem_del_iff {fuel root : Nat} {r : Result} (hmode : o.mode ≠ .attic)
    (h : doClean o w g fuel root = some r) {d : Str} :
    d ∈ r.del ↔
      (∃ isSrc, (d, isSrc) ∈ allPaths o w ∧ (isSrc = true → mayClean o w d = true)) ∧ d ∈ w.existing ∧
        ∀ q p, Reach g root q → g.get q = some p → d ∉ pathsOf w.states p := by
  obtain ⟨used, hused, hdel, _⟩ := doClean_eq_some h
  rw [if_neg hmode] at hused
  rw [hdel, mem_delPaths, mem_delCandidates hmode, mem_collectPaths hused]
  simp only [not_exists, not_and]

theorem foldl_print (w : World) (l : List Str) : (l.map Op.print).foldl applyOp w = w := by
  induction l with
  | nil => rfl
  | cons d l ih => exact ih

theorem apply_existing (w : World) (ops : List Op) (x : Str) :
    x ∈ (ops.foldl applyOp w).existing ↔ x ∈ w.existing ∧ Op.rm x ∉ ops := by
  induction ops generalizing w with
  | nil => simp
  | cons op rest ih =>
    simp only [List.foldl_cons, ih, List.mem_cons, not_or]
    cases op with
    | print d | delState d | delAttic d => simp [applyOp]
    | rm d =>
      simp only [applyOp, List.mem_filter, bne_iff_ne, ne_eq, Op.rm.injEq]
      exact and_assoc

theorem lookup_filter_ne {β} (t : List (Str × β)) (d x : Str) :
    lookup (t.filter fun y => y.1 != d) x = if x = d then none else lookup t x := by
  induction t with
  | nil => simp [lookup]
  | cons y rest ih =>
    obtain ⟨k, v⟩ := y
    by_cases hk : k = d
    · subst hk
      simp only [List.filter_cons, bne_self_eq_false, Bool.false_eq_true, if_false, ih, lookup]
      by_cases hx : x = k
      · simp [hx]
      · simp [hx, Ne.symm hx]
    · have : (k != d) = true := by simpa using hk
      simp only [List.filter_cons, this, if_true, lookup, ih]
      by_cases hkx : k = x
      · subst hkx; simp [hk]
      · simp [hkx]

theorem apply_states (w : World) (ops : List Op) (x : Str) :
    lookup (ops.foldl applyOp w).states x = if Op.delState x ∈ ops then none else lookup w.states x := by
  induction ops generalizing w with
  | nil => simp
  | cons op rest ih =>
    simp only [List.foldl_cons, ih, List.mem_cons]
    cases op with
    | print d | rm d | delAttic d => simp [applyOp]
    | delState d =>
      simp only [applyOp, lookup_filter_ne, Op.delState.injEq]
      by_cases h1 : Op.delState x ∈ rest
      · simp [h1]
      · by_cases h2 : x = d <;> simp [h1, h2]

theorem cleanOps_dryRun (hdry : o.dryRun = true) (del : List Str) : cleanOps o w del = del.map Op.print := by
  have : delOps o = fun d => [Op.print d] := funext fun d => by simp [delOps, hdry]
  simp [cleanOps, sweepOps, hdry, this, List.map_eq_flatMap]

theorem rm_mem_cleanOps {del : List Str} {d : Str} (h : Op.rm d ∈ cleanOps o w del) : d ∈ del := by
  simp [cleanOps, delOps, sweepOps] at h
  obtain ⟨a, ha, _, rfl | h⟩ := h
  · exact ha
  · split at h <;> cases h

theorem delState_mem_cleanOps {del : List Str} {d : Str}
    (h : Op.delState d ∈ cleanOps o w del) : d ∉ w.existing ∨ d ∈ del := by
  simp [cleanOps, delOps, sweepOps] at h
  rcases h with ⟨a, ha, _, h⟩ | ⟨_, _, h⟩
  · split at h <;> cases h
    exact Or.inr ha
  · exact h

theorem countP_succ_le {α : Type} {l : List α} {p q : α → Bool} (hpq : ∀ x, p x = true → q x = true) {c : α}
    (hc : c ∈ l) (hq : q c = true) (hp : ¬ p c = true) : l.countP p + 1 ≤ l.countP q := by
  obtain ⟨l₁, l₂, rfl⟩ := List.append_of_mem hc
  have h1 := List.countP_mono_left (l := l₁) fun x _ => hpq x
  have h2 := List.countP_mono_left (l := l₂) fun x _ => hpq x
  rw [List.countP_append, List.countP_append, List.countP_cons_of_pos hq, List.countP_cons_of_neg hp]
  omega

/-- packages of the graph that are not finished yet -/
def remaining (g : Graph) (D : List Nat) : Nat := g.countP fun p => !D.contains p.id

theorem remaining_mono (g : Graph) {D D' : List Nat} (h : ∀ x ∈ D, x ∈ D') : remaining g D' ≤ remaining g D :=
  List.countP_mono_left fun p _ hp => by
    simp only [Bool.not_eq_true', List.contains_eq_mem, decide_eq_false_iff_not] at hp ⊢
    exact fun hd => hp (h _ hd)

theorem remaining_cons_lt {g : Graph} {D : List Nat} {p : Pkg} (hp : p ∈ g) (hD : p.id ∉ D) :
    remaining g (p.id :: D) < remaining g D :=
  countP_succ_le (c := p) (fun q hq => by
      simp only [Bool.not_eq_true', List.contains_eq_mem, decide_eq_false_iff_not, List.mem_cons, not_or] at hq ⊢
      exact hq.2) hp
    (by simpa using hD) (by simp)

theorem get_some {g : Graph} {i : Nat} {p : Pkg} (h : g.get i = some p) : p.id = i ∧ p ∈ g := by
  unfold Graph.get at h
  exact ⟨by simpa using List.find?_some h, List.mem_of_find?_eq_some h⟩

theorem fold_total {f : Nat}
    (ih : ∀ acc i, remaining g acc.1 < f → ∃ acc', walk g st f acc i = some acc')
    (deps : List Nat) (a : List Nat × List Str) (h : remaining g a.1 < f) :
    ∃ a', deps.foldlM (fun a d => walk g st f a d) a = some a' := by
  induction deps generalizing a with
  | nil => exact ⟨a, rfl⟩
  | cons d rest ihd =>
    obtain ⟨a1, h1⟩ := ih a d h
    have hm := (walk_visit g st f a d a1 h1).1.1.mono
    obtain ⟨a2, h2⟩ := ihd a1 (Nat.lt_of_le_of_lt (remaining_mono g hm) h)
    exact ⟨a2, by simp only [List.foldlM_cons, bind, Option.bind_eq_some_iff]; exact ⟨a1, h1, h2⟩⟩

/-- `walk` never runs out of fuel when the fuel exceeds the number of unfinished packages -/
theorem walk_total (g : Graph) (st : States) (fuel : Nat) (acc : List Nat × List Str) (i : Nat)
    (h : remaining g acc.1 < fuel) : ∃ acc', walk g st fuel acc i = some acc' := by
  fun_induction walk g st fuel acc i with
  | case1 _ acc => exact ⟨acc, rfl⟩
  | case2 => omega
  | case3 => exact ⟨_, rfl⟩
  | case4 acc i hc f p hg ih =>
    obtain ⟨rfl, hp⟩ := get_some hg
    have := remaining_cons_lt hp (by simpa using hc)
    exact fold_total ih p.deps _ (by simp only; omega)

theorem collectPaths_total (g : Graph) (st : States) (fuel root : Nat) (h : g.length < fuel) :
    ∃ used, collectPaths g st fuel root = some used := by
  have hle : remaining g [] ≤ g.length := List.countP_le_length
  obtain ⟨acc', h'⟩ := walk_total g st fuel ([], []) root (Nat.lt_of_le_of_lt hle h)
  exact ⟨acc'.2, by simp [collectPaths, h']⟩

end BobClean
