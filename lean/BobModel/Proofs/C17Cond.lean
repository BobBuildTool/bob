import BobModel.Model.StringParser
/-
C17: conditions — boolean strings, string-valued `IfExpr` operands.
-/
namespace C17
open StringParser

theorem isTrue_boolStr (b : Bool) : isTrue (boolStr b) = b := by
  cases b <;> decide

theorem isFalse_boolStr (b : Bool) : isFalse (boolStr b) = !b := by
  cases b <;> decide

/-- an operand that has a string value is a literal or a call, and its truth value is `isTrue` of
that string -/
theorem eval_of_evalStr (cfg : Cfg) (e : IfExpr) (a : Str) (h : e.evalStr cfg = .ok a) :
    e.eval cfg = .ok (isTrue a) := by
  cases e with
  | lit s sb => rw [IfExpr.eval, h]
  | call f args => rw [IfExpr.eval, h]
  | not e => simp [IfExpr.evalStr] at h
  | strOp op l r => simp [IfExpr.evalStr] at h
  | boolOp op l r => simp [IfExpr.evalStr] at h

theorem falsy_table : Consts.C17.falsy.map String.toList = [[], ['0'], ['f', 'a', 'l', 's', 'e']] := by
  decide

end C17
