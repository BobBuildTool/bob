import BobModel.Model.Share
/-
C15: one segment (`stepPc`) described once.  Where control goes: the graph `Flow`, from which the lock bookkeeping
(`stepPc_notEX`, `stepPc_notSH`) and most other facts that depend only on where a process is are read off (elsewhere `stepPc`
is only computed at a given program counter).  What is
written: `Writes` lists what a segment does to the package directories, the counters and repo.json; `stepPc_frame` and
`stepPc_final` are views of it.  `stepPc_spec` goes through the definition of `stepPc` once and names edge and write
of every leaf.

What the program counters of `Model/Share.lean` carry.  `pending` (`uClosePkg`, `iAddClose`, `gClose`): the text that is
still in the writer's buffer when the lock is released, `some` only where `cfg.ff = false`; the segment at that counter
is the `close()` that writes it.  `iAddClose _ total failed`: the repository size `__addPackage` returns, and whether
`json.load` failed (raised after the unlock).  In `gScanLock rmeta b sz todo cands total` the entry `(b, sz)` is taken
from `todo` and `total` already contains `sz`.  `gMove rmeta plan total dirty terr`: `total` is the size `gc` will return,
`dirty` says that repo.json has been truncated by an earlier move so that `rmeta` has to be written back, `terr` that the
quota loop ended in the `TypeError` which is raised after the moves.  In `Store`, `nInst` and `nGc` (successful
publishing and collecting renames per Build-Id) and in `Proc` the flag `pub` (the own rename succeeded) are ghosts: no
segment depends on them.
-/
namespace Share

@[simp] theorem afterShare_fst {cfg : Cfg} (prog : Prog) (g : Store) (r : Res) : (afterShare cfg prog g r).1 = g := by
  unfold afterShare
  split
  · rfl
  · split <;> (try split) <;> (try split) <;> rfl

@[simp] theorem finishGc_fst {cfg : Cfg} (prog : Prog) (g : Store) (r : Res) : (finishGc cfg prog g r).1 = g := by
  unfold finishGc
  split
  · split <;> simp
  · rfl

@[simp] theorem gcStart_fst {cfg : Cfg} (prog : Prog) (g : Store) : (gcStart cfg prog g).1 = g := by
  unfold gcStart
  split
  · simp
  · split <;> simp

@[simp] theorem gcPlan_fst (prog : Prog) (g : Store) (rm : List (Bid × Nat)) (c : List Cand) (t : Nat) :
    (gcPlan prog g rm c t).1 = g := by
  unfold gcPlan
  simp only
  split <;> rfl

@[simp] theorem gcNext_fst (prog : Prog) (g : Store) (rm todo : List (Bid × Nat)) (c : List Cand) (t : Nat) :
    (gcNext prog g rm todo c t).1 = g := by
  unfold gcNext
  split <;> simp

def Res.isInst : Res → Bool
  | .inst _ => true
  | _ => false

def isInstall (prog : Prog) : Bool :=
  match prog.op with
  | .install .. => true
  | _ => false

/-- Where control is once the share call has returned to the builder: the operation is over, the workspace link is
replaced, or (lost install race, fix 4) the process goes on as a `use`.  `uOpen` is also where a plain `use` begins, so
for a `use` the edge `start → uOpen` counts as an exit: nothing is owed at `uOpen` by any of the invariants. -/
def Pc.isExit : Pc → Bool
  | .done _ | .bUnlink _ | .bSymlink _ | .uOpen => true
  | _ => false

/-- the scan and the moves under the exclusive lock, and the segment that closes repo.json after them; a gc never
carries the result of an install -/
def Pc.inGc : Pc → Bool
  | .gScanOpen .. | .gScanLock .. | .gMove .. => true
  | .gClose _ r => !r.isInst
  | _ => false

/-- the result a process carries to the end of its operation -/
def Pc.res : Pc → Option Res
  | .uClosePkg _ r | .gClose _ r | .done r => some r
  | _ => none

/-- `Ends prog g pc r`: the segment at `pc` may end the operation with result `r`; the constructors say where `r` comes
from, so that an invariant on results (`PubOk`, `PcFF`) is checked once per origin.  Only `lost…`, `added` and `cleaned`
report an install, only `held`, `undecodable` and `missing` can be one of the failures of `Err.spurious` (C15Acc). -/
inductive Ends (prog : Prog) (g : Store) : Pc → Res → Prop
  | held {pc r} : pc.res = some r → Ends prog g pc r
  | quiet {pc r} : r.isInst = false → (∀ e, r ≠ .err e) → Ends prog g pc r
  | refused {pc e} : e = .installOSError ∨ e = .hashChanged ∨ e = .unlinkMissing ∨ e = .linkExists →
      Ends prog g pc (.err e)
  | lostStart : (g.final (opBid prog)).isSome = true → Ends prog g .start (.inst false)
  | lostRename {tmp} : (g.final (opBid prog)).isSome = true → Ends prog g (.iRename tmp) (.inst false)
  | added {p t f} : Ends prog g (.iAddClose p t f) (.inst true)
  | cleaned {p r} : isInstall prog = true → Ends prog g (.gClose p r) (.inst true)
  | undecodable {p t} : Ends prog g (.iAddClose p t true) (.err .jsonDecode)
  | missing : g.repo = .absent → Ends prog g .gOpen (.err .fileNotFound)

theorem afterShare_exit {cfg : Cfg} (prog : Prog) (g : Store) (r : Res) : (afterShare cfg prog g r).2.isExit = true := by
  fun_cases afterShare <;> rfl

theorem afterShare_done {cfg : Cfg} {prog : Prog} {g : Store} {r r' : Res} :
    (afterShare cfg prog g r).2 = .done r' → r' = r ∨ ∃ b, r' = .shared b := by
  fun_cases afterShare <;> intro h <;> cases h <;> simp

theorem finishGc_exit {cfg : Cfg} (prog : Prog) (g : Store) (r : Res) : (finishGc cfg prog g r).2.isExit = true := by
  fun_cases finishGc
  · rfl
  · exact afterShare_exit ..
  · rfl

/-- the gc of an install ends the install -/
theorem finishGc_done {cfg : Cfg} {prog : Prog} {g : Store} {r r' : Res} (h : (finishGc cfg prog g r).2 = .done r') :
    r' = r ∨ (isInstall prog = true ∧ (r' = .inst true ∨ ∃ b, r' = .shared b)) := by
  unfold finishGc at h
  split at h
  · rename_i hop
    split at h
    · cases h; exact .inl rfl
    · exact .inr ⟨by simp [isInstall, hop], afterShare_done h⟩
  · cases h; exact .inl rfl

theorem gcStart_pc {cfg : Cfg} (prog : Prog) (g : Store) :
    (∃ r, r.isInst = false ∧ (∀ e, r ≠ .err e) ∧ gcStart cfg prog g = finishGc cfg prog g r) ∨
      (gcStart cfg prog g = (g, .gOpen) ∧ repoMissing cfg g = false) := by
  fun_cases gcStart
  · exact .inl ⟨.gcNone, rfl, nofun, rfl⟩
  · exact .inl ⟨.gcSize 0, rfl, nofun, rfl⟩
  · exact .inr ⟨rfl, by simp_all⟩

theorem Pc.inGc_gClose (p : Option (List (Bid × Nat))) (te : Bool) (t : Nat) :
    (Pc.gClose p (if te = true then .err .typeError else .gcSize t)).inGc = true := by
  cases te <;> rfl

theorem gcPlan_inGc (prog : Prog) (g : Store) (rm : List (Bid × Nat)) (c : List Cand) (t : Nat) :
    (gcPlan prog g rm c t).2.inGc = true := by
  fun_cases gcPlan
  · exact Pc.inGc_gClose ..
  · rfl

theorem gcNext_inGc (prog : Prog) (g : Store) (rm todo : List (Bid × Nat)) (c : List Cand) (t : Nat) :
    (gcNext prog g rm todo c t).2.inGc = true := by
  fun_cases gcNext
  · exact gcPlan_inGc ..
  · rfl

/-- The control flow of one segment: `Flow cfg prog exO shO g pc pc' g'` lists the edges from `pc` to the next program
counter `pc'`, with the new store `g'` where the edge does not write (`g' = g`).  Lock edges carry the condition under
which `flock` succeeds, edges out of the operation (`exit`: to any `Pc.isExit`) where its result comes from.  `gcOpen`
is taken by a gc command from `start` and by an install from `iAddClose` only: its second premise is what lets `PubOk`
(own rename done) pass into the gc of an install.  Everything that depends only on where
a process is (which lock it holds, whether its package is published but unrecorded, ...) is read off this graph. -/
inductive Flow (cfg : Cfg) (prog : Prog) (exO shO : Bool) (g : Store) : Pc → Pc → Store → Prop
  | stay {pc} : Flow cfg prog exO shO g pc pc g
  | exit {pc pc' g'} : pc'.isExit = true → (∀ r, pc' = .done r → Ends prog g pc r) → Flow cfg prog exO shO g pc pc' g'
  | verify {g'} : Flow cfg prog exO shO g .start .iVerify g'
  | gcOpen {pc g'} : repoMissing cfg g' = false → (isInstall prog = true → ∃ p t f, pc = .iAddClose p t f) →
      Flow cfg prog exO shO g pc .gOpen g'
  | useLock : Flow cfg prog exO shO g .uOpen .uLockRepo g
  | useLocked : ¬exO = true → Flow cfg prog exO shO g .uLockRepo .uOpenPkg g
  | usePkg : Flow cfg prog exO shO g .uOpenPkg .uLockPkg g
  | useClose {p r g'} : r.isInst = false → Flow cfg prog exO shO g .uLockPkg (.uClosePkg p r) g'
  | verified {tmp g'} : Flow cfg prog exO shO g .iVerify (.iRename tmp) g'
  | published {tmp g'} : g.final (opBid prog) = none → Flow cfg prog exO shO g (.iRename tmp) .iAddOpen g'
  | addTouch : Flow cfg prog exO shO g .iAddOpen .iAddTouch g
  | addCreate : cfg.emptyOk = false → Flow cfg prog exO shO g .iAddOpen .iAddCreate g
  | addLock : g.repo ≠ .absent → Flow cfg prog exO shO g .iAddOpen .iAddLock g
  | touched {g'} : Flow cfg prog exO shO g .iAddTouch .iAddOpen g'
  | added {p t f g'} : ¬(exO || shO) = true → Flow cfg prog exO shO g .iAddLock (.iAddClose p t f) g'
  | created {g'} : Flow cfg prog exO shO g .iAddCreate .iAddCreateLock g'
  | createRetry : Flow cfg prog exO shO g .iAddCreate .iAddOpen g
  | createAdded {p t f g'} : ¬(exO || shO) = true → Flow cfg prog exO shO g .iAddCreateLock (.iAddClose p t f) g'
  | gcLock : Flow cfg prog exO shO g .gOpen .gLock g
  | gcLocked {pc' g'} : ¬(exO || shO) = true → pc'.inGc = true → Flow cfg prog exO shO g .gLock pc' g'
  | gcGoes {pc pc' g'} : pc.holdsEX = true → pc'.inGc = true → Flow cfg prog exO shO g pc pc' g'

section
variable {cfg : Cfg} {prog : Prog} {exO shO : Bool} {g : Store} {pc : Pc}

theorem Flow.halt {r : Res} {g' : Store} (h : Ends prog g pc r) : Flow cfg prog exO shO g pc (.done r) g' :=
  .exit rfl fun _ e => by cases e; exact h

theorem Flow.ofAfterShare {r : Res} (g' : Store) (h : Ends prog g pc r) :
    Flow cfg prog exO shO g pc (afterShare cfg prog g' r).2 (afterShare cfg prog g' r).1 :=
  .exit (afterShare_exit ..) fun _ e => by
    rcases afterShare_done e with rfl | ⟨b, rfl⟩
    · exact h
    · exact .quiet rfl nofun

theorem Flow.ofFinishGc {r : Res} (g' : Store) (h : Ends prog g pc r)
    (hw : isInstall prog = true → Ends prog g pc (.inst true)) :
    Flow cfg prog exO shO g pc (finishGc cfg prog g' r).2 (finishGc cfg prog g' r).1 :=
  .exit (finishGc_exit ..) fun _ e => by
    rcases finishGc_done e with rfl | ⟨hi, rfl | ⟨b, rfl⟩⟩
    · exact h
    · exact hw hi
    · exact .quiet rfl nofun

theorem Flow.ofGcStart (g' : Store) (hw : isInstall prog = true → ∃ p t f, pc = .iAddClose p t f) :
    Flow cfg prog exO shO g pc (gcStart cfg prog g').2 (gcStart cfg prog g').1 := by
  rcases gcStart_pc (cfg := cfg) prog g' with ⟨r, h1, h2, h⟩ | ⟨h, hm⟩
  · rw [h]
    refine .ofFinishGc g' (.quiet h1 h2) fun hi => ?_
    obtain ⟨p, t, f, rfl⟩ := hw hi
    exact .added
  · rw [h]; exact .gcOpen hm hw
end

theorem Pc.notEX_of_exit {pc : Pc} (h : pc.isExit = true) : pc.holdsEX = false := by
  cases pc
  case done | bUnlink | bSymlink | uOpen => rfl
  all_goals cases h

theorem Pc.notSH_of_exit {pc : Pc} (h : pc.isExit = true) : pc.holdsSH = false := by
  cases pc
  case done | bUnlink | bSymlink | uOpen => rfl
  all_goals cases h

theorem Pc.notSH_of_inGc {pc : Pc} (h : pc.inGc = true) : pc.holdsSH = false := by
  cases pc
  case gScanOpen | gScanLock | gMove | gClose => rfl
  all_goals cases h

/-- the exclusive section is entered only from `gLock`, with the lock free -/
theorem Flow.notEX {cfg : Cfg} {prog : Prog} {exO shO : Bool} {g g' : Store} {pc pc' : Pc} (h : Flow cfg prog exO shO g pc pc' g')
    (hpc : pc.holdsEX = false) (hl : pc = .gLock → (exO || shO) = true) : pc'.holdsEX = false := by
  cases h
  case stay => exact hpc
  case exit h _ => exact Pc.notEX_of_exit h
  case gcLocked h _ => exact absurd (hl rfl) h
  case gcGoes h _ => rw [hpc] at h; cases h
  all_goals rfl

/-- the shared section is entered only from `uLockRepo`, with no exclusive holder -/
theorem Flow.notSH {cfg : Cfg} {prog : Prog} {exO shO : Bool} {g g' : Store} {pc pc' : Pc} (h : Flow cfg prog exO shO g pc pc' g')
    (hpc : pc.holdsSH = false) (hl : pc = .uLockRepo → exO = true) : pc'.holdsSH = false := by
  cases h
  case stay => exact hpc
  case exit h _ => exact Pc.notSH_of_exit h
  case useLocked h => exact absurd (hl rfl) h
  case gcLocked _ h => exact Pc.notSH_of_inGc h
  case gcGoes _ h => exact Pc.notSH_of_inGc h
  case usePkg => cases hpc
  case useClose => cases hpc
  all_goals rfl

theorem stepPc_iRename_none (H : Nat → Nat) (cfg : Cfg) (prog : Prog) (exO shO : Bool) (g : Store) (tmp : PkgDir)
    (hf : g.final (opBid prog) = none) :
    stepPc H cfg prog exO shO g (.iRename tmp) =
      ({ g with final := upd g.final (opBid prog) (some tmp),
                nInst := upd g.nInst (opBid prog) (g.nInst (opBid prog) + 1) }, .iAddOpen) := by
  unfold stepPc; simp [hf]

theorem setMeta_final (g : Store) (b : Bid) (m : JFile Meta) (b' : Bid) :
    (setMeta g b m).final b' =
      if b' = b then (g.final b).map (fun d => { d with info := some m, mtime := g.clock }) else g.final b' := by
  unfold setMeta
  cases h : g.final b with
  | none => by_cases e : b' = b <;> simp [e, h]
  | some d => by_cases e : b' = b <;> simp [e, upd]

theorem touch_final (g : Store) (b : Bid) (b' : Bid) :
    (touch g b).final b' =
      if b' = b then (g.final b).map (fun d => { d with mtime := g.clock }) else g.final b' := by
  unfold touch
  cases h : g.final b with
  | none => by_cases e : b' = b <;> simp [e, h]
  | some d => by_cases e : b' = b <;> simp [e, upd]

@[simp] theorem setMeta_repo (g : Store) (b : Bid) (m : JFile Meta) : (setMeta g b m).repo = g.repo := by
  unfold setMeta; split <;> rfl
@[simp] theorem setMeta_links (g : Store) (b : Bid) (m : JFile Meta) : (setMeta g b m).links = g.links := by
  unfold setMeta; split <;> rfl
@[simp] theorem setMeta_nInst (g : Store) (b : Bid) (m : JFile Meta) : (setMeta g b m).nInst = g.nInst := by
  unfold setMeta; split <;> rfl
@[simp] theorem setMeta_nGc (g : Store) (b : Bid) (m : JFile Meta) : (setMeta g b m).nGc = g.nGc := by
  unfold setMeta; split <;> rfl
@[simp] theorem touch_repo (g : Store) (b : Bid) : (touch g b).repo = g.repo := by
  unfold touch; split <;> rfl
@[simp] theorem touch_links (g : Store) (b : Bid) : (touch g b).links = g.links := by
  unfold touch; split <;> rfl
@[simp] theorem touch_nInst (g : Store) (b : Bid) : (touch g b).nInst = g.nInst := by
  unfold touch; split <;> rfl
@[simp] theorem touch_nGc (g : Store) (b : Bid) : (touch g b).nGc = g.nGc := by
  unfold touch; split <;> rfl

theorem setMeta_some {g : Store} {b : Bid} {d : PkgDir} (m : JFile Meta) (h : g.final b = some d) :
    setMeta g b m =
      { g with final := upd g.final b (some { d with info := some m, mtime := g.clock }), clock := g.clock + 1 } := by
  unfold setMeta; rw [h]

theorem touch_some {g : Store} {b : Bid} {d : PkgDir} (h : g.final b = some d) :
    touch g b = { g with final := upd g.final b (some { d with mtime := g.clock }), clock := g.clock + 1 } := by
  unfold touch; rw [h]

/-- what a `pkg.json` rewrite of `use` may do to the meta information -/
def MetaOk (cfg : Cfg) (pc : Pc) (d : PkgDir) (info : Option (JFile Meta)) : Prop :=
  (pc = .uLockPkg ∧ (info = d.info ∨ (info = some .torn ∧ cfg.ff = false) ∨
      ∃ m m', d.info = some (.valid m) ∧ info = some (.valid m') ∧ m'.hash = m.hash ∧ m'.size = m.size)) ∨
  (∃ m' r, pc = .uClosePkg (some m') r ∧ info = some (.valid m'))

/-- what `__addPackage` and the gc write to repo.json -/
inductive RepoWrite (cfg : Cfg) (prog : Prog) (exO shO : Bool) (g : Store) : Pc → RepoFile → Prop
  | touch : g.repo = .absent → RepoWrite cfg prog exO shO g .iAddTouch .torn
  | add {l} : ¬(exO || shO) = true → readRepo cfg g.repo = some l → RepoWrite cfg prog exO shO g .iAddLock
      (if cfg.ff then .valid (setPkg l (opBid prog) (opSize prog)) else .torn)
  | create : g.repo = .absent → RepoWrite cfg prog exO shO g .iAddCreate .torn
  | createAdd : RepoWrite cfg prog exO shO g .iAddCreateLock (.valid [(opBid prog, opSize prog)])
  | flushAdd {l t f} : RepoWrite cfg prog exO shO g (.iAddClose (some l) t f) (.valid l)
  | flushGc {l r} : RepoWrite cfg prog exO shO g (.gClose (some l) r) (.valid l)
  | restore {rm plan t d te} : RepoWrite cfg prog exO shO g (.gMove rm plan t d te) (.valid rm)

/-- What one segment writes to the package directories, the ghost counters and repo.json (`links`, `clock` and
`storeExists` are left open): nothing of these, a rewrite of the own `pkg.json`, the publishing rename, the collecting rename,
or repo.json alone. -/
inductive Writes (cfg : Cfg) (prog : Prog) (exO shO : Bool) (g : Store) : Pc → Store → Prop
  | keeps {pc g'} : g'.final = g.final → g'.nInst = g.nInst → g'.nGc = g.nGc → g'.repo = g.repo →
      Writes cfg prog exO shO g pc g'
  | pkgMeta {pc g' d info mt} : g.final (opBid prog) = some d → MetaOk cfg pc d info →
      g'.final = upd g.final (opBid prog) (some { d with info := info, mtime := mt }) → g'.nInst = g.nInst →
      g'.nGc = g.nGc → g'.repo = g.repo → Writes cfg prog exO shO g pc g'
  | publish {tmp g'} : g.final (opBid prog) = none → g'.final = upd g.final (opBid prog) (some tmp) →
      g'.nInst = upd g.nInst (opBid prog) (g.nInst (opBid prog) + 1) → g'.nGc = g.nGc → g'.repo = g.repo →
      Writes cfg prog exO shO g (.iRename tmp) g'
  | collect {rm c rest t d te dd g'} : g.final c.bid = some dd → g'.final = upd g.final c.bid none →
      g'.nInst = g.nInst → g'.nGc = upd g.nGc c.bid (g.nGc c.bid + 1) →
      (g'.repo = .torn ∨ g'.repo = .valid (erasePkg rm c.bid)) → Writes cfg prog exO shO g (.gMove rm (c :: rest) t d te) g'
  | repo {pc g' r} : RepoWrite cfg prog exO shO g pc r → g'.final = g.final → g'.nInst = g.nInst → g'.nGc = g.nGc →
      g'.repo = r → Writes cfg prog exO shO g pc g'

section
variable {cfg : Cfg} {prog : Prog} {exO shO : Bool} {g g' : Store} {pc : Pc}

theorem Writes.refl : Writes cfg prog exO shO g pc g := .keeps rfl rfl rfl rfl

theorem Writes.of_eq (h : g' = g) : Writes cfg prog exO shO g pc g' := h ▸ .refl

theorem Writes.congr {g₁ : Store} (h : g' = g₁) (hw : Writes cfg prog exO shO g pc g₁) :
    Writes cfg prog exO shO g pc g' := h ▸ hw

theorem Writes.setMeta (m : JFile Meta) (hm : ∀ d, g.final (opBid prog) = some d → MetaOk cfg pc d (some m)) :
    Writes cfg prog exO shO g pc (setMeta g (opBid prog) m) := by
  cases hf : g.final (opBid prog) with
  | none => exact .of_eq (by unfold Share.setMeta; rw [hf])
  | some d => rw [setMeta_some m hf]; exact .pkgMeta hf (hm d hf) rfl rfl rfl rfl

theorem Writes.useClose (p : Option Meta) (r : Res) : Writes cfg prog exO shO g (.uClosePkg p r)
    (match p with | some m' => Share.setMeta g (opBid prog) (.valid m') | none => g) := by
  cases p with
  | none => exact .refl
  | some m' => exact .setMeta _ fun _ _ => .inr ⟨m', r, rfl, rfl⟩

theorem Writes.addClose (p : Option (List (Bid × Nat))) (t : Nat) (f : Bool) : Writes cfg prog exO shO g
    (.iAddClose p t f) (match p with | some l => { g with repo := .valid l } | none => g) := by
  cases p with
  | none => exact .refl
  | some l => exact .repo .flushAdd rfl rfl rfl rfl

theorem Writes.gcClose (p : Option (List (Bid × Nat))) (r : Res) : Writes cfg prog exO shO g
    (.gClose p r) (match p with | some l => { g with repo := .valid l } | none => g) := by
  cases p with
  | none => exact .refl
  | some l => exact .repo .flushGc rfl rfl rfl rfl
end

/-- One segment, leaf by leaf in the order of the definition of `stepPc`: which edge of the graph it is and what it
writes. -/
theorem stepPc_spec (H : Nat → Nat) (cfg : Cfg) (prog : Prog) (exO shO : Bool) (g : Store) (pc : Pc) :
    Flow cfg prog exO shO g pc (stepPc H cfg prog exO shO g pc).2 (stepPc H cfg prog exO shO g pc).1 ∧
      Writes cfg prog exO shO g pc (stepPc H cfg prog exO shO g pc).1 := by
  fun_cases stepPc
  -- done
  · exact ⟨.stay, .refl⟩
  -- start: use | install (lost, no audit, verify) | gc | dropws
  · exact ⟨.exit rfl nofun, .refl⟩
  · exact ⟨.ofAfterShare g (.lostStart ‹_›), .of_eq (afterShare_fst ..)⟩
  · exact ⟨.halt (.refused (.inl rfl)), .keeps rfl rfl rfl rfl⟩
  · exact ⟨.verify, .keeps rfl rfl rfl rfl⟩
  · constructor
    · rename_i hop
      exact .ofGcStart g fun hi => by simp [isInstall, hop] at hi
    · exact .of_eq (gcStart_fst ..)
  · exact ⟨.halt (.quiet rfl nofun), .keeps rfl rfl rfl rfl⟩
  -- uOpen, uLockRepo, uOpenPkg
  · exact ⟨.ofAfterShare g (.quiet rfl nofun), .of_eq (afterShare_fst ..)⟩
  · exact ⟨.useLock, .refl⟩
  · exact ⟨.stay, .refl⟩
  · exact ⟨.useLocked ‹_›, .refl⟩
  · exact ⟨.ofAfterShare g (.quiet rfl nofun), .of_eq (afterShare_fst ..)⟩
  · exact ⟨.ofAfterShare g (.quiet rfl nofun), .of_eq (afterShare_fst ..)⟩
  · exact ⟨.usePkg, .refl⟩
  -- uLockPkg, uClosePkg
  · exact ⟨.useClose rfl, .refl⟩
  · constructor
    · exact .useClose rfl
    · rw [touch_some ‹_›]
      exact .pkgMeta ‹_› (.inl ⟨rfl, .inl rfl⟩) rfl rfl rfl rfl
  · constructor
    · exact .useClose rfl
    · rename_i hf _ hm _ _ _
      refine .setMeta _ fun d hd => ?_
      cases hd.symm.trans hf
      exact .inl ⟨rfl, .inr (.inr ⟨_, _, hm, rfl, rfl, rfl⟩)⟩
  · exact ⟨.useClose rfl, .setMeta _ fun _ _ => .inl ⟨rfl, .inr (.inl ⟨rfl, Bool.eq_false_iff.mpr ‹_›⟩)⟩⟩
  · exact ⟨.useClose rfl, .refl⟩
  · exact ⟨.ofAfterShare _ (.held rfl), .congr (afterShare_fst ..) (.useClose ..)⟩
  -- iVerify
  · exact ⟨.halt (.refused (.inr (.inl rfl))), .refl⟩
  · exact ⟨.verified, .keeps rfl rfl rfl rfl⟩
  · exact ⟨.halt (.refused (.inl rfl)), .refl⟩
  -- iRename
  · exact ⟨.ofAfterShare g (.lostRename ‹_›), .of_eq (afterShare_fst ..)⟩
  · exact ⟨.published (Option.not_isSome_iff_eq_none.mp ‹_›), .publish (Option.not_isSome_iff_eq_none.mp ‹_›) rfl rfl rfl rfl⟩
  -- iAddOpen, iAddTouch
  · exact ⟨.addTouch, .refl⟩
  · exact ⟨.addCreate (Bool.eq_false_iff.mpr ‹_›), .refl⟩
  · exact ⟨.addLock (by simp_all), .refl⟩
  · exact ⟨.touched, .repo (.touch ‹_›) rfl rfl rfl rfl⟩
  · exact ⟨.touched, .refl⟩
  -- iAddLock
  · exact ⟨.stay, .refl⟩
  · exact ⟨.added ‹_›, .repo (.add ‹_› ‹_›) rfl rfl rfl (if_pos ‹_›).symm⟩
  · exact ⟨.added ‹_›, .repo (.add ‹_› ‹_›) rfl rfl rfl (if_neg ‹_›).symm⟩
  · exact ⟨.added ‹_›, .refl⟩
  -- iAddCreate, iAddCreateLock
  · exact ⟨.created, .repo (.create ‹_›) rfl rfl rfl rfl⟩
  · exact ⟨.createRetry, .refl⟩
  · exact ⟨.stay, .refl⟩
  · exact ⟨.createAdded ‹_›, .repo .createAdd rfl rfl rfl rfl⟩
  · exact ⟨.createAdded ‹_›, .refl⟩
  -- iAddClose: failed | gc | back to the builder
  · exact ⟨.halt .undecodable, .addClose ..⟩
  · exact ⟨.ofGcStart _ fun _ => ⟨_, _, _, rfl⟩, .congr (gcStart_fst ..) (.addClose ..)⟩
  · exact ⟨.ofAfterShare _ .added, .congr (afterShare_fst ..) (.addClose ..)⟩
  · exact ⟨.ofAfterShare _ .added, .congr (afterShare_fst ..) (.addClose ..)⟩
  -- gOpen, gLock
  · exact ⟨.halt (.missing ‹_›), .refl⟩
  · exact ⟨.gcLock, .refl⟩
  · exact ⟨.stay, .refl⟩
  · exact ⟨.gcLocked ‹_› (gcNext_inGc ..), .of_eq (gcNext_fst ..)⟩
  · exact ⟨.gcLocked ‹_› rfl, .refl⟩
  -- gScanOpen, gScanLock
  · exact ⟨.gcGoes rfl (gcPlan_inGc ..), .of_eq (gcPlan_fst ..)⟩
  · exact ⟨.gcGoes rfl (gcNext_inGc ..), .of_eq (gcNext_fst ..)⟩
  · exact ⟨.gcGoes rfl (gcNext_inGc ..), .of_eq (gcNext_fst ..)⟩
  · exact ⟨.gcGoes rfl rfl, .refl⟩
  · exact ⟨.gcGoes rfl rfl, .refl⟩
  · exact ⟨.gcGoes rfl (gcNext_inGc ..), .of_eq (gcNext_fst ..)⟩
  · exact ⟨.gcGoes rfl rfl, .refl⟩
  -- gMove: plan done | package vanished | last move | move
  · exact ⟨.gcGoes rfl (Pc.inGc_gClose ..), .repo .restore rfl rfl rfl rfl⟩
  · exact ⟨.gcGoes rfl (Pc.inGc_gClose ..), .refl⟩
  · exact ⟨.gcGoes rfl rfl, .repo .restore rfl rfl rfl rfl⟩
  · exact ⟨.gcGoes rfl rfl, .refl⟩
  · exact ⟨.gcGoes rfl (Pc.inGc_gClose ..), .collect ‹_› rfl rfl rfl (.inr rfl)⟩
  · exact ⟨.gcGoes rfl (Pc.inGc_gClose ..), .collect ‹_› rfl rfl rfl (.inl rfl)⟩
  · exact ⟨.gcGoes rfl rfl, .collect ‹_› rfl rfl rfl (.inl rfl)⟩
  -- gClose
  · exact ⟨.ofFinishGc _ (.held rfl) .cleaned, .congr (finishGc_fst ..) (.gcClose ..)⟩
  -- bUnlink, bSymlink
  · exact ⟨.halt (.refused (.inr (.inr (.inl rfl)))), .refl⟩
  · exact ⟨.exit rfl nofun, .keeps rfl rfl rfl rfl⟩
  · exact ⟨.halt (.quiet rfl nofun), .keeps rfl rfl rfl rfl⟩
  · exact ⟨.halt (.refused (.inr (.inr (.inr rfl)))), .refl⟩
  · exact ⟨.halt (.quiet rfl nofun), .keeps rfl rfl rfl rfl⟩

theorem stepPc_flow (H : Nat → Nat) (cfg : Cfg) (prog : Prog) (exO shO : Bool) (g : Store) (pc : Pc) :
    Flow cfg prog exO shO g pc (stepPc H cfg prog exO shO g pc).2 (stepPc H cfg prog exO shO g pc).1 :=
  (stepPc_spec H cfg prog exO shO g pc).1

theorem stepPc_writes (H : Nat → Nat) (cfg : Cfg) (prog : Prog) (exO shO : Bool) (g : Store) (pc : Pc) :
    Writes cfg prog exO shO g pc (stepPc H cfg prog exO shO g pc).1 :=
  (stepPc_spec H cfg prog exO shO g pc).2

theorem stepPc_notEX (H : Nat → Nat) (cfg : Cfg) (prog : Prog) (exO shO : Bool) (g : Store) (pc : Pc)
    (hpc : pc.holdsEX = false) (hl : pc = .gLock → (exO || shO) = true) :
    (stepPc H cfg prog exO shO g pc).2.holdsEX = false :=
  (stepPc_flow H cfg prog exO shO g pc).notEX hpc hl

theorem stepPc_notSH (H : Nat → Nat) (cfg : Cfg) (prog : Prog) (exO shO : Bool) (g : Store) (pc : Pc)
    (hpc : pc.holdsSH = false) (hl : pc = .uLockRepo → exO = true) :
    (stepPc H cfg prog exO shO g pc).2.holdsSH = false :=
  (stepPc_flow H cfg prog exO shO g pc).notSH hpc hl

/-- the segments that write package directories (and with them the ghost counters) -/
def Pc.writesPkgs : Pc → Bool
  | .uLockPkg | .uClosePkg .. | .iRename _ | .gMove .. => true
  | _ => false

def Pc.writesRepo : Pc → Bool
  | .iAddTouch | .iAddLock | .iAddCreate | .iAddCreateLock | .iAddClose .. | .gClose .. | .gMove .. => true
  | _ => false

theorem stepPc_frame (H : Nat → Nat) (cfg : Cfg) (prog : Prog) (exO shO : Bool) (g : Store) (pc : Pc) :
    (pc.writesPkgs = false → (stepPc H cfg prog exO shO g pc).1.final = g.final ∧
        (stepPc H cfg prog exO shO g pc).1.nInst = g.nInst ∧ (stepPc H cfg prog exO shO g pc).1.nGc = g.nGc) ∧
    (pc.writesRepo = false → (stepPc H cfg prog exO shO g pc).1.repo = g.repo) := by
  have hw := stepPc_writes H cfg prog exO shO g pc
  generalize (stepPc H cfg prog exO shO g pc).1 = g' at hw ⊢
  cases hw
  case keeps h1 h2 h3 h4 => exact ⟨fun _ => ⟨h1, h2, h3⟩, fun _ => h4⟩
  case pkgMeta hok _ _ _ h4 =>
    refine ⟨fun hp => ?_, fun _ => h4⟩
    rcases hok with ⟨rfl, _⟩ | ⟨_, _, rfl, _⟩ <;> cases hp
  case publish h4 => exact ⟨nofun, fun _ => h4⟩
  case collect => exact ⟨nofun, nofun⟩
  case repo hr h1 h2 h3 h4 =>
    refine ⟨fun _ => ⟨h1, h2, h3⟩, fun hp => ?_⟩
    cases hr <;> cases hp

theorem stepPc_final (H : Nat → Nat) (cfg : Cfg) (prog : Prog) (exO shO : Bool) (g : Store) (pc : Pc) (b' : Bid) :
    (stepPc H cfg prog exO shO g pc).1.final b' = g.final b'
    ∨ (∃ tmp, pc = .iRename tmp ∧ b' = opBid prog ∧ g.final b' = none ∧
        (stepPc H cfg prog exO shO g pc).1.final b' = some tmp)
    ∨ (∃ rm c rest t d te, pc = .gMove rm (c :: rest) t d te ∧ c.bid = b' ∧ g.final b' ≠ none ∧
        (stepPc H cfg prog exO shO g pc).1.final b' = none)
    ∨ (∃ d info mt, b' = opBid prog ∧ g.final b' = some d ∧
        (stepPc H cfg prog exO shO g pc).1.final b' = some { d with info := info, mtime := mt } ∧ MetaOk cfg pc d info) := by
  have hw := stepPc_writes H cfg prog exO shO g pc
  generalize (stepPc H cfg prog exO shO g pc).1 = g' at hw ⊢
  cases hw
  case keeps h _ _ _ => exact .inl (by rw [h])
  case repo h _ _ _ => exact .inl (by rw [h])
  case publish tmp hn h _ _ _ =>
    by_cases e : b' = opBid prog
    · subst e; exact .inr (.inl ⟨tmp, rfl, rfl, hn, by rw [h]; simp [upd]⟩)
    · exact .inl (by rw [h]; simp [upd, e])
  case collect rm c rest t d te dd hf h _ _ _ =>
    by_cases e : b' = c.bid
    · subst e; exact .inr (.inr (.inl ⟨rm, c, rest, t, d, te, rfl, rfl, by rw [hf]; nofun, by rw [h]; simp [upd]⟩))
    · exact .inl (by rw [h]; simp [upd, e])
  case pkgMeta d info mt hf hok h _ _ _ =>
    by_cases e : b' = opBid prog
    · subst e; exact .inr (.inr (.inr ⟨d, info, mt, rfl, hf, by rw [h]; simp [upd], hok⟩))
    · exact .inl (by rw [h]; simp [upd, e])

end Share
