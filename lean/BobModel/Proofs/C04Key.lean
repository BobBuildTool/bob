import BobModel.Model.Memo
import BobModel.Proofs.CommonSort
import BobModel.Proofs.CommonPrefix
/-
Unique decodability of the bytes hashed into the package cache key, `sortItems` as an insertion sort (`sortItems_is`),
and the invariant of the YAML cache.
-/
namespace Memo

theorem le32_length (n : Nat) : (le32 n).length = Consts.C04.lenBytes := Bytes.le_length _ _

theorem le32_inj {a b : Nat} (ha : a < 2 ^ 32) (hb : b < 2 ^ 32) (h : le32 a = le32 b) : a = b :=
  Bytes.le_inj 4 ha hb h

/-- `(k := 4)` is where the regenerated width `Consts.C04.lenBytes` is tied to 4; the bound `2 ^ 32` is `256 ^ 4` by
evaluation. -/
theorem le32_prefix {a b : Nat} {r r' : Bytes} (ha : a < 2 ^ 32) (hb : b < 2 ^ 32) (h : le32 a ++ r = le32 b ++ r') :
    a = b ∧ r = r' :=
  Bytes.le_append_inj (k := 4) ha hb h

/-- `enc` is a text encoding in which a string of known length (in characters) can be read off the front of a byte
stream: what UTF-8 provides. -/
def PrefixDec (enc : Str → Bytes) : Prop :=
  ∀ (a b : Str) (r r' : Bytes), a.length = b.length → enc a ++ r = enc b ++ r' → a = b ∧ r = r'

/-- a `(name, digest)` record whose length field can be packed (`struct.pack` does not raise) and whose digest has the
fixed length `dl` -/
def FileFits (dl : Nat) (p : Str × Bytes) : Prop := p.1.length < 2 ^ 32 ∧ p.2.length = dl

/-- a `(key, value)` record whose two length fields can be packed -/
def VarFits (p : Str × Str) : Prop := p.1.length < 2 ^ 32 ∧ p.2.length < 2 ^ 32

theorem file_entry_prefix {enc : Str → Bytes} (henc : PrefixDec enc) (dl : Nat) {p q : Str × Bytes} {r r' : Bytes}
    (hp : FileFits dl p) (hq : FileFits dl q)
    (h : le32 p.1.length ++ enc p.1 ++ p.2 ++ r = le32 q.1.length ++ enc q.1 ++ q.2 ++ r') : p = q ∧ r = r' := by
  simp only [List.append_assoc] at h
  obtain ⟨hlen, h⟩ := le32_prefix hp.1 hq.1 h
  obtain ⟨h1, h⟩ := henc _ _ _ _ hlen h
  obtain ⟨h2, h⟩ := List.append_inj h (hp.2.trans hq.2.symm)
  exact ⟨Prod.ext h1 h2, h⟩

/-- the files blob has no count field: it is still uniquely decodable because every record is non-empty -/
theorem filesBlob_inj {enc : Str → Bytes} (henc : PrefixDec enc) {dl : Nat} {f1 f2 : List (Str × Bytes)}
    (h1 : ∀ p ∈ f1, FileFits dl p) (h2 : ∀ p ∈ f2, FileFits dl p) (h : filesBlob enc f1 = filesBlob enc f2) :
    f1 = f2 := by
  refine Bytes.flatMap_inj_of_ne_nil (file_entry_prefix henc dl) (fun p _ hnil => ?_) h1 h2 h
  have := congrArg List.length hnil
  simp [le32_length, Consts.C04.lenBytes] at this

theorem var_entry_prefix {enc : Str → Bytes} (henc : PrefixDec enc) {p q : Str × Str} {r r' : Bytes}
    (hp : VarFits p) (hq : VarFits q)
    (h : le32 p.1.length ++ le32 p.2.length ++ enc (p.1 ++ p.2) ++ r
       = le32 q.1.length ++ le32 q.2.length ++ enc (q.1 ++ q.2) ++ r') : p = q ∧ r = r' := by
  simp only [List.append_assoc] at h
  obtain ⟨hk, h⟩ := le32_prefix hp.1 hq.1 h
  obtain ⟨hv, h⟩ := le32_prefix hp.2 hq.2 h
  obtain ⟨h1, h⟩ := henc _ _ _ _ (by rw [List.length_append, List.length_append, hk, hv]) h
  obtain ⟨h2, h3⟩ := List.append_inj h1 hk
  exact ⟨Prod.ext h2 h3, h⟩

/-- the count in front makes the environment blob decodable from the front of a stream -/
theorem envBlob_prefix {enc : Str → Bytes} (henc : PrefixDec enc) {e1 e2 : List (Str × Str)} {r r' : Bytes}
    (h1 : e1.length < 2 ^ 32 ∧ ∀ p ∈ e1, VarFits p) (h2 : e2.length < 2 ^ 32 ∧ ∀ p ∈ e2, VarFits p)
    (h : envBlob enc e1 ++ r = envBlob enc e2 ++ r') : e1 = e2 ∧ r = r' := by
  simp only [envBlob, List.append_assoc] at h
  obtain ⟨hlen, h⟩ := le32_prefix h1.1 h2.1 h
  exact Bytes.flatMap_pf (var_entry_prefix henc) hlen h1.2 h2.2 h

theorem flagByte_inj : ∀ {s1 s2 : Bool}, flagByte s1 = flagByte s2 → s1 = s2 := by decide

/-- the four parts of the hashed bytes can be recovered: input hash and files digest of fixed length, counted
environment, flag -/
theorem keyParts_inj {enc : Str → Bytes} (henc : PrefixDec enc) {ih1 ih2 d1 d2 : Bytes} {e1 e2 : List (Str × Str)}
    {s1 s2 : Bool} (hih : ih1.length = ih2.length) (hd : d1.length = d2.length)
    (he1 : e1.length < 2 ^ 32 ∧ ∀ p ∈ e1, VarFits p) (he2 : e2.length < 2 ^ 32 ∧ ∀ p ∈ e2, VarFits p)
    (h : ih1 ++ d1 ++ envBlob enc e1 ++ [flagByte s1] = ih2 ++ d2 ++ envBlob enc e2 ++ [flagByte s2]) :
    ih1 = ih2 ∧ d1 = d2 ∧ e1 = e2 ∧ s1 = s2 := by
  simp only [List.append_assoc] at h
  obtain ⟨h1, h⟩ := List.append_inj h hih
  obtain ⟨h2, h⟩ := List.append_inj h hd
  obtain ⟨h3, h⟩ := envBlob_prefix henc he1 he2 h
  exact ⟨h1, h2, h3, flagByte_inj (List.cons.inj h).1⟩

/-- `insertSorted` tests `strLt q.1 p.1` and keeps `q` in front, so the test in the sense of `IsIns` is its negation. -/
theorem sortItems_is {A : Type} :
    SortKey.IsSort (fun p q : Str × A => !strLt q.1 p.1) insertSorted sortItems :=
  ⟨⟨fun _ => rfl, fun p q _ => by rw [insertSorted]; cases strLt q.1 p.1 <;> rfl⟩, rfl, fun _ _ => rfl⟩

theorem perm_sortItems {A : Type} (l : List (Str × A)) : (sortItems l).Perm l :=
  sortItems_is.perm l

theorem mem_sortItems {A : Type} {q : Str × A} {l : List (Str × A)} : q ∈ sortItems l ↔ q ∈ l :=
  (perm_sortItems l).mem_iff

theorem length_sortItems {A : Type} (l : List (Str × A)) : (sortItems l).length = l.length :=
  (perm_sortItems l).length_eq

theorem forall_mem_sortItems {A : Type} {P : Str × A → Prop} {l : List (Str × A)} (h : ∀ p ∈ l, P p) :
    ∀ p ∈ sortItems l, P p :=
  fun p hp => h p (mem_sortItems.1 hp)

section Yaml
variable {D E : Type}

/-- every row stems from a real load of an observed file state -/
def RowsOK (H : Bytes → Bytes) (parse : Bytes → Bytes → Except E D) (Obs : Str → Bytes → Bytes → Prop)
    (rows : List (Str × Bytes × Bytes × D)) : Prop :=
  ∀ row ∈ rows, ∃ st sd content, Obs row.1 st content ∧ st.length = Consts.C04.statLen ∧
    row.2.1 = st ++ sd ∧ row.2.2.1 = H content ∧ parse sd content = .ok row.2.2.2

variable {H : Bytes → Bytes} {parse : Bytes → Bytes → Except E D} {Obs : Str → Bytes → Bytes → Prop}

theorem findRow_mem {rows : List (Str × Bytes × Bytes × D)} {name : Str} {bs dg : Bytes} {d : D}
    (h : findRow rows name bs = some (dg, d)) : (name, bs, dg, d) ∈ rows := by
  induction rows with
  | nil => cases h
  | cons row rest ih =>
    obtain ⟨n, s, g, x⟩ := row
    unfold findRow at h
    split at h
    · next hc =>
      obtain ⟨rfl, rfl⟩ := hc
      cases h
      exact List.mem_cons_self
    · exact List.mem_cons_of_mem _ (ih h)

/- `StatChanges`: a file whose stat record is unchanged has unchanged content. -/
variable (hStat : ∀ n st c1 c2, Obs n st c1 → Obs n st c2 → c1 = c2)
include hStat

/-- a row found under the stat record of an observed file state holds that state's digest and parse: the state behind the
row has the same stat record, hence the same content -/
theorem RowsOK.hit {rows : List (Str × Bytes × Bytes × D)} (hc : RowsOK H parse Obs rows) {name : Str} {st sd content dg : Bytes} {d : D}
    (hobs : Obs name st content) (hlen : st.length = Consts.C04.statLen)
    (h : findRow rows name (st ++ sd) = some (dg, d)) : dg = H content ∧ parse sd content = .ok d := by
  obtain ⟨st0, sd0, content0, hobs0, hlen0, hbs, hdg, hparse⟩ := hc _ (findRow_mem h)
  obtain ⟨rfl, rfl⟩ := List.append_inj hbs (hlen.trans hlen0.symm)
  obtain rfl := hStat _ _ _ _ hobs0 hobs
  exact ⟨hdg, hparse⟩

variable {fs : FS} (hfs : ∀ n st c, fs n = some (st, c) → Obs n st c ∧ st.length = Consts.C04.statLen)
include hfs

theorem loadYaml_eq {c : YCache D} (hc : RowsOK H parse Obs c.rows) {s sU : YSession} (hs : s.files = sU.files)
    (name : Str) (sd : Bytes) :
    (loadYaml H parse fs c s name sd).2.2 = (loadYamlU H parse fs sU name sd).2 ∧
    (loadYaml H parse fs c s name sd).2.1.files = (loadYamlU H parse fs sU name sd).1.files ∧
    RowsOK H parse Obs (loadYaml H parse fs c s name sd).1.rows := by
  unfold loadYaml loadYamlU
  cases hf : fs name with
  | none => exact ⟨rfl, hs, hc⟩
  | some p =>
    obtain ⟨st, content⟩ := p
    obtain ⟨hobs, hlen⟩ := hfs _ _ _ hf
    dsimp only
    cases hrow : (if s.hot = true then findRow c.rows name (st ++ sd) else none) with
    | some q =>
      obtain ⟨dg, d⟩ := q
      obtain ⟨rfl, hp⟩ := hc.hit hStat hobs hlen (Option.ite_none_right_eq_some.1 hrow).2
      dsimp only
      rw [hp, hs]
      exact ⟨rfl, rfl, hc⟩
    | none =>
      dsimp only
      cases hp : parse sd content with
      | error err => exact ⟨rfl, hs, hc⟩
      | ok d =>
        dsimp only
        rw [hs]
        exact ⟨rfl, rfl, List.forall_mem_cons.2
          ⟨⟨st, sd, content, hobs, hlen, rfl, rfl, hp⟩, fun r hm => hc r (List.mem_filter.1 hm).1⟩⟩

theorem runLoads_eq (loads : List (Str × Bytes)) {c : YCache D} (hc : RowsOK H parse Obs c.rows) {s sU : YSession}
    (hs : s.files = sU.files) :
    (runLoads H parse fs c s loads).2.2 = (runLoadsU H parse fs sU loads).2 ∧
    (runLoads H parse fs c s loads).2.1.files = (runLoadsU H parse fs sU loads).1.files ∧
    RowsOK H parse Obs (runLoads H parse fs c s loads).1.rows := by
  induction loads generalizing c s sU with
  | nil => exact ⟨rfl, hs, hc⟩
  | cons l rest ih =>
    obtain ⟨h1, h2, h3⟩ := loadYaml_eq hStat hfs hc hs l.1 l.2
    obtain ⟨i1, i2, i3⟩ := ih h3 h2
    simp only [runLoads, runLoadsU]
    exact ⟨by rw [h1, i1], i2, i3⟩

end Yaml

end Memo
