import BobModel.Proofs.C06Tok
import BobModel.Proofs.C06Lock
/-
Failure handling of the scheduler model: the bookkeeping itself never raises (no task ever carries an
internal exception), without keep-going the first recorded build error clears `running` for good, with
keep-going `running` is never cleared (`ErrInv`).  Then `CtlInv`: every move preserves the accounting of job slots,
workspace locks and failures together, by the one analysis of `Step` that the three share.
-/
namespace Sched
open JobSem

structure ErrInv (cfg : Cfg) (st : St) : Prop where
  noInternal : ∀ x ∈ st.tasks, x.err ≠ some .internal
  stop : cfg.keepGoing = false → 0 < st.errors → st.running = false
  keep : cfg.keepGoing = true → st.running = true

/-- a step of task `t`: its new pending exception is not an internal one, and the failure state is again consistent -/
theorem ErrInv.set {cfg : Cfg} {st g : St} {t : Nat} {x' : Task} {new : List Task}
    (hi : ErrInv cfg st) (hg : GrowT st g new) (herr : x'.err ≠ some .internal)
    (hstop : cfg.keepGoing = false → 0 < g.errors → g.running = false)
    (hkeep : cfg.keepGoing = true → g.running = true) : ErrInv cfg (g.setTask t x') := by
  exact ⟨hg.forall_tasks hi.noInternal (fun y hy => by rw [hy.1]; simp) herr, hstop, hkeep⟩

theorem ErrInv.update {cfg : Cfg} {st g : St} {t : Nat} {x' : Task} {new : List Task}
    (hi : ErrInv cfg st) (hg : GrowT st g new) (herr : x'.err ≠ some .internal)
    (hrun : g.running = st.running) (herrs : g.errors = st.errors) : ErrInv cfg (g.setTask t x') :=
  hi.set hg herr (by rw [hrun, herrs]; exact hi.stop) (by rw [hrun]; exact hi.keep)

/-- The accounting of job slots, workspace locks and failures is one inductive invariant: `TokInv` is inductive on its
own; `LockInv` needs of it only the balanced brackets (`wf`: nothing follows `wrapEnd`); `ErrInv` needs both, since they
are what makes `release` and `unlock` succeed (`relFailed`, `unlockFailed` never happen). -/
structure CtlInv (n : Nat) (P : Project) (cfg : Cfg) (st : St) : Prop where
  tok : TokInv n st
  lock : LockInv P st
  err : ErrInv cfg st

theorem CtlInv.ofStep {n : Nat} {P : Project} {cfg : Cfg} {st st' : St} {t : Nat} {op : Op} {rest : List Op}
    (hi : CtlInv n P cfg st) (hops : (st.task t).ops = op :: rest) (hs : Step P cfg st t op rest st') :
    CtlInv n P cfg st' := by
  obtain ⟨ht, hl, he⟩ := hi
  have hx := he.noInternal _ (task_mem (task_lt hops))
  -- the task ends: it owns no slot and is inside no lock
  have fin : ∀ (g : St) (e : Option Err), op = .wrapEnd → GrowT st g [] → g.runners = st.runners → g.locks = st.locks →
      e ≠ some .internal → (cfg.keepGoing = false → 0 < g.errors → g.running = false) →
      (cfg.keepGoing = true → g.running = true) →
      CtlInv n P cfg (g.setTask t { kind := (st.task t).kind, ops := [], err := e }) := by
    intro g e ho hg hgr hgl hne h1 h2
    obtain rfl := Step.end_rest ht.wf hops ho
    subst ho
    have htl := task_lt hops
    exact ⟨ht.keepStep (h := false) htl (by rw [hops]; rfl) rfl rfl (by rw [waitingTok_eq, waitingTok_eq, hops]; rfl) hg hgr,
      hl.keep htl (fun _ => by rw [hops]; rfl) (fun _ => by rw [hops]; rfl) rfl rfl hg hgl, he.set hg hne h1 h2⟩
  cases hs with
  | rule hr =>
    obtain ⟨new, hf⟩ := hr.frame
    exact ⟨ht.neutralStep hops hr.tokNeutral hf.growT hf.runners, hl.neutralStep hops hr.lockNeutral hf.growT hf.locks,
      he.update hf.growT hx hf.running hf.errors⟩
  | raise hr =>
    obtain ⟨hne, hc, hf, _⟩ := hr.spec hops
    exact ⟨ht.raiseStep hops (plain_of_isCtl hc) hf.growT hf.runners, hl.raiseStep hops (isCtl_counts hc) hf.growT hf.locks,
      he.update hf.growT (fun h => hne (Option.some.inj h)) hf.running hf.errors⟩
  | tok hr =>
    have hf := hr.frame
    have hg : GrowT st _ [] := ⟨hf.tasks, hf.init⟩
    exact ⟨ht.tokStep hops hr hg hf.runners, hl.neutralStep hops hr.lockNeutral hg hf.locks,
      he.update hg hx hf.running hf.errors⟩
  | relFailed hlv hf =>
    -- a task that is about to give its slot back owns one
    obtain ⟨r', e, _⟩ := ht.release_ok hops hlv
    cases hf.symm.trans e
  | lock hr =>
    exact ⟨ht.neutralStep hops hr.tokNeutral (.same rfl) rfl, hl.lockStep hops hr, he.update (.same rfl) hx rfl rfl⟩
  | unlockFailed ho hf =>
    -- the task is inside the lock of `p`, so the lock is locked
    subst ho
    obtain ⟨l, e⟩ := hl.unlock_ok hops
    cases hf.symm.trans e
  | endOk ho =>
    have hf := untrack_frame P st (st.task t).kind (.done t true)
    exact fin _ _ ho hf.growT hf.runners hf.locks hx (by rw [hf.running, hf.errors]; exact he.stop)
      (by rw [hf.running]; exact he.keep)
  | endCancel ho => exact fin _ _ ho (.same rfl) rfl rfl hx he.stop he.keep
  | endBuild ho =>
    -- a build error is counted, and stops the build unless keep-going
    exact fin _ _ ho (.same rfl) rfl rfl (by simp) (fun hk _ => by simp [hk]) (fun hk => by simpa [hk] using he.keep hk)
  | endInternal _ hint => exact absurd hint hx

theorem CtlInv.step {n : Nat} {P : Project} {cfg : Cfg} {st st' : St} {c : Choice}
    (hi : CtlInv n P cfg st) (h : step P cfg st c = some st') : CtlInv n P cfg st' := by
  cases step_move h with
  | task hops hs | finish hops hs => exact hi.ofStep hops hs
  | env hs he =>
    -- only the job server semaphore moves
    have hr := hi.tok.run
    rw [hs] at hr
    refine ⟨⟨hi.tok.wf, ?_⟩, ⟨fun p => LockAt.of_eq (st := st) rfl rfl (hi.lock.at_ p), hi.lock.sect, hi.lock.nowait⟩,
      ⟨hi.err.noInternal, hi.err.stop, hi.err.keep⟩⟩
    cases he with
    | callback =>
      obtain ⟨c1, c2, c3⟩ := SemInv.callback hr.1
      exact hr.jobStep c1 c2 c3
    | take he =>
      obtain ⟨c1, c2, c3⟩ := SemInv.envTake hr.1 he
      exact hr.jobStep c1 (by rw [c2, c3]) (by rw [c3])
    | give he =>
      obtain ⟨c1, c2, c3⟩ := SemInv.envReturn hr.1 he
      exact hr.jobStep c1 (by rw [c2, c3]) (by rw [c3])

theorem ErrInv.init (cfg : Cfg) (r0 : Runners) : ErrInv cfg (init cfg r0) := by
  refine ⟨?_, ?_, ?_⟩
  · intro x hx
    simp only [Sched.init, List.mem_singleton] at hx
    subst hx; simp
  · intro _ h; simp [Sched.init] at h
  · intro _; rfl

theorem CtlInv.reach {n : Nat} {P : Project} {cfg : Cfg} {r0 : Runners} {st : St} (hr : GoodRunners n r0)
    (h : Reach P cfg r0 st) : CtlInv n P cfg st := by
  induction h with
  | init => exact ⟨TokInv.init hr, LockInv.init P cfg r0, ErrInv.init cfg r0⟩
  | step c _ hs ih => exact ih.step hs

theorem TokInv.reach {n : Nat} {P : Project} {cfg : Cfg} {r0 : Runners} {st : St} (hr : GoodRunners n r0)
    (h : Reach P cfg r0 st) : TokInv n st :=
  (CtlInv.reach hr h).tok

theorem LockInv.reach {n : Nat} {P : Project} {cfg : Cfg} {r0 : Runners} {st : St} (hr : GoodRunners n r0)
    (h : Reach P cfg r0 st) : LockInv P st :=
  (CtlInv.reach hr h).lock

theorem ErrInv.reach {n : Nat} {P : Project} {cfg : Cfg} {r0 : Runners} {st : St} (hr : GoodRunners n r0)
    (h : Reach P cfg r0 st) : ErrInv cfg st :=
  (CtlInv.reach hr h).err

end Sched
