import BobModel.Proofs.C01Cook
/-
The data-flow theorem: a successful `cook` from any `Truthful` state leaves, in the workspace of
every reachable step, exactly the content of a from-scratch build (`value`).
-/
namespace Builder

variable {E : Env} {dev : Bool} {Γ : Path → List (Dir × Digest)}

mutual
/-- the steps that `cook` visits: the step and, recursively, its dependencies (input-only
steps `pre` are reached through the dependencies) -/
def reach : Step → List Step
  | .mk i pre ds => .mk i pre ds :: reachL ds
def reachL : List Step → List Step
  | [] => []
  | d :: ds => reach d ++ reachL ds
end

theorem self_mem_reach (t : Step) : t ∈ reach t := by
  cases t with
  | mk i pre ds => simp [reach]

theorem mem_reachL {v : Step} {ds : List Step} : v ∈ reachL ds ↔ ∃ d ∈ ds, v ∈ reach d := by
  induction ds with
  | nil => simp [reachL]
  | cons x xs ih => simp [reachL, ih]

theorem mem_reachL_of_mem {d : Step} {ds : List Step} (h : d ∈ ds) : d ∈ reachL ds :=
  mem_reachL.mpr ⟨d, h, self_mem_reach d⟩

/-- "deterministic scripts assumed", made precise -/
structure SemHyp (E : Env) (dev : Bool) (T : Step) : Prop where
  /-- scripts do not depend on (admissible) stale workspace content -/
  obl : ∀ sig w old cs, Adm dev sig.kind old → E.sem sig w old cs = E.sem sig w emptyC cs
  /-- only checkouts read the external world -/
  world : ∀ sig w w' old cs, sig.kind ≠ .checkout → E.sem sig w old cs = E.sem sig w' old cs
  /-- checkouts declared deterministic are -/
  det : ∀ u ∈ subtrees T, u.kind = .checkout → u.info.det = true →
    ∀ w w' old cs, E.sem u.info.sig w old cs = E.sem u.info.sig w' old cs

/-- well-formedness of a project for the data-flow theorem -/
structure TreeWF (Γ : Path → List (Dir × Digest)) (T : Step) : Prop where
  wf : AllWF Γ T
  /-- a workspace path identifies the step (C16) -/
  pathInj : ∀ u ∈ subtrees T, ∀ v ∈ subtrees T, u.path = v.path → u = v
  /-- only package steps have input-only steps, and those are built by the dependencies -/
  pre : ∀ u ∈ subtrees T, (u.kind ≠ .package → u.pre = []) ∧ ∀ x ∈ u.pre, x ∈ reachL u.deps

def Done (E : Env) (u : Step) (st : St) : Prop :=
  st.disk u.path = some (value E u) ∧ st.results u.path = some (.hash (E.H (value E u)))

/-- the stored state marks the step as up to date with respect to the current state of its inputs
(the conditions under which the cook functions skip) -/
def Settled (E : Env) (t : Step) (st : St) : Prop :=
  match t.info.sig.kind with
  | .build => st.dirStates t.info.path = some (.build (ivid st t.info t.deps) (t.info.execPath :: t.deps.map fun d => d.info.execPath)) ∧
      st.inputs t.info.path = some (inputHashes st t.info t.deps)
  | .package => st.dirStates t.info.path = some (.pkg (.mk t.info.sig (vids t.deps))) ∧
      st.inputs t.info.path = some (inputHashes st t.info (t.pre ++ t.deps))
  | .checkout => (∃ bo, st.dirStates t.info.path = some (.co t.info.scms (some (.mk t.info.sig (vids t.deps))) bo)) ∧
      st.inputs t.info.path = some (resultsOf st t.deps) ∧
      st.results t.info.path = some (hashOf E st t.info.path) ∧
      -- an indeterministic checkout is re-run by every invocation: everything it stores is current
      (t.info.det = false →
        st.dirStates t.info.path = some (.co t.info.scms (some (.mk t.info.sig (vids t.deps)))
          (some { loc := t.info.boLoc, upd := t.info.boUpd, ins := resultsOf st t.deps })) ∧
        st.variantIds t.info.path = some (ivid st t.info t.deps))

/-- `Settled` only looks at the step's own path and the paths of its inputs -/
theorem settled_frame {p : Path} {st st' : St} (ha : AgreeOff p st st') (t : Step) (hp : t.path ≠ p)
    (hin : ∀ d ∈ t.pre ++ t.deps, d.path ≠ p) (h : Settled E t st) : Settled E t st' := by
  obtain ⟨e1, e2, e3, e4, e5⟩ := ha t.info.path hp
  have hds : ∀ d ∈ t.deps, d.path ≠ p := fun d hd => hin d (List.mem_append_right _ hd)
  simp only [Settled, hashOf, e1, e2, e3, e4, e5, ivid_agree ha _ _ hds, inputHashes_agree ha _ _ hds,
    inputHashes_agree ha _ _ hin, resultsOf_agree ha _ hds]
  exact h

theorem Done.of_agree {p : Path} {st st' : St} {u : Step} (h : Done E u st) (ha : AgreeOff p st st')
    (hp : u.path ≠ p) : Done E u st' := by
  obtain ⟨e1, _, _, e4, _⟩ := ha u.path hp
  unfold Done
  rw [e1, e4]
  exact h

theorem values_eq_map (ds : List Step) : values E ds = ds.map (value E) := by
  induction ds with
  | nil => simp [values]
  | cons d ds ih => simp [values, ih]

theorem contentsOf_done {st : St} {ds : List Step} (h : ∀ d ∈ ds, Done E d st) : contentsOf st ds = values E ds := by
  rw [values_eq_map]
  unfold contentsOf
  apply List.map_congr_left
  intro d hd
  rw [(h d hd).1]; rfl

theorem resultsOf_done {st : St} {ds : List Step} (h : ∀ d ∈ ds, Done E d st) :
    resultsOf st ds = hashes E (values E ds) := by
  rw [values_eq_map]
  unfold resultsOf hashes
  rw [List.map_map]
  apply List.map_congr_left
  intro d hd
  rw [(h d hd).2]; rfl

theorem strip_hashes (cs : List Content) : strip (hashes E cs) = hashes E cs := by
  unfold strip hashes
  apply List.filter_eq_self.mpr
  intro x hx
  obtain ⟨c, _, hc⟩ := List.mem_map.mp hx
  rw [← hc]; simp [isFp]

theorem strip_inputHashes_done {st : St} {i : Info} {ds : List Step} (h : ∀ d ∈ ds, Done E d st) :
    strip (inputHashes st i ds) = hashes E (values E ds) := by
  rw [strip_inputHashes, resultsOf_done h, strip_hashes]

theorem value_of_produced {T : Step} (hs : SemHyp E dev T) (i : Info) (pre ds : List Step) (c : Content)
    (hp : Produced E dev i.sig (values E pre ++ values E ds) c)
    (hw : i.sig.kind ≠ .checkout ∨ (∀ w w' old cs, E.sem i.sig w old cs = E.sem i.sig w' old cs)) :
    c = value E (.mk i pre ds) := by
  obtain ⟨w, old, hadm, hsem⟩ := hp
  simp only [value]
  have h1 := hs.obl i.sig w old (values E pre ++ values E ds) hadm
  have h2 : E.sem i.sig w emptyC (values E pre ++ values E ds) = E.sem i.sig i.world emptyC (values E pre ++ values E ds) := by
    rcases hw with hw | hw
    · exact hs.world _ _ _ _ _ hw
    · exact hw _ _ _ _
  rw [← h2, ← h1, hsem]; rfl

theorem value_of_ran {T : Step} (hs : SemHyp E dev T) (i : Info) (hk : i.sig.kind = .checkout) (ds : List Step)
    (c old : Content) (hsem : E.sem i.sig i.world old (values E ds) = .ok c) : c = value E (.mk i [] ds) := by
  simp only [value, values, List.nil_append]
  have h1 := hs.obl i.sig i.world old (values E ds) (Or.inr (Or.inl hk))
  rw [← h1, hsem]; rfl

def Ran (r : Run) (p : Path) : Prop := (r.mem.wasRun p).isSome = true

/-- invariant of the data-flow induction: a step is marked as run only when it is `Done` and
`Settled`, never as skipped, and under its own variant id (so `_wasAlreadyRun` finds it) -/
structure DInv (E : Env) (dev : Bool) (Γ : Path → List (Dir × Digest)) (T : Step) (r : Run) : Prop where
  truthful : Truthful E dev Γ r.st
  mem : ∀ u ∈ subtrees T, ∀ x, r.mem.wasRun u.path = some x →
    x.1 = vid u ∧ r.mem.wasSkipped u.path = false ∧ Done E u r.st ∧ Settled E u r.st
  /-- a step is marked only after everything below it -/
  closed : ∀ u ∈ subtrees T, Ran r u.path → ∀ v ∈ reach u, Ran r v.path

theorem DInv.of_ran {T : Step} {r : Run} (hi : DInv E dev Γ T r) {u : Step} (hu : u ∈ subtrees T)
    (hr : Ran r u.path) : Done E u r.st ∧ Settled E u r.st := by
  unfold Ran at hr
  cases hx : r.mem.wasRun u.path with
  | none => rw [hx] at hr; cases hr
  | some x => exact (hi.mem u hu x hx).2.2

theorem inputs_mem_reach {T : Step} (hwf : TreeWF Γ T) {u : Step} (hu : u ∈ subtrees T) :
    ∀ d ∈ u.pre ++ u.deps, d ∈ reach u := by
  intro d hd
  cases u with
  | mk i pre ds =>
    simp only [reach, List.mem_cons]
    right
    rcases List.mem_append.mp hd with h | h
    · exact (hwf.pre _ hu).2 d h
    · exact mem_reachL_of_mem h

/-- a state change confined to a path that has not been cooked yet keeps the invariant -/
theorem dinv_frame {T : Step} (hwf : TreeWF Γ T) {r r' : Run} (hi : DInv E dev Γ T r) (hm : r'.mem = r.mem)
    (ht : Truthful E dev Γ r'.st) {p : Path} (ha : AgreeOff p r.st r'.st) (hn : r.mem.wasRun p = none) :
    DInv E dev Γ T r' := by
  refine ⟨ht, ?_, ?_⟩
  · intro u hu x hx
    rw [hm] at hx
    obtain ⟨a, b, c, d⟩ := hi.mem u hu x hx
    have hran : Ran r u.path := by unfold Ran; rw [hx]; rfl
    have notp : ∀ q, Ran r q → q ≠ p := by
      intro q hq he; unfold Ran at hq; rw [he, hn] at hq; cases hq
    have hne : u.path ≠ p := notp _ hran
    refine ⟨a, by rw [hm]; exact b, c.of_agree ha hne, settled_frame ha u hne ?_ d⟩
    intro v hv
    exact notp _ (hi.closed u hu hran v (inputs_mem_reach hwf hu v hv))
  · intro u hu hr v hv
    unfold Ran at *
    rw [hm] at *
    exact hi.closed u hu hr v hv

/-- cached entries are valid (`_wasAlreadyRun` never drops one), and a step is marked only after
everything below it -/
structure MemOK (T : Step) (r : Run) : Prop where
  valid : ∀ u ∈ subtrees T, ∀ x, r.mem.wasRun u.path = some x → x.1 = vid u
  closed : ∀ u ∈ subtrees T, Ran r u.path → ∀ v ∈ reach u, Ran r v.path

theorem DInv.memOK {T : Step} {r : Run} (hi : DInv E dev Γ T r) : MemOK T r :=
  ⟨fun u hu x hx => (hi.mem u hu x hx).1, hi.closed⟩

/-- `_wasAlreadyRun`: a hit means that the step is marked, a miss that it is not (or was skipped) -/
theorem wp_wasAlreadyRun_ok {T t : Step} (ht : t ∈ subtrees T) (so : Bool) (Q : Bool → Run → Prop) (A : Run → Prop)
    (r : Run) (hi : MemOK T r) (h1 : Ran r t.path → Q true r)
    (h2 : (r.mem.wasSkipped t.path = false → r.mem.wasRun t.path = none) → Q false r) :
    wp (wasAlreadyRun t so) Q A r := by
  unfold wasAlreadyRun
  simp only [wp_bind, wp_getMem]
  cases hw : r.mem.wasRun t.path with
  | none => simp only [wp_pure]; exact h2 fun _ => hw
  | some x =>
    obtain ⟨v, c⟩ := x
    have a := hi.valid t ht (v, c) hw
    simp only [] at a
    simp only [a, ne_eq, not_true_eq_false, if_false]
    split
    · rename_i hs
      simp only [wp_pure]
      exact h2 fun hf => by simp [hf] at hs
    · simp only [wp_pure]; apply h1; unfold Ran; rw [hw]; rfl

theorem MemOK.below {T t : Step} {r : Run} (hi : MemOK T r) (w : ∀ u ∈ subtrees t, u ∈ subtrees T)
    (gd : ∀ d ∈ t.deps, Ran r d.path) : ∀ v ∈ reachL t.deps, Ran r v.path := by
  intro v hv
  obtain ⟨d, hd, hvd⟩ := mem_reachL.mp hv
  cases t with
  | mk i pre ds => exact hi.closed d (w d (subtrees_of_dep hd (self_mem_subtrees d))) (gd d hd) v hvd

theorem MemOK.mark {T t : Step} (hinj : ∀ u ∈ subtrees T, ∀ v ∈ subtrees T, u.path = v.path → u = v)
    (ht : t ∈ subtrees T) {c : Bool} {r : Run} (hi : MemOK T r) (hbelow : ∀ v ∈ reachL t.deps, Ran r v.path)
    {m : Mem} (hm : m.wasRun = upd r.mem.wasRun t.path (some (vid t, c))) :
    MemOK T { r with mem := m } ∧ (∀ q, Ran r q → Ran { r with mem := m } q) ∧ Ran { r with mem := m } t.path := by
  have hmono : ∀ q, Ran r q → Ran { r with mem := m } q := by
    intro q hq
    show (m.wasRun q).isSome = true
    rw [hm]
    by_cases hqt : q = t.path
    · rw [hqt, upd_same]; rfl
    · rw [upd_other _ _ _ _ hqt]; exact hq
  have hran : Ran { r with mem := m } t.path := by
    show (m.wasRun t.path).isSome = true
    rw [hm, upd_same]; rfl
  refine ⟨⟨?_, ?_⟩, hmono, hran⟩
  · intro u hu x hx
    replace hx : m.wasRun u.path = some x := hx
    rw [hm] at hx
    by_cases hpu : u.path = t.path
    · obtain rfl := hinj u hu t ht hpu
      rw [upd_same] at hx; cases hx; rfl
    · rw [upd_other _ _ _ _ hpu] at hx; exact hi.valid u hu x hx
  · intro u hu hr v hv
    by_cases hpu : u.path = t.path
    · obtain rfl := hinj u hu t ht hpu
      cases u with
      | mk i pre ds =>
        rcases List.mem_cons.mp (by simpa only [reach] using hv) with rfl | hv
        · exact hran
        · exact hmono _ (hbelow v hv)
    · replace hr : (m.wasRun u.path).isSome = true := hr
      rw [hm, upd_other _ _ _ _ hpu] at hr
      exact hmono _ (hi.closed u hu hr v hv)

theorem Loc.result_eq {st : St} {p : Path} {c : Content} (hl : Loc E dev Γ st p) (hd : st.disk p = some c)
    (hh : isHash (st.results p)) : st.results p = some (.hash (E.H c)) := by
  cases hr : st.results p with
  | none => rw [hr] at hh; exact hh.elim
  | some rh =>
    cases rh with
    | hash x =>
      obtain ⟨c', hd', hx⟩ := hl.res x hr
      rw [hd] at hd'; cases hd'; rw [hx]
    | forged t => rw [hr] at hh; exact hh.elim
    | fp q => rw [hr] at hh; exact hh.elim

/-- in a truthful state, what is claimed about the hashed workspace of a step whose inputs are done
is that it holds the from-scratch value -/
theorem done_of_claim {T : Step} (hs : SemHyp E dev T) (i : Info) (pre ds : List Step) {st : St}
    (hl : Loc E dev Γ st i.path) (hh : isHash (st.results i.path))
    (hcl : ∃ c, st.disk i.path = some c ∧ Produced E dev i.sig (values E pre ++ values E ds) c)
    (hw : i.sig.kind ≠ .checkout ∨ (∀ w w' old cs, E.sem i.sig w old cs = E.sem i.sig w' old cs)) :
    Done E (.mk i pre ds) st := by
  obtain ⟨c, hd, hp⟩ := hcl
  obtain rfl := value_of_produced hs i pre ds c hp hw
  exact ⟨hd, hl.result_eq hd hh⟩

theorem pre_nil {T : Step} (hwf : TreeWF Γ T) {i : Info} {pre ds : List Step} (ht : Step.mk i pre ds ∈ subtrees T)
    (hk : i.sig.kind ≠ .package) : pre = [] := (hwf.pre _ ht).1 hk

/-- why a step that the cook functions skip needs no work: in a truthful state a `Settled` step whose inputs hold
the from-scratch contents holds the from-scratch content itself.  A checkout also reads the external world: it is
declared deterministic, or it ran in this invocation (`hran`). -/
theorem Done.of_settled {T : Step} (hs : SemHyp E dev T) {i : Info} {pre ds : List Step} {st : St}
    (ht : Step.mk i pre ds ∈ subtrees T) (hpre : i.sig.kind ≠ .package → pre = []) (hl : Loc E dev Γ st i.path)
    (hset : Settled E (.mk i pre ds) st) (hin : ∀ d ∈ pre ++ ds, Done E d st)
    (hran : i.sig.kind = .checkout → i.det = false →
      ∃ c old, st.disk i.path = some c ∧ E.sem i.sig i.world old (values E ds) = .ok c) :
    Done E (.mk i pre ds) st := by
  have hds : ∀ d ∈ ds, Done E d st := fun d hd => hin d (List.mem_append_right _ hd)
  cases hk : i.sig.kind with
  | build =>
    obtain rfl := hpre (by rw [hk]; nofun)
    simp only [Settled, Step.info, Step.deps, hk] at hset
    obtain ⟨hh, hcl⟩ := hl.bld _ _ _ hset.1 hset.2
    exact done_of_claim hs i [] ds hl hh (hcl _ (by rw [strip_inputHashes_done hds]; simp [values]))
      (Or.inl (by rw [hk]; nofun))
  | package =>
    simp only [Settled, Step.info, Step.pre, Step.deps, hk] at hset
    obtain ⟨hh, hcl⟩ := hl.pkg _ _ hset.1 hset.2
    exact done_of_claim hs i pre ds hl hh (hcl _ (by rw [strip_inputHashes_done hin]; simp [values_eq_map]))
      (Or.inl (by rw [hk]; nofun))
  | checkout =>
    obtain rfl := hpre (by rw [hk]; nofun)
    simp only [Settled, Step.info, Step.deps, hk] at hset
    obtain ⟨⟨bo, hdir⟩, hinp, hres, -⟩ := hset
    -- the stored result is a hash, so the claim of the variant-id key is in force
    have hh : isHash (st.results i.path) := by rw [hres]; trivial
    obtain ⟨c, hd, hp⟩ := hl.co _ _ _ _ _ hdir hinp (by rw [resultsOf_done hds, strip_hashes])
      (by simp [values_eq_map, Vid.deps, vids_length]) (Or.inl hh)
    cases hdet : i.det with
    | true =>
      exact done_of_claim hs i [] ds hl hh ⟨c, hd, by simpa [values, Vid.sig] using hp⟩
        (Or.inr (hs.det _ ht (by simp [Step.kind, Step.info, hk]) (by simpa [Step.info] using hdet)))
    | false =>
      obtain ⟨c', old, hd', hsem⟩ := hran hk hdet
      rw [hd] at hd'; cases hd'
      obtain rfl := value_of_ran hs i hk ds c old hsem
      exact ⟨hd, hl.result_eq hd hh⟩

structure DHyp (E : Env) (dev : Bool) (Γ : Path → List (Dir × Digest)) (cfg : Cfg) (T : Step) : Prop where
  hy : Hyp E dev cfg
  sem : SemHyp E dev T
  wf : TreeWF Γ T
  noDeps : cfg.noDeps = false

/-- a cook function of the unmarked step at `i.path` that keeps `Truthful` and leaves the step `Settled` keeps the
invariant and leaves the step done -/
theorem dinv_cook {cfg : Cfg} {T : Step} (H : DHyp E dev Γ cfg T) {i : Info} {pre ds : List Step}
    (ht : Step.mk i pre ds ∈ subtrees T) {m : M Unit} (hc : Confined i.path m) {r : Run} (hi : DInv E dev Γ T r)
    (hn : r.mem.wasRun i.path = none) (hin : ∀ d ∈ pre ++ ds, Done E d r.st ∧ d.path ≠ i.path) {X : Run → Prop}
    (hm : wp m (fun _ r' => Truthful E dev Γ r'.st ∧ X r') (fun r' => Truthful E dev Γ r'.st) r)
    (hX : ∀ r', AgreeOff i.path r.st r'.st → X r' → Settled E (.mk i pre ds) r'.st ∧
      (i.sig.kind = .checkout → i.det = false →
        ∃ c old, r'.st.disk i.path = some c ∧ E.sem i.sig i.world old (values E ds) = .ok c)) :
    wp m (fun _ r' => DInv E dev Γ T r' ∧ Done E (.mk i pre ds) r'.st ∧ Settled E (.mk i pre ds) r'.st)
      (fun _ => True) r := by
  refine wp_mono _ _ _ _ _ _ ?_ (fun _ _ => trivial) (wp_frame hm (hc (frame_closed i.path) r))
  rintro _ r' ⟨⟨ht', hx⟩, ha, hmem⟩
  obtain ⟨hset, hran⟩ := hX r' ha hx
  exact ⟨dinv_frame H.wf hi hmem ht' ha hn, .of_settled H.sem ht (pre_nil H.wf ht) (ht' i.path) hset
    (fun d hd => (hin d hd).1.of_agree ha (hin d hd).2) hran, hset⟩

theorem ran_of_mem_eq {r r' : Run} (hm : r'.mem = r.mem) {p : Path} : Ran r' p ↔ Ran r p := by
  unfold Ran; rw [hm]

theorem reach_sub_subtrees (t : Step) : ∀ u ∈ reach t, u ∈ subtrees t :=
  Step.rec (motive_1 := fun t => ∀ u ∈ reach t, u ∈ subtrees t)
    (motive_2 := fun ds => ∀ u ∈ reachL ds, u ∈ subtreesL ds)
    (fun i pre ds _ hds u hu => by
      simp only [reach, List.mem_cons] at hu
      simp only [subtrees, List.mem_cons, List.mem_append]
      rcases hu with hu | hu
      · exact Or.inl hu
      · exact Or.inr (Or.inr (hds u hu)))
    (fun u hu => by simp [reachL] at hu)
    (fun d ds hd hds u hu => by
      simp only [reachL, List.mem_append] at hu
      simp only [subtreesL, List.mem_append]
      rcases hu with hu | hu
      · exact Or.inl (hd u hu)
      · exact Or.inr (hds u hu))
    t

theorem reachL_sub_subtreesL (ds : List Step) : ∀ u ∈ reachL ds, u ∈ subtreesL ds := by
  intro u hu
  obtain ⟨d, hd, hud⟩ := mem_reachL.mp hu
  exact mem_subtreesL_iff.mpr ⟨d, hd, reach_sub_subtrees d u hud⟩

/-- a step is marked as run only when it is `Done` and `Settled` (`DInv.mem`); a cook function finds
its dependencies marked, hence `Done`, and its own path unmarked, hence free to change (`dinv_frame`) -/
theorem done_spec {cfg : Cfg} {T : Step} (H : DHyp E dev Γ cfg T) :
    DriverSpec E cfg (fun t => ∀ u ∈ subtrees t, u ∈ subtrees T) (· = false) (DInv E dev Γ T) (fun _ => True)
      (fun r r' => ∀ p, Ran r p → Ran r' p) (fun t r => Ran r t.path)
      (fun t r => Done E t r.st ∧ Settled E t r.st) (fun t r => r.mem.wasRun t.path = none) where
  sub w _ hd u hu := w u (subtrees_of_dep hd hu)
  okFalse := rfl
  ofMem e _ hp := (ran_of_mem_eq e).mpr hp
  trans h1 h2 p hp := h2 p (h1 p hp)
  gMono g q := q _ g
  nLocal := @fun t _ _ w n s => (s.mem _ (H.wf.wf t (w t (self_mem_subtrees t))).acyc).trans n
  skip hnd := by rw [H.noDeps] at hnd; cases hnd
  was := @fun t co r w hco hi => by
    have ht := w t (self_mem_subtrees t)
    refine wp_wasAlreadyRun_ok ht co _ _ r hi.memOK
      (fun hran => ⟨hi, fun _ h => h, fun _ => hran, fun h => nomatch h⟩)
      (fun hn => ⟨hi, fun _ h => h, (fun h => nomatch h), fun _ => ?_⟩)
    cases hw : r.mem.wasRun t.path with
    | none => rfl
    | some x => rw [← hw]; exact hn (hi.mem t ht x hw).2.1
  mark := @fun t c s r w hs hi gp gd => by
    subst hs
    have ht := w t (self_mem_subtrees t)
    unfold setAlreadyRun
    simp only [wp_bind, wp_getMem, wp_setMem]
    obtain ⟨hok, hmono, hran⟩ := hi.memOK.mark H.wf.pathInj ht (c := c) (hi.memOK.below w gd)
      (m := ⟨upd r.mem.wasRun t.path (some (vid t, c)), upd r.mem.wasSkipped t.path false⟩) rfl
    refine ⟨⟨hi.truthful, ?_, hok.closed⟩, hmono, hran⟩
    intro u hu x hx
    by_cases hp : u.path = t.path
    · obtain rfl := H.wf.pathInj u hu t ht hp
      simp only [upd_same, Option.some.injEq] at hx
      subst hx
      exact ⟨rfl, upd_same _ _ _, gp.1, gp.2⟩
    · simp only [upd_other _ _ _ _ hp] at hx ⊢
      exact hi.mem u hu x hx
  skipMark _ h := nomatch h
  checkout := @fun i pre ds r w hk hi hn gd => by
    have ht := w _ (self_mem_subtrees _)
    have wt := H.wf.wf _ ht
    obtain rfl := pre_nil H.wf ht (by rw [hk]; nofun)
    have hdeps := fun d hd => (hi.of_ran (w d (subtrees_of_dep hd (self_mem_subtrees d))) (gd d hd)).1
    refine dinv_cook H ht (confined_cookCheckout cfg i ds) hi hn (fun d hd => ⟨hdeps d hd, acyc_of_wf wt d hd⟩)
      (cookCheckout_truthful H.hy.inj cfg i ds (wt.co (by simp [Step.kind, Step.info, hk])) hk (acyc_of_wf wt) r
        hi.truthful)
      fun r' h3 h6 => ⟨?_, fun _ hdet => h6.ranNow hdet _ (by rw [resultsOf_done hdeps, strip_hashes])⟩
    simp only [Settled, Step.info, Step.deps, hk]
    rw [resultsOf_agree h3 ds (acyc_of_wf wt)]
    exact ⟨h6.dir, h6.inputs, h6.result, h6.nondet⟩
  build := @fun i pre ds r w hk hi hn gd => by
    have ht := w _ (self_mem_subtrees _)
    have wt := H.wf.wf _ ht
    obtain rfl := pre_nil H.wf ht (by rw [hk]; nofun)
    refine dinv_cook H ht (confined_cookBuild cfg i ds) hi hn
      (fun d hd => ⟨(hi.of_ran (w d (subtrees_of_dep hd (self_mem_subtrees d))) (gd d hd)).1, acyc_of_wf wt d hd⟩)
      (cookBuild_truthful H.hy.fixB H.hy.inj cfg H.hy.devMode i ds hk (acyc_of_wf wt) r hi.truthful)
      fun r' h3 ⟨h5, h6⟩ => ⟨?_, by rw [hk]; nofun⟩
    simp only [Settled, Step.info, Step.deps, hk]
    rw [ivid_agree h3 i ds (acyc_of_wf wt), inputHashes_agree h3 i ds (acyc_of_wf wt)]
    exact ⟨h6, h5⟩
  package := @fun i pre ds r w hk hi hn => by
    have ht := w _ (self_mem_subtrees _)
    have hnot : i.path ∉ pathsL ds := (H.wf.wf _ ht).acyc
    refine wp_mono _ _ _ _ _ _ ?_ (fun _ _ => trivial) (preparePackage_truthful H.hy.fixP i ds r hi.truthful)
    intro _ r1 hq1
    refine ⟨dinv_frame H.wf hi hq1.mem hq1.truthful hq1.agree hn, fun r3 hi3 ht3 _ hn3 gd => ?_⟩
    -- the input-only steps have been cooked by the dependencies
    have hpre : ∀ d ∈ pre, d ∈ subtreesL ds ∧ Ran r3 d.path := fun d hd =>
      ⟨reachL_sub_subtreesL ds d ((H.wf.pre _ ht).2 d hd), hi3.memOK.below w gd d ((H.wf.pre _ ht).2 d hd)⟩
    have hsub : ∀ d ∈ pre ++ ds, d ∈ subtreesL ds ∧ Ran r3 d.path := by
      intro d hd
      rcases List.mem_append.mp hd with hd | hd
      · exact hpre d hd
      · exact ⟨mem_subtreesL hd, gd d hd⟩
    have hacyc : ∀ d ∈ pre ++ ds, d.path ≠ i.path := fun d hd heq =>
      hnot (heq ▸ List.mem_map.mpr ⟨d, (hsub d hd).1, rfl⟩)
    refine dinv_cook H ht (confined_cookPackage cfg i pre ds) hi3 hn3
      (fun d hd => ⟨(hi3.of_ran (w d (by rw [subtrees]; simp [(hsub d hd).1])) (hsub d hd).2).1, hacyc d hd⟩)
      (cookPackage_truthful H.hy.inj cfg i pre ds r3 hi3.truthful ?_)
      fun r' h3 ⟨h5, h6⟩ => ⟨?_, by rw [hk]; nofun⟩
    · rw [(ht3 i.path hnot).2.2.1]
      exact hq1.dirState
    · simp only [Settled, Step.info, Step.pre, Step.deps, hk]
      rw [inputHashes_agree h3 i (pre ++ ds) hacyc]
      exact ⟨h6, h5⟩

/-- **the data-flow induction**: a successful `cook` keeps `DInv` and marks every step it reaches -/
theorem cook_done {cfg : Cfg} {T : Step} (H : DHyp E dev Γ cfg T) (r : Run) (hi : DInv E dev Γ T r) :
    wp (cookStep E cfg false T) (fun _ r' => DInv E dev Γ T r' ∧ ∀ u ∈ reach T, Ran r' u.path) (fun _ => True) r :=
  wp_post (fun _ _ h => ⟨h.1, h.1.closed T (self_mem_subtrees T) h.2.2.2⟩)
    (((done_spec H).cook T fun _ hu => hu).1 false rfl r hi)

/-- a successful invocation starts with empty bookkeeping and marks every step it reaches -/
theorem invoke_done {cfg : Cfg} {T : Step} (H : DHyp E dev Γ cfg T) (hco : cfg.checkoutOnly = false) {st : St}
    (h : Truthful E dev Γ st) {fuel : Nat} {r' : Run} (hok : invoke E cfg T fuel st = .ok () r') :
    DInv E dev Γ T r' ∧ ∀ u ∈ reach T, Ran r' u.path := by
  have hi : DInv E dev Γ T { st := st, mem := Mem.init, fuel := fuel, log := [] } :=
    ⟨h, by intro u _ x hx; simp [Mem.init] at hx, by intro u _ hr; simp [Ran, Mem.init] at hr⟩
  unfold invoke cook at hok
  rw [hco] at hok
  exact wp_ok (cook_done H _ hi) hok

end Builder
