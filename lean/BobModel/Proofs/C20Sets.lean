import BobModel.Model.Jenkins
/-
C20: the list-as-set operations of the Jenkins model, folds that only add elements, updates of the
state, and reflexive transitive closure.
-/
namespace Jenkins

/-- `insert1` and `insertNew` share this body. -/
theorem mem_addNew {α : Type} [BEq α] [LawfulBEq α] {a : List α} {x y : α} :
    y ∈ (if a.contains x then a else a ++ [x]) ↔ y ∈ a ∨ y = x := by
  split
  · next h => exact ⟨Or.inl, fun hy => hy.elim id (· ▸ List.contains_iff_mem.mp h)⟩
  · simp

theorem nodup_addNew {α : Type} [BEq α] [LawfulBEq α] {a : List α} {x : α} (h : a.Nodup) :
    (if a.contains x then a else a ++ [x]).Nodup := by
  split
  · exact h
  · next hx =>
    refine List.nodup_append.mpr ⟨h, by simp, fun y hy z hz e => hx ?_⟩
    rw [← List.mem_singleton.mp hz, ← e]
    exact List.contains_iff_mem.mpr hy

theorem mem_foldl_iff {α β : Type} {step : List α → β → List α} {P : β → α → Prop}
    (hstep : ∀ acc b y, y ∈ step acc b ↔ y ∈ acc ∨ P b y) (L : List β) (acc : List α) (y : α) :
    y ∈ L.foldl step acc ↔ y ∈ acc ∨ ∃ b ∈ L, P b y := by
  induction L generalizing acc with
  | nil => simp
  | cons b L ih => simp only [List.foldl_cons, ih, hstep, List.mem_cons, exists_eq_or_imp, or_assoc]

theorem mem_insert1 {a : List Nat} {x y : Nat} : y ∈ insert1 a x ↔ y ∈ a ∨ y = x := mem_addNew

theorem mem_union {a b : List Nat} {y : Nat} : y ∈ union a b ↔ y ∈ a ∨ y ∈ b :=
  (mem_foldl_iff (P := fun x y => y = x) (fun _ _ _ => mem_insert1) b a y).trans (by simp)

theorem subset_iff {a b : List Nat} : subset a b = true ↔ ∀ x ∈ a, x ∈ b := by
  simp [subset]

theorem nodup_union {a b : List Nat} (h : a.Nodup) : (union a b).Nodup :=
  List.foldlRecOn b insert1 h fun _ h _ _ => nodup_addNew h

@[simp] theorem upd_same {α : Type} (f : Nat → α) (k : Nat) (v : α) : upd f k v k = v := by simp [upd]

theorem upd_other {α : Type} (f : Nat → α) {k x : Nat} (v : α) (h : x ≠ k) : upd f k v x = f x := by simp [upd, h]

section setChilds
variable {s : St} {j : Nat} {c : List Nat}

@[simp] theorem setChilds_job_same : (setChilds s j c).job j = { s.job j with childs := c } := upd_same ..

theorem setChilds_job_other {k : Nat} (h : k ≠ j) : (setChilds s j c).job k = s.job k := upd_other _ _ h

@[simp] theorem setChilds_pkgs (k : Nat) : ((setChilds s j c).job k).pkgs = (s.job k).pkgs := by
  by_cases h : k = j
  · rw [h, setChilds_job_same]
  · rw [setChilds_job_other h]

@[simp] theorem setChilds_parents (k : Nat) : ((setChilds s j c).job k).parents = (s.job k).parents := by
  by_cases h : k = j
  · rw [h, setChilds_job_same]
  · rw [setChilds_job_other h]

theorem setChilds_mono (h : ∀ w ∈ (s.job j).childs, w ∈ c) (k w : Nat) (hw : w ∈ (s.job k).childs) :
    w ∈ ((setChilds s j c).job k).childs := by
  by_cases hk : k = j
  · subst hk; rw [setChilds_job_same]; exact h w hw
  · rwa [setChilds_job_other hk]

end setChilds

inductive Reach {α : Type} (E : α → α → Prop) : α → α → Prop
  | refl (a : α) : Reach E a a
  | tail {a b c : α} : Reach E a b → E b c → Reach E a c

namespace Reach
variable {α : Type} {E E' : α → α → Prop}

theorem single {a b : α} (h : E a b) : Reach E a b := tail (refl a) h

theorem trans {a b c : α} (h1 : Reach E a b) (h2 : Reach E b c) : Reach E a c := by
  induction h2 with
  | refl => exact h1
  | tail _ e ih => exact tail ih e

theorem head {a b c : α} (e : E a b) (h : Reach E b c) : Reach E a c := trans (single e) h

theorem head_cases {a c : α} (h : Reach E a c) : c = a ∨ ∃ b, E a b ∧ Reach E b c := by
  induction h with
  | refl => exact Or.inl rfl
  | tail _ e ih =>
    rcases ih with rfl | ⟨b, hb, r⟩
    · exact Or.inr ⟨_, e, refl _⟩
    · exact Or.inr ⟨b, hb, tail r e⟩

theorem mono (hE : ∀ a b, E a b → E' a b) {a b : α} (h : Reach E a b) : Reach E' a b := by
  induction h with
  | refl => exact refl _
  | tail _ e ih => exact tail ih (hE _ _ e)

theorem back_closed {G : α → Prop} {a b : α} (h : Reach E a b) (hb : G b)
    (hc : ∀ u d, E u d → G d → G u) : G a := by
  induction h with
  | refl => exact hb
  | tail _ e ih => exact ih (hc _ _ e hb)

theorem fwd_closed {G : α → Prop} {a b : α} (h : Reach E a b) (ha : G a)
    (hc : ∀ u d, E u d → G u → G d) : G b := by
  induction h with
  | refl => exact ha
  | tail _ e ih => exact hc _ _ e ih

theorem rank_lt {rank : α → Nat} (hr : ∀ a b, E a b → rank b < rank a) {a b : α} (h : Reach E a b) :
    b = a ∨ rank b < rank a := by
  induction h with
  | refl => exact Or.inl rfl
  | tail _ e ih =>
    have := hr _ _ e
    rcases ih with rfl | ih
    · exact Or.inr this
    · exact Or.inr (Nat.lt_trans this ih)

end Reach

end Jenkins
