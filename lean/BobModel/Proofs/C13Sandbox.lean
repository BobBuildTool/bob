import BobModel.Model.ShellEnv
/-
The option parser of the sandbox helper on a rendered group list, and the mount contract `resolve`.
-/
namespace ShellEnv

/-- groups whose option letter the helper understands the way `HArg` means it -/
def HArg.Ok : HArg → Prop
  | .flag c => c = 'i' ∨ c = 'n' ∨ c = 'r'
  | .opt c _ => c = 'S' ∨ c = 'W' ∨ c = 'H' ∨ c = 'd'
  | .mount _ => True
  | .mountSame _ => True

/-- the mounts in effect once a pending `-M` is flushed -/
def HelperOpts.eff (o : HelperOpts) : List Mount := o.flush.mounts

theorem flush_pending (o : HelperOpts) : o.flush.pending = none := by
  unfold HelperOpts.flush
  split <;> simp_all

theorem eff_congr {o o1 : HelperOpts} (hm : o1.mounts = o.mounts) (hp : o1.pending = o.pending) : o1.eff = o.eff := by
  unfold HelperOpts.eff HelperOpts.flush
  rw [hp]
  cases o.pending <;> simp only [hm]

theorem eff_none {o : HelperOpts} (h : o.pending = none) : o.eff = o.mounts := by
  simp [HelperOpts.eff, HelperOpts.flush, h]

theorem eff_some {o : HelperOpts} {s : Str} (h : o.pending = some s) : o.eff = o.mounts ++ [⟨s, s, false⟩] := by
  simp [HelperOpts.eff, HelperOpts.flush, h]

theorem optLetter_dash (c : Char) : optLetter (dash c) = some c := rfl

theorem applyOpt_S (o : HelperOpts) (v : Str) :
    applyOpt o 'S' v = if o.root.isSome then .error .usage else .ok { o with root := some v } := rfl

theorem applyOpt_W (o : HelperOpts) (v : Str) :
    applyOpt o 'W' v = if o.workdir.isSome then .error .usage else .ok { o with workdir := some v } := rfl

theorem applyOpt_H (o : HelperOpts) (v : Str) : applyOpt o 'H' v = .ok { o with host := some v } := rfl

theorem applyOpt_d (o : HelperOpts) (v : Str) :
    applyOpt o 'd' v = if !headIs (· = '/') v then .error .usage else .ok { o with dirs := o.dirs ++ [v] } := rfl

theorem applyOpt_M (o : HelperOpts) (v : Str) :
    applyOpt o 'M' v = if !headIs (· = '/') v then .error .usage else .ok { o.flush with pending := some v } := rfl

theorem applyOpt_target (o : HelperOpts) (rw : Bool) (v : Str) :
    applyOpt o (if rw then 'w' else 'm') v =
      if !headIs (· = '/') v then .error .usage
      else match o.pending with
        | none => .error .usage
        | some s => .ok { o with mounts := o.mounts ++ [⟨s, v, rw⟩], pending := none } := by
  cases rw <;> rfl

theorem applyOpt_plain {o o1 : HelperOpts} {c : Char} {v : Str} (hc : c = 'S' ∨ c = 'W' ∨ c = 'H' ∨ c = 'd')
    (h : applyOpt o c v = .ok o1) : o1.eff = o.eff := by
  rcases hc with rfl | rfl | rfl | rfl
  · rw [applyOpt_S] at h; split at h <;> cases h; exact eff_congr rfl rfl
  · rw [applyOpt_W] at h; split at h <;> cases h; exact eff_congr rfl rfl
  · rw [applyOpt_H] at h; cases h; exact eff_congr rfl rfl
  · rw [applyOpt_d] at h; split at h <;> cases h; exact eff_congr rfl rfl

theorem parseHelper_end {o o' : HelperOpts} {cmd : List Str} (h : parseHelper o (['-', '-'] :: cmd) = .ok o') :
    o'.mounts = o.eff := by
  cases cmd <;> cases h <;> rfl

theorem parseHelper_flag (o : HelperOpts) {c : Char} (hc : c = 'i' ∨ c = 'n' ∨ c = 'r') (v : Str) (r : List Str) :
    parseHelper o (dash c :: v :: r) = parseHelper { o with flags := o.flags ++ [c] } (v :: r) := by
  rcases hc with rfl | rfl | rfl <;> rfl

theorem parseHelper_opt {o o' : HelperOpts} {c : Char} (hd : c ≠ '-') (hf : isFlagOpt c = false) {x : Str}
    {r : List Str} (h : parseHelper o (dash c :: x :: r) = .ok o') :
    ∃ o₁, applyOpt o c x = .ok o₁ ∧ parseHelper o₁ r = .ok o' := by
  rw [parseHelper, optLetter_dash] at h
  simp only [if_neg hd, hf, Bool.false_eq_true, if_false] at h
  cases ha : applyOpt o c x with
  | error e => rw [ha] at h; cases h
  | ok o₁ => rw [ha] at h; exact ⟨o₁, rfl, h⟩

/-- a pending `-M` source takes effect at the same path unless `-m`/`-w` follows -/
theorem parseHelper_M {o o' : HelperOpts} {s : Str} {r : List Str} (h : parseHelper o (dash 'M' :: s :: r) = .ok o') :
    ∃ o₁, parseHelper o₁ r = .ok o' ∧ o₁.mounts = o.eff ∧ o₁.pending = some s := by
  obtain ⟨o₁, ha, h1⟩ := parseHelper_opt (by decide) (by decide) h
  rw [applyOpt_M] at ha
  split at ha <;> cases ha
  exact ⟨_, h1, rfl, rfl⟩

/-- one option group in front of the (non-empty) rest of the command line -/
theorem parseHelper_group {g : HArg} (hg : g.Ok) {o o' : HelperOpts} {v : Str} {r : List Str}
    (h : parseHelper o (g.render ++ v :: r) = .ok o') :
    ∃ o₁, parseHelper o₁ (v :: r) = .ok o' ∧ o₁.eff = o.eff ++ g.mounts := by
  cases g with
  | flag c =>
    rw [HArg.render, List.singleton_append, parseHelper_flag o hg] at h
    exact ⟨_, h, (List.append_nil o.eff).symm ▸ eff_congr rfl rfl⟩
  | opt c x =>
    have hc : c ≠ '-' ∧ isFlagOpt c = false := by rcases hg with rfl | rfl | rfl | rfl <;> decide
    obtain ⟨o₁, ha, h1⟩ := parseHelper_opt hc.1 hc.2 h
    exact ⟨o₁, h1, (applyOpt_plain hg ha).trans (List.append_nil _).symm⟩
  | mountSame s =>
    obtain ⟨o₁, h1, hm, hp⟩ := parseHelper_M h
    exact ⟨o₁, h1, by rw [eff_some hp, hm]; rfl⟩
  | mount m =>
    obtain ⟨o₁, h1, hm, hp⟩ := parseHelper_M h
    obtain ⟨o₂, ha, h2⟩ := parseHelper_opt (c := if m.rw then 'w' else 'm') (by cases m.rw <;> decide)
      (by cases m.rw <;> decide) h1
    rw [applyOpt_target, hp] at ha
    split at ha <;> cases ha
    exact ⟨_, h2, by rw [eff_none rfl, hm]; rfl⟩

/-- **the helper's option parser on a rendered command line**: if it accepts `groups -- command`, the mount
table it builds is exactly the groups' mounts in order (after what was in effect before) -/
theorem parseHelper_render : ∀ (gs : List HArg) (o o' : HelperOpts) (cmd : List Str), (∀ g ∈ gs, g.Ok) →
    parseHelper o (renderHArgs gs ++ ['-', '-'] :: cmd) = .ok o' → o'.mounts = o.eff ++ gs.flatMap HArg.mounts
  | [], o, o', cmd, _, h => by rw [parseHelper_end h]; exact (List.append_nil _).symm
  | g :: gs, o, o', cmd, hok, h => by
    obtain ⟨v, r, hvr⟩ : ∃ v r, renderHArgs gs ++ ['-', '-'] :: cmd = v :: r := by
      cases renderHArgs gs <;> exact ⟨_, _, rfl⟩
    rw [renderHArgs, List.flatMap_cons, List.append_assoc, ← renderHArgs, hvr] at h
    obtain ⟨o₁, h1, h2⟩ := parseHelper_group (hok g List.mem_cons_self) h
    rw [← hvr] at h1
    rw [parseHelper_render gs o₁ o' cmd (fun x hx => hok x (List.mem_cons_of_mem g hx)) h1, h2,
      List.flatMap_cons, List.append_assoc]

/-- a path resolves to the last mount (the first of the reversed table) whose target covers it -/
theorem find_of_resolve {ms : List Mount} {p : Str} {m : Mount} {rest : List Str} (h : resolve ms p = some (m, rest)) :
    ms.reverse.find? (fun m => (comps m.tgt).isPrefixOf (comps p)) = some m := by
  rw [resolve, Option.map_eq_some_iff] at h
  obtain ⟨x, hx, he⟩ := h
  rw [hx, (Prod.mk.inj he).1]

theorem resolve_mem {ms : List Mount} {p : Str} {m : Mount} {rest : List Str} (h : resolve ms p = some (m, rest)) :
    m ∈ ms :=
  List.mem_reverse.mp (List.mem_of_find?_eq_some (find_of_resolve h))

/-- a later mount whose target covers the path hides every earlier mount -/
theorem resolve_after {a b : List Mount} {w : Mount} {p : Str} {m : Mount} {rest : List Str}
    (h : resolve (a ++ w :: b) p = some (m, rest)) (hw : (comps w.tgt).isPrefixOf (comps p) = true) :
    m = w ∨ m ∈ b := by
  have := find_of_resolve h
  rw [List.reverse_append, List.reverse_cons, List.append_assoc, List.find?_append] at this
  cases hf : b.reverse.find? (fun m => (comps m.tgt).isPrefixOf (comps p)) with
  | some x =>
    rw [hf, Option.some_or] at this
    exact Or.inr (List.mem_reverse.mp (List.mem_of_find?_eq_some (hf.trans this)))
  | none =>
    rw [hf, Option.none_or, List.singleton_append, List.find?_cons, hw] at this
    exact Or.inl (Option.some.inj this).symm

theorem flatMap_mounts_map {α : Type} (l : List α) (g : α → Mount) :
    (l.map fun f => HArg.mount (g f)).flatMap HArg.mounts = l.map g := by
  induction l with
  | nil => rfl
  | cons x r ih => simp [List.flatMap_cons, HArg.mounts, ih]

def whiteoutMount (tmpDir cwd : Str) : Mount := ⟨pathJoin tmpDir (strOf "whiteout"), cwd, true⟩

/-- the mounts of the part `executeStep` appends, in order -/
def stepMounts (abs : Str → Str) (realScript execScript : Str) (envFile : Option Str) (wsStorage wsExec : Str)
    (depMounts : List (Str × Str)) : List Mount :=
  [⟨abs realScript, execScript, false⟩] ++
  (match envFile with | some f => [⟨abs f, strOf "/bob/env", true⟩] | none => []) ++
  [⟨abs wsStorage, abs wsExec, true⟩] ++ depMounts.map fun d => ⟨abs d.1, abs d.2, false⟩

theorem mem_stepMounts (abs : Str → Str) (rs es : Str) (envFile : Option Str) (wsS wsE : Str) (deps : List (Str × Str)) :
    ∀ m ∈ stepMounts abs rs es envFile wsS wsE deps,
      m = ⟨abs rs, es, false⟩ ∨ (∃ f, envFile = some f ∧ m = ⟨abs f, strOf "/bob/env", true⟩) ∨
      m = ⟨abs wsS, abs wsE, true⟩ ∨ ∃ d ∈ deps, m = ⟨abs d.1, abs d.2, false⟩ := by
  intro m h
  unfold stepMounts at h
  simp only [List.mem_append, List.mem_singleton, List.mem_map] at h
  rcases h with ((h | h) | h) | ⟨d, hd, rfl⟩
  · exact Or.inl h
  · cases envFile with
    | none => cases h
    | some f => exact Or.inr (Or.inl ⟨f, rfl, List.mem_singleton.mp h⟩)
  · exact Or.inr (Or.inr (Or.inl h))
  · exact Or.inr (Or.inr (Or.inr ⟨d, hd, rfl⟩))

theorem stepGroups_mounts (abs : Str → Str) (rs es : Str) (net : Bool) (envFile : Option Str) (wsS wsE : Str)
    (deps : List (Str × Str)) :
    (stepGroups abs rs es net envFile wsS wsE deps).flatMap HArg.mounts = stepMounts abs rs es envFile wsS wsE deps := by
  unfold stepGroups stepMounts
  rw [List.flatMap_append, List.flatMap_append, List.flatMap_append, List.flatMap_append, flatMap_mounts_map]
  cases net <;> cases envFile <;> rfl

theorem slimGroups_mounts (tmpDir cwd : Str) (entries : List Str) :
    (slimGroups tmpDir cwd entries).flatMap HArg.mounts =
      (entries.filter (· ≠ tmpStr)).map (fun f => ⟨'/' :: f, '/' :: f, false⟩) ++ [whiteoutMount tmpDir cwd] := by
  rw [slimGroups, List.flatMap_append, List.flatMap_append, flatMap_mounts_map]
  rfl

theorem stepGroups_ok {abs : Str → Str} {rs es : Str} {net : Bool} {envFile : Option Str} {wsS wsE : Str}
    {deps : List (Str × Str)} : ∀ g ∈ stepGroups abs rs es net envFile wsS wsE deps, g.Ok := by
  simp only [stepGroups, List.forall_mem_append, List.forall_mem_map, List.forall_mem_cons]
  cases net <;> cases envFile <;>
    simp only [HArg.Ok, List.forall_mem_cons, List.not_mem_nil, false_imp_iff, implies_true, and_true,
      Bool.false_eq_true, if_false, if_true, or_true, true_or]

theorem sandbox_mounts {gs : List HArg} (hok : ∀ g ∈ gs, g.Ok) {abs : Str → Str} {rs es : Str} {net : Bool}
    {envFile : Option Str} {wsS wsE : Str} {deps : List (Str × Str)} {cmd : List Str} {o : HelperOpts}
    (h : parseHelper {} (renderHArgs (gs ++ stepGroups abs rs es net envFile wsS wsE deps) ++ ['-', '-'] :: cmd) = .ok o) :
    o.mounts = gs.flatMap HArg.mounts ++ stepMounts abs rs es envFile wsS wsE deps := by
  rw [parseHelper_render _ {} o cmd (List.forall_mem_append.mpr ⟨hok, stepGroups_ok⟩) h, List.flatMap_append,
    stepGroups_mounts]
  rfl

theorem slimGroups_ok {tmpDir cwd : Str} {entries : List Str} : ∀ g ∈ slimGroups tmpDir cwd entries, g.Ok := by
  simp only [slimGroups, List.forall_mem_append, List.forall_mem_map, List.forall_mem_cons, HArg.Ok,
    List.not_mem_nil, false_imp_iff, implies_true, and_true, or_true, true_or]

theorem forall_mem_ite {α : Type} {c : Prop} [Decidable c] {a b : List α} {P : α → Prop}
    (ha : c → ∀ x ∈ a, P x) (hb : ¬c → ∀ x ∈ b, P x) : ∀ x ∈ if c then a else b, P x := by
  by_cases h : c
  · rw [if_pos h]; exact ha h
  · rw [if_neg h]; exact hb h

/-- a host mount gives at most one mount, from the declared host path, writable only in the `rw` branch -/
theorem hostMountGroups_spec {skip : Str} {ex : Str → Bool} {hm : HostMount} :
    ∀ g ∈ hostMountGroups skip ex hm, g.Ok ∧
      ∀ m ∈ g.mounts, m.src = hm.host ∧ (m.rw = true → hm.options.contains (strOf "rw") = true) := by
  have one : ∀ m : Mount, m.src = hm.host → (m.rw = true → hm.options.contains (strOf "rw") = true) →
      ∀ g ∈ [HArg.mount m], g.Ok ∧
        ∀ m ∈ g.mounts, m.src = hm.host ∧ (m.rw = true → hm.options.contains (strOf "rw") = true) :=
    fun m h1 h2 => List.forall_mem_singleton.mpr ⟨trivial, List.forall_mem_singleton.mpr ⟨h1, h2⟩⟩
  exact forall_mem_ite (fun _ => List.forall_mem_nil _) fun _ => forall_mem_ite (fun _ => List.forall_mem_nil _) fun _ =>
    forall_mem_ite (fun h => one _ rfl fun _ => h) fun _ => forall_mem_ite (fun _ => one _ rfl Bool.noConfusion) fun _ =>
      List.forall_mem_singleton.mpr ⟨trivial, List.forall_mem_singleton.mpr ⟨rfl, Bool.noConfusion⟩⟩

/-- the groups of an image sandbox before the step part: besides options without mounts, the image entries
(read-only) and the host mounts the sandbox recipe declared -/
theorem fatGroups_spec {tmpDir rootFs : Str} {entries : List Str} {isJenkins : Bool} {ex : Str → Bool}
    {hms : List HostMount} {user : Str} :
    ∀ g ∈ fatGroups tmpDir rootFs entries isJenkins ex hms user, g.Ok ∧ ∀ m ∈ g.mounts,
      (∃ f ∈ entries, m = ⟨pathJoin rootFs f, '/' :: f, false⟩) ∨
      (∃ hm ∈ hms, m.src = hm.host ∧ (m.rw = true → hm.options.contains (strOf "rw") = true)) := by
  simp only [fatGroups, List.forall_mem_append, List.forall_mem_map, List.forall_mem_cons, List.forall_mem_flatMap]
  refine ⟨⟨⟨?_, ?_⟩, ?_⟩, ?_⟩
  · exact ⟨⟨Or.inl rfl, List.forall_mem_nil _⟩, ⟨Or.inr (Or.inr (Or.inl rfl)), List.forall_mem_nil _⟩,
      ⟨Or.inr (Or.inr (Or.inr rfl)), List.forall_mem_nil _⟩, List.forall_mem_nil _⟩
  · exact fun f hf => ⟨trivial, fun m hm => Or.inl ⟨f, hf, List.mem_singleton.mp hm⟩⟩
  · exact fun hm hh g hg => ⟨(hostMountGroups_spec g hg).1, fun m hm' =>
      Or.inr ⟨hm, hh, (hostMountGroups_spec g hg).2 m hm'⟩⟩
  · exact forall_mem_ite (fun _ => List.forall_mem_singleton.mpr ⟨Or.inr (Or.inr rfl), List.forall_mem_nil _⟩) fun _ =>
      forall_mem_ite (fun _ => List.forall_mem_singleton.mpr ⟨Or.inl rfl, List.forall_mem_nil _⟩) fun _ =>
        List.forall_mem_nil _

/-- the loop over the earlier steps of the own package mounts only valid steps of the chain, in order -/
theorem extraMounts_sublist : ∀ (l : List DepStep) (v c : Bool),
    (extraMounts v c l).Sublist ((l.filter DepStep.valid).map fun a => (a.storage, a.execPath))
  | [], _, _ => .slnil
  | n :: rest, v, c => by
    rw [extraMounts, List.filter_cons]
    split
    · cases n.valid
      · exact extraMounts_sublist rest _ _
      · exact (extraMounts_sublist rest _ _).cons_cons _
    · exact List.nil_sublist _

theorem depMounts_sublist (d : StepDesc) :
    d.depMounts.Sublist (((d.allDeps ++ d.chain).filter DepStep.valid).map fun a => (a.storage, a.execPath)) := by
  rw [List.filter_append, List.map_append]
  exact (List.Sublist.refl _).append (extraMounts_sublist _ _ _)

end ShellEnv
