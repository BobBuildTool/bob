import BobModel.Proofs.C01Truthful
import BobModel.Proofs.C05Ops
/-
C05, "no false up-to-date": from a state in which nothing is claimed about workspace `p`
(`NoClaim`, which is what every cut inside a script leaves behind, `cut_in_script_unclaimed`), a
successful invocation of any project that contains a step at `p` starts the script of `p` again.
Three structural facts about the cook programs are used: the log only grows (`LogMono`, C05Ops) and the
run branches always reach `_runShell` (this file), and a cook function writes only the components of
its own path (`FrameAt`, C05Ops; used in C05Rerun through `Confined.steps`).
-/
namespace Builder

variable {E : Env}

theorem logmono_getMem : LogMono getMem := by
  intro r; simp only [wp_getMem]; exact ⟨[], by simp⟩
theorem logmono_setMem (m : Mem) : LogMono (setMem m) := by
  intro r; simp only [wp_setMem]; exact ⟨[], by simp⟩

theorem stays_in_log {α : Type} {m : M α} (h : LogMono m) {op : Op} {r : Run} (hop : op ∈ r.log) :
    wp m (fun _ r' => op ∈ r'.log) (fun _ => True) r := by
  refine wp_post ?_ (h r)
  intro _ r' ⟨l, e⟩
  rw [e]
  exact List.mem_append_left _ hop

theorem wp_bind_stays {α β : Type} {m : M α} {f : α → M β} {op : Op} {r : Run}
    (hm : wp m (fun _ r' => op ∈ r'.log) (fun _ => True) r) (hf : ∀ a, LogMono (f a)) :
    wp (m >>= f) (fun _ r' => op ∈ r'.log) (fun _ => True) r :=
  (wp_bind _ _ _ _ _).mpr (wp_post (fun a _ => stays_in_log (hf a)) hm)

/-- whatever `m` does, if it returns at all the rest of the block establishes `Q` -/
theorem wp_then {α β : Type} {m : M α} {f : α → M β} {Q : β → Run → Prop} {r : Run}
    (h : ∀ a r', wp (f a) Q (fun _ => True) r') : wp (m >>= f) Q (fun _ => True) r := by
  rw [wp_bind]
  unfold wp
  split
  · exact h _ _
  · trivial

theorem runScript_emits {i : Info} {clean : Bool} {ins : List Content} {r : Run} :
    wp (runScript E i clean ins) (fun _ r' => Op.scriptBegin i.path ∈ r'.log) (fun _ => True) r :=
  have h := logmono_closed
  wp_then fun _ _ => wp_bind_stays
    ((wp_prim _ _ _ _ _).mpr ⟨fun _ => trivial, fun _ _ => List.mem_append_right _ (List.mem_singleton_self _)⟩)
    fun _ => by
      split
      · exact h.prim trivial
      · exact h.bind (h.prim trivial) fun _ => h.abort

theorem runRecord_emits {i : Info} {clean : Bool} {st : St} {ins : List Step} {inH : Inputs} {iv : St → Vid} {r : Run} :
    wp (runRecord E i clean st ins inH iv) (fun _ r' => Op.scriptBegin i.path ∈ r'.log) (fun _ => True) r :=
  have h := logmono_closed
  wp_then fun _ _ => wp_then fun _ _ => wp_bind_stays runScript_emits fun _ =>
    h.bind h.getSt fun _ => h.bind (h.prim trivial) fun _ => h.bind (h.prim trivial) fun _ => h.prim trivial

theorem checkoutRun_emits {cfg : Cfg} {i : Info} {ds : List Step} {old : OldCo} {oldHash : Option RH} {inH : Inputs}
    {r : Run} :
    wp (checkoutRun E cfg i ds old oldHash inH) (fun _ r' => Op.scriptBegin i.path ∈ r'.log) (fun _ => True) r := by
  have h := logmono_closed
  refine wp_then fun _ _ => wp_then fun _ _ => ?_
  split
  · exact (wp_bind _ _ _ _ _).mpr ((wp_abort _ _ _).mpr trivial)
  · exact wp_then fun _ _ => wp_then fun _ _ => wp_then fun _ _ => wp_bind_stays runScript_emits fun _ =>
      h.bind (h.prim trivial) fun _ => h.bind (h.prim trivial) fun _ => h.bind h.getSt fun _ =>
      h.bind (h.prim trivial) fun _ => h.pure _

theorem constructDir_frame (p : Path) (r : Run) :
    wp (constructDir p) (fun _ r' => r'.st.inputs = r.st.inputs ∧ r'.st.dirStates = r.st.dirStates)
      (fun _ => True) r := by
  unfold constructDir
  rw [wp_bind, wp_getSt]
  split
  · rw [wp_bind, wp_prim]
    exact ⟨fun _ => trivial, fun k _ => (wp_pure _ _ _ _).mpr ⟨rfl, rfl⟩⟩
  · exact (wp_pure _ _ _ _).mpr ⟨rfl, rfl⟩

/-- `_cookBuildStep`: nothing claimed about the build workspace ⇒ the build script runs -/
theorem cookBuild_emits (cfg : Cfg) (i : Info) (ds : List Step) (r : Run) (hc : NoClaim r.st i.path) :
    wp (cookBuild E cfg i ds) (fun _ r' => Op.scriptBegin i.path ∈ r'.log) (fun _ => True) r := by
  unfold cookBuild
  dsimp only
  rw [wp_bind, wp_getSt, wp_bind]
  refine wp_post ?_ (constructDir_frame i.path r)
  intro created r1 ⟨e1, e2⟩
  rw [wp_bind, wp_getSt, wp_bind]
  refine wp_post (Q := fun _ r2 => r2.st.inputs i.path = none) ?_ ?_
  · -- without stored input hashes the run branch is taken
    intro _ r2 h2
    rw [wp_bind, wp_getSt, h2]
    simp only [decide_false, Bool.and_false, Bool.false_eq_true, if_false, reduceCtorEq]
    exact runRecord_emits
  · split
    · -- whatever the prune does, the final `resetWorkspaceState` deletes the input hashes
      refine wp_then fun _ _ => ?_
      rw [wp_bind, wp_prim]
      exact ⟨fun _ => trivial, fun _ _ => (wp_pure _ _ _ _).mpr (upd_same _ _ _)⟩
    · rename_i hcond
      rw [wp_pure]
      have hd : created = false ∧ r1.st.dirStates i.path =
          some (DirState.build (ivid r.st i ds) (i.execPath :: ds.map fun d => d.info.execPath)) := by
        simpa using hcond
      exact inputs_none_of_noclaim (noclaim_congr (congrFun e1 _) (congrFun e2 _) hc) hd.2 (by intro s b h; cases h)

/-- `_cookPackageStep`: no stored input hashes ⇒ the package script runs -/
theorem cookPackage_emits (cfg : Cfg) (i : Info) (pre ds : List Step) (r : Run) (hi : r.st.inputs i.path = none) :
    wp (cookPackage E cfg i pre ds) (fun _ r' => Op.scriptBegin i.path ∈ r'.log) (fun _ => True) r := by
  unfold cookPackage
  dsimp only
  rw [wp_bind]
  refine wp_post ?_ (constructDir_frame i.path r)
  intro created r1 ⟨e1, _⟩
  rw [wp_bind, wp_getSt, e1, hi]
  simp only [decide_false, Bool.and_false, Bool.false_eq_true, if_false, reduceCtorEq]
  exact runRecord_emits

/-- `_preparePackageStep`: nothing claimed about the package workspace ⇒ afterwards there are no
stored input hashes (so `_cookPackageStep` runs the script) -/
theorem preparePackage_unclaimed (i : Info) (ds : List Step) (r : Run) (hc : NoClaim r.st i.path) :
    wp (preparePackage i ds) (fun _ r' => r'.st.inputs i.path = none) (fun _ => True) r := by
  unfold preparePackage
  dsimp only
  rw [wp_bind, wp_getSt, wp_bind]
  split
  · -- pruned, then reset
    refine wp_then fun _ _ => wp_then fun _ _ => ?_
    simp only [wp_pure, Bool.not_false, wp_whenM_true]
    exact (wp_prim _ _ _ _ _).mpr ⟨fun _ => trivial, fun _ _ => upd_same _ _ _⟩
  · rename_i hcond
    rw [wp_pure]
    cases hd : (r.st.disk i.path).isSome with
    | false =>
      simp only [Bool.not_false, wp_whenM_true]
      exact (wp_prim _ _ _ _ _).mpr ⟨fun _ => trivial, fun _ _ => upd_same _ _ _⟩
    | true =>
      simp only [Bool.not_true, wp_whenM_false]
      have hdir : r.st.dirStates i.path = some (DirState.pkg (.mk i.sig (vids ds))) := by
        simpa [hd] using hcond
      exact inputs_none_of_noclaim hc hdir (by intro s b h; cases h)

/-- `_cookCheckoutStep`: nothing claimed about the checkout workspace ⇒ the checkout runs -/
theorem cookCheckout_emits (cfg : Cfg) (i : Info) (ds : List Step) (r : Run) (hc : NoClaim r.st i.path) :
    wp (cookCheckout E cfg i ds) (fun _ r' => Op.scriptBegin i.path ∈ r'.log) (fun _ => True) r := by
  have h := logmono_closed
  unfold cookCheckout
  dsimp only
  rw [wp_bind]
  refine wp_post ?_ (constructDir_frame i.path r)
  intro created r1 ⟨e1, e2⟩
  rw [wp_bind, wp_getSt]
  cases created with
  | true =>
    refine wp_then fun _ r2 => ?_
    rw [wp_bind, wp_getSt]
    have hreason : ∀ st inH, checkoutReason E cfg i ds true ([], none, none) st inH = true := fun _ _ => rfl
    simp only [hreason, if_true]
    exact wp_bind_stays checkoutRun_emits fun _ => h.bind h.getSt fun _ => h.whenM _ (h.prim trivial)
  | false =>
    rw [wp_bind, wp_whenM_false, wp_bind, wp_getSt]
    have hreason : checkoutReason E cfg i ds false (coParts (r1.st.dirStates i.path)) r1.st (resultsOf r1.st ds) = true := by
      rcases noclaim_congr (congrFun e1 _) (congrFun e2 _) hc with h | h | ⟨s, b, h⟩
      · simp [checkoutReason, h]
      · simp [checkoutReason, h, coParts]
      · simp [checkoutReason, h, coParts]
    simp only [Bool.false_eq_true, if_false, hreason, if_true]
    exact wp_bind_stays checkoutRun_emits fun _ => h.bind h.getSt fun _ => h.whenM _ (h.prim trivial)

end Builder
