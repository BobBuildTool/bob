import BobModel.Proofs.C15Acc
import BobModel.Proofs.C15Inv
/-
C15: the invariant `InvFF` (no spurious failure on its way, repo.json = installed packages) and its preservation
`invFF_step` by every variant of the code with `Cfg.Fixes`, of which the fixed code `Cfg.fixed` is one ("FF" stands for
all three fixes of `Cfg.Fixes`, not for the flag `Cfg.ff` alone).  `invFF_step` needs a second invariant next to it,
`RepoNA`: a process that has seen repo.json (`Pc.needsRepo`) still finds it.
-/
namespace Share

/-- repo.json as the fixed code reads it: a missing or empty file is an empty repository -/
def logicalOf : RepoFile → List (Bid × Nat)
  | .valid l => l
  | _ => []

theorem readRepo_fixed {cfg : Cfg} (hc : cfg.Fixes) {r : RepoFile} (h : r ≠ .absent) :
    readRepo cfg r = some (logicalOf r) := by
  cases r with
  | absent => exact absurd rfl h
  | torn => exact if_pos hc.2.2
  | valid => rfl

/-- the invariant of the fixed code; `L` is the logical content of repo.json (what a reader under the lock gets from
the disk - nothing if the file is missing or empty -, or what the moving gc holds while the file is rewritten) -/
structure InvFF (s : St) (L : List (Bid × Nat)) : Prop where
  mutex : Mutex s
  pcs : ∀ (i : Nat) (pi : Proc), s.procs[i]? = some pi → PcFF pi.pc ∧ GcWf pi.pc ∧ TmpOk pi.prog pi.pc
  repoOk : (logicalOf s.g.repo = L ∧ ∀ (i : Nat) (pi : Proc) (rm : List (Bid × Nat)), s.procs[i]? = some pi →
              pi.pc.rmeta = some rm → rm = L ∧ pi.pc.dirty = false)
         ∨ (s.g.repo = .torn ∧ ∃ (i : Nat) (pi : Proc), s.procs[i]? = some pi ∧ pi.pc.rmeta = some L ∧ pi.pc.dirty = true)
  nodup : (keys L).Nodup
  recorded : ∀ b sz, (b, sz) ∈ L → ∃ d m, s.g.final b = some d ∧ d.info = some (.valid m) ∧ m.size = sz
  pkgs : ∀ b d, s.g.final b = some d → ∃ m, d.info = some (.valid m) ∧
           ((b, m.size) ∈ L ∨ ∃ (i : Nat) (pi : Proc), s.procs[i]? = some pi ∧ pi.pc.inWindow = true ∧ opBid pi.prog = b)
  window : ∀ (i : Nat) (pi : Proc), s.procs[i]? = some pi → pi.pc.inWindow = true →
           opBid pi.prog ∉ keys L ∧
           ∃ d m, s.g.final (opBid pi.prog) = some d ∧ d.info = some (.valid m) ∧ m.size = opSize pi.prog
  uniq : ∀ (i j : Nat) (pi pj : Proc), s.procs[i]? = some pi → s.procs[j]? = some pj → pi.pc.inWindow = true →
           pj.pc.inWindow = true → opBid pi.prog = opBid pj.prog → i = j

/-- a process that is somewhere else than process `p` is another process, and still there when `p` moves -/
theorem set_get_of_pc {l : List Proc} {p i : Nat} {pr po a : Proc} (hpr : l[p]? = some pr) (hi : l[i]? = some po)
    (h : po.pc ≠ pr.pc) : (l.set p a)[i]? = some po := by
  refine (List.getElem?_set_ne (Ne.symm ?_)).trans hi
  rintro rfl
  rw [hpr] at hi; cases hi
  exact h rfl

/-! ### the bookkeeping part of the invariant

`Accts procs final L`: `L` together with the packages of the processes inside the window accounts for the directories
at the final paths.  A segment changes the three arguments in one of five ways, one lemma each: a process moves
without changing sides of the window (`set_same`), `use` rewrites a pkg.json (`quiet`), the publishing rename puts a
process into the window (`publish`), `__addPackage` takes it out (`record`), the collecting rename (`collect`). -/

structure Accts (procs : List Proc) (final : Bid → Option PkgDir) (L : List (Bid × Nat)) : Prop where
  nodup : (keys L).Nodup
  recorded : ∀ b sz, (b, sz) ∈ L → HasSize final b sz
  pkgs : ∀ b d, final b = some d → ∃ m, d.info = some (.valid m) ∧
           ((b, m.size) ∈ L ∨ ∃ (i : Nat) (pi : Proc), procs[i]? = some pi ∧ pi.pc.inWindow = true ∧ opBid pi.prog = b)
  window : ∀ (i : Nat) (pi : Proc), procs[i]? = some pi → pi.pc.inWindow = true →
           opBid pi.prog ∉ keys L ∧ HasSize final (opBid pi.prog) (opSize pi.prog)
  uniq : ∀ (i j : Nat) (pi pj : Proc), procs[i]? = some pi → procs[j]? = some pj → pi.pc.inWindow = true →
           pj.pc.inWindow = true → opBid pi.prog = opBid pj.prog → i = j

/-- `L` is what repo.json says: either the file holds it and every gc inside the exclusive section holds the same, clean,
or the file is truncated and the one moving gc holds `L` to write it back -/
def RepoOk (procs : List Proc) (repo : RepoFile) (L : List (Bid × Nat)) : Prop :=
  (logicalOf repo = L ∧ ∀ (i : Nat) (pi : Proc) (rm : List (Bid × Nat)), procs[i]? = some pi →
      pi.pc.rmeta = some rm → rm = L ∧ pi.pc.dirty = false)
  ∨ (repo = .torn ∧ ∃ (i : Nat) (pi : Proc), procs[i]? = some pi ∧ pi.pc.rmeta = some L ∧ pi.pc.dirty = true)

/-- `RepoOk` as the stepping process owns it: when by `Mutex` only the process with program counter `pc` can be inside
the exclusive section, the quantifiers over processes go (`RepoOk.own`, and back by `RepoOk.of_own` after the step) -/
def Own (repo : RepoFile) (pc : Pc) (L : List (Bid × Nat)) : Prop :=
  (logicalOf repo = L ∧ ∀ rm, pc.rmeta = some rm → rm = L ∧ pc.dirty = false)
  ∨ (repo = .torn ∧ pc.rmeta = some L ∧ pc.dirty = true)

theorem Own.rmeta {repo : RepoFile} {pc : Pc} {L rm : List (Bid × Nat)} (h : Own repo pc L) (hr : pc.rmeta = some rm) :
    rm = L := by
  rcases h with ⟨_, hall⟩ | ⟨_, hr', _⟩
  · exact (hall rm hr).1
  · rw [hr] at hr'; cases hr'; rfl

theorem Own.clean {repo : RepoFile} {pc : Pc} {L : List (Bid × Nat)} (h : Own repo pc L) (hd : pc.dirty = false) :
    logicalOf repo = L := by
  rcases h with ⟨hv, _⟩ | ⟨_, _, hd'⟩
  · exact hv
  · rw [hd] at hd'; cases hd'

section
variable {procs : List Proc} {final final' : Bid → Option PkgDir} {repo repo' : RepoFile} {L : List (Bid × Nat)}
  {p : Nat} {pr a : Proc}

/-- `InvFF` lists the fields of `RepoOk` and `Accts` one by one (`HasSize` unfolded); the proofs work with the two
records, `InvFF.accts` and `InvFF.step_of` take them out and put them back. -/
theorem InvFF.accts {s : St} (inv : InvFF s L) : Accts s.procs s.g.final L :=
  ⟨inv.nodup, inv.recorded, inv.pkgs, inv.window, inv.uniq⟩

theorem Accts.set_same (h : Accts procs final L) (hpr : procs[p]? = some pr) (hprog : a.prog = pr.prog)
    (hwin : a.pc.inWindow = pr.pc.inWindow) : Accts (procs.set p a) final L := by
  -- every process of the new list is one of the old list with the same program on the same side, and conversely
  have hold : ∀ (i : Nat) (pi : Proc), (procs.set p a)[i]? = some pi →
      ∃ po, procs[i]? = some po ∧ po.prog = pi.prog ∧ po.pc.inWindow = pi.pc.inWindow := by
    intro i pi hi
    rcases getElem?_set_cases hi with ⟨rfl, rfl, _⟩ | ⟨_, hi'⟩
    · exact ⟨pr, hpr, hprog.symm, hwin.symm⟩
    · exact ⟨pi, hi', rfl, rfl⟩
  have hnew : ∀ (i : Nat) (po : Proc), procs[i]? = some po →
      ∃ pi, (procs.set p a)[i]? = some pi ∧ po.prog = pi.prog ∧ po.pc.inWindow = pi.pc.inWindow := by
    intro i po hi
    by_cases e : i = p
    · subst e
      rw [hpr] at hi; cases hi
      exact ⟨a, set_get_self hpr, hprog.symm, hwin.symm⟩
    · exact ⟨po, (List.getElem?_set_ne (Ne.symm e)).trans hi, rfl, rfl⟩
  refine ⟨h.nodup, h.recorded, fun b d hd => ?_, fun i pi hi hw => ?_, fun i j pi pj hi hj hwi hwj hb => ?_⟩
  · obtain ⟨m, hm, hor⟩ := h.pkgs b d hd
    refine ⟨m, hm, hor.imp_right fun ⟨i, po, hi, hw, hb⟩ => ?_⟩
    obtain ⟨pi, hpi, hprog, hwi⟩ := hnew i po hi
    exact ⟨i, pi, hpi, by rw [← hwi]; exact hw, by rw [← hprog]; exact hb⟩
  · obtain ⟨po, hpo, hprog, hwo⟩ := hold i pi hi
    rw [← hprog]
    exact h.window i po hpo (by rw [hwo]; exact hw)
  · obtain ⟨poi, hpoi, hprogi, hwoi⟩ := hold i pi hi
    obtain ⟨poj, hpoj, hprogj, hwoj⟩ := hold j pj hj
    exact h.uniq i j poi poj hpoi hpoj (by rw [hwoi]; exact hwi) (by rw [hwoj]; exact hwj)
      (by rw [hprogi, hprogj]; exact hb)

theorem Accts.quiet (h : Accts procs final L) (hq : FinalQuiet final final') : Accts procs final' L := by
  refine ⟨h.nodup, fun b sz hb => finalQuiet_fwd hq (h.recorded b sz hb), fun b d' hd' => ?_,
    fun i pi hi hw => ⟨(h.window i pi hi hw).1, finalQuiet_fwd hq (h.window i pi hi hw).2⟩, h.uniq⟩
  obtain ⟨d, hd, hinfo⟩ := finalQuiet_rev hq hd'
  obtain ⟨m, hm, hor⟩ := h.pkgs b d hd
  obtain ⟨m', hm', hs⟩ := hinfo m hm
  exact ⟨m', hm', by rw [hs]; exact hor⟩

/-- the publishing rename: onto an empty final path, into the window -/
theorem Accts.publish {tmp : PkgDir} (h : Accts procs final L) (hpr : procs[p]? = some pr)
    (hw : pr.pc.inWindow = false) (hnone : final (opBid pr.prog) = none)
    (hfin : final' = upd final (opBid pr.prog) (some tmp)) (htmp : TmpOk pr.prog (.iRename tmp))
    (hprog : a.prog = pr.prog) (hw' : a.pc.inWindow = true) : Accts (procs.set p a) final' L := by
  obtain ⟨mt, hmt, hsz⟩ := htmp
  have hself : final' (opBid pr.prog) = some tmp := by rw [hfin]; simp [upd]
  have hsize : ∀ b sz, HasSize final b sz → HasSize final' b sz := by
    rintro b sz ⟨d, m, hd, hm⟩
    have : b ≠ opBid pr.prog := by rintro rfl; rw [hnone] at hd; cases hd
    exact ⟨d, m, by rw [hfin]; simpa [upd, this] using hd, hm⟩
  -- nobody is in the window with a Build-Id whose final path is empty
  have hno : ∀ (i : Nat) (pi : Proc), procs[i]? = some pi → pi.pc.inWindow = true → opBid pi.prog ≠ opBid pr.prog := by
    intro i pi hi hwi e
    obtain ⟨_, d, _, hd, _⟩ := h.window i pi hi hwi
    rw [e, hnone] at hd; cases hd
  refine ⟨h.nodup, fun b sz hb => hsize b sz (h.recorded b sz hb), fun b d' hd' => ?_, fun i pi hi hwi => ?_,
    fun i j pi pj hi hj hwi hwj hb => ?_⟩
  · by_cases e : b = opBid pr.prog
    · subst e
      rw [hself] at hd'; cases hd'
      exact ⟨mt, hmt, .inr ⟨p, a, set_get_self hpr, hw', by rw [hprog]⟩⟩
    · rw [hfin] at hd'; simp only [upd, if_neg e] at hd'
      obtain ⟨m, hm, hor⟩ := h.pkgs b d' hd'
      refine ⟨m, hm, hor.imp_right fun ⟨i, po, hi, hwo, hb⟩ => ?_⟩
      exact ⟨i, po, set_get_of_pc hpr hi (fun e => by rw [e, hw] at hwo; cases hwo), hwo, hb⟩
  · rcases getElem?_set_cases hi with ⟨rfl, rfl, _⟩ | ⟨_, hi'⟩
    · rw [hprog]
      refine ⟨fun hk => ?_, tmp, mt, hself, hmt, hsz⟩
      obtain ⟨sz, hm⟩ := exists_of_mem_keys hk
      obtain ⟨d, _, hd, _⟩ := h.recorded _ _ hm
      rw [hnone] at hd; cases hd
    · exact ⟨(h.window i pi hi' hwi).1, hsize _ _ (h.window i pi hi' hwi).2⟩
  · rcases getElem?_set_cases hi with ⟨rfl, rfl, _⟩ | ⟨_, hi'⟩ <;>
      rcases getElem?_set_cases hj with ⟨rfl, rfl, _⟩ | ⟨_, hj'⟩
    · rfl
    · rw [hprog] at hb; exact absurd hb.symm (hno j pj hj' hwj)
    · rw [hprog] at hb; exact absurd hb (hno i pi hi' hwi)
    · exact h.uniq i j pi pj hi' hj' hwi hwj hb

/-- `__addPackage`: the package of the process leaves the window for `L` -/
theorem Accts.record (h : Accts procs final L) (hpr : procs[p]? = some pr) (hw : pr.pc.inWindow = true)
    (hw' : a.pc.inWindow = false) : Accts (procs.set p a) final (setPkg L (opBid pr.prog) (opSize pr.prog)) := by
  obtain ⟨hbL, d0, m0, hd0, hm0, hs0⟩ := h.window p pr hpr hw
  refine ⟨nodup_setPkg L _ _ h.nodup, fun b sz hb => ?_, fun b d hd => ?_, fun i pi hi hwi => ?_,
    fun i j pi pj hi hj hwi hwj hb => ?_⟩
  · rcases (mem_setPkg L _ _ h.nodup b sz).mp hb with ⟨rfl, rfl⟩ | ⟨_, hm⟩
    · exact ⟨d0, m0, hd0, hm0, hs0⟩
    · exact h.recorded b sz hm
  · obtain ⟨m, hm, hor⟩ := h.pkgs b d hd
    refine ⟨m, hm, ?_⟩
    rcases hor with hl | ⟨i, po, hi, hwo, hb⟩
    · refine .inl ((mem_setPkg L _ _ h.nodup b m.size).mpr (.inr ⟨?_, hl⟩))
      rintro rfl; exact hbL (mem_keys_of_mem hl)
    · by_cases e : i = p
      · subst e
        rw [hpr] at hi; cases hi
        subst hb
        rw [hd0] at hd; cases hd
        rw [hm0] at hm; cases hm
        exact .inl ((mem_setPkg L _ _ h.nodup _ _).mpr (.inl ⟨rfl, hs0⟩))
      · exact .inr ⟨i, po, (List.getElem?_set_ne (Ne.symm e)).trans hi, hwo, hb⟩
  · rcases getElem?_set_cases hi with ⟨rfl, rfl, _⟩ | ⟨hip, hi'⟩
    · rw [hw'] at hwi; cases hwi
    · refine ⟨fun hk => ?_, (h.window i pi hi' hwi).2⟩
      rcases (keys_setPkg_mem L _ _ _).mp hk with e | hk'
      · exact hip (h.uniq i p pi pr hi' hpr hwi hw e)
      · exact (h.window i pi hi' hwi).1 hk'
  · rcases getElem?_set_cases hi with ⟨rfl, rfl, _⟩ | ⟨_, hi'⟩
    · rw [hw'] at hwi; cases hwi
    · rcases getElem?_set_cases hj with ⟨rfl, rfl, _⟩ | ⟨_, hj'⟩
      · rw [hw'] at hwj; cases hwj
      · exact h.uniq i j pi pj hi' hj' hwi hwj hb

/-- the collecting rename: the package leaves its final path and `L` together -/
theorem Accts.collect {cb : Bid} (h : Accts procs final L) (hcb : cb ∈ keys L) (hfin : final' = upd final cb none) :
    Accts procs final' (erasePkg L cb) := by
  have hsize : ∀ b sz, b ≠ cb → HasSize final b sz → HasSize final' b sz := by
    rintro b sz hne ⟨d, m, hd, hm⟩
    exact ⟨d, m, by rw [hfin]; simpa [upd, hne] using hd, hm⟩
  refine ⟨nodup_erasePkg L cb h.nodup, fun b sz hb => ?_, fun b d hd => ?_, fun i pi hi hw => ?_, h.uniq⟩
  · obtain ⟨hne, hm⟩ := (mem_erasePkg L cb h.nodup b sz).mp hb
    exact hsize b sz hne (h.recorded b sz hm)
  · have hne : b ≠ cb := by rintro rfl; rw [hfin] at hd; simp [upd] at hd
    rw [hfin] at hd; simp only [upd, if_neg hne] at hd
    obtain ⟨m, hm, hor⟩ := h.pkgs b d hd
    exact ⟨m, hm, hor.imp_left fun hl => (mem_erasePkg L cb h.nodup b m.size).mpr ⟨hne, hl⟩⟩
  · obtain ⟨h1, hs⟩ := h.window i pi hi hw
    exact ⟨fun hk => h1 ((mem_keys_erasePkg L cb _ h.nodup).mp hk).2, hsize _ _ (fun e => h1 (e ▸ hcb)) hs⟩

/-- a process outside the exclusive section moves; repo.json is left alone or created empty -/
theorem RepoOk.keep (h : RepoOk procs repo L) (hpr : procs[p]? = some pr) (hrm : pr.pc.rmeta = none)
    (hrm' : a.pc.rmeta = none) (hrepo : repo' = repo ∨ (repo = .absent ∧ repo' = .torn)) :
    RepoOk (procs.set p a) repo' L := by
  rcases h with ⟨hv, hall⟩ | ⟨ht, i, pi, hi, hrmi, hdi⟩
  · refine .inl ⟨?_, fun i pi rm hi hr => ?_⟩
    · rcases hrepo with e | ⟨e1, e2⟩
      · rw [e]; exact hv
      · rw [e2]; rw [e1] at hv; exact hv
    · rcases getElem?_set_cases hi with ⟨rfl, rfl, _⟩ | ⟨_, hi'⟩
      · rw [hrm'] at hr; cases hr
      · exact hall i pi rm hi' hr
  · refine .inr ⟨?_, i, pi, set_get_of_pc hpr hi (fun e => by rw [e, hrm] at hrmi; cases hrmi), hrmi, hdi⟩
    rcases hrepo with e | ⟨e1, _⟩
    · rw [e]; exact ht
    · rw [ht] at e1; cases e1

theorem RepoOk.own (h : RepoOk procs repo L) (hpr : procs[p]? = some pr)
    (hothers : ∀ (i : Nat) (pi : Proc), procs[i]? = some pi → i ≠ p → pi.pc.holdsEX = false) : Own repo pr.pc L := by
  -- whoever holds a copy of repo.json is process `p`
  have hp : ∀ (i : Nat) (pi : Proc) (rm : List (Bid × Nat)), procs[i]? = some pi → pi.pc.rmeta = some rm → pi = pr := by
    intro i pi rm hi hr
    by_cases e : i = p
    · subst e; rw [hpr] at hi; cases hi; rfl
    · have := Pc.holdsEX_of_rmeta hr
      rw [hothers i pi hi e] at this; cases this
  rcases h with ⟨hv, hall⟩ | ⟨ht, i, pi, hi, hrmi, hdi⟩
  · exact .inl ⟨hv, fun rm hr => hall p pr rm hpr hr⟩
  · cases hp i pi L hi hrmi
    exact .inr ⟨ht, hrmi, hdi⟩

theorem RepoOk.of_own (hpr : procs[p]? = some pr)
    (hothers : ∀ (i : Nat) (pi : Proc), procs[i]? = some pi → i ≠ p → pi.pc.holdsEX = false) (h : Own repo a.pc L) :
    RepoOk (procs.set p a) repo L := by
  rcases h with ⟨hv, hall⟩ | ⟨ht, hr, hd⟩
  · refine .inl ⟨hv, fun i pi rm hi hr => ?_⟩
    rcases getElem?_set_cases hi with ⟨rfl, rfl, _⟩ | ⟨hip, hi'⟩
    · exact hall rm hr
    · have := Pc.holdsEX_of_rmeta hr
      rw [hothers i pi hi' hip] at this; cases this
  · exact .inr ⟨ht, p, a, set_get_self hpr, hr, hd⟩
end

theorem stepPc_iAddLock_ok (H : Nat → Nat) {cfg : Cfg} (hc : cfg.Fixes) (prog : Prog) (g : Store) (l : List (Bid × Nat))
    (hr : readRepo cfg g.repo = some l) :
    stepPc H cfg prog false false g .iAddLock =
      ({ g with repo := .valid (setPkg l (opBid prog) (opSize prog)) },
       .iAddClose none (sumSizes (setPkg l (opBid prog) (opSize prog))) false) := by
  unfold stepPc; simp [hr, hc.1]

/-- program counters at which repo.json has been seen to exist -/
def Pc.needsRepo : Pc → Bool
  | .iAddLock | .gOpen | .gLock => true
  | _ => false

/-- repo.json is Not Absent for whoever has seen it: nothing ever deletes the file.  This is what makes the locked open
of `__addPackage` and of gc succeed in the fixed code (`hna` of `invFF_step`). -/
def RepoNA (s : St) : Prop :=
  ∀ (i : Nat) (pi : Proc), s.procs[i]? = some pi → pi.pc.needsRepo = true → s.g.repo ≠ .absent

theorem RepoWrite.ne_absent {cfg : Cfg} {prog : Prog} {exO shO : Bool} {g : Store} {pc : Pc} {r : RepoFile}
    (h : RepoWrite cfg prog exO shO g pc r) : r ≠ .absent := by
  cases h
  case add => split <;> nofun
  all_goals nofun

theorem stepPc_repo_na (H : Nat → Nat) (cfg : Cfg) (prog : Prog) (exO shO : Bool) (g : Store) (pc : Pc)
    (h : g.repo ≠ .absent) : (stepPc H cfg prog exO shO g pc).1.repo ≠ .absent := by
  have hw := stepPc_writes H cfg prog exO shO g pc
  generalize (stepPc H cfg prog exO shO g pc).1 = g' at hw ⊢
  cases hw
  case collect hr => rcases hr with e | e <;> rw [e] <;> nofun
  case repo hr _ _ _ e => rw [e]; exact hr.ne_absent
  all_goals rename_i e; rw [e]; exact h

theorem Pc.not_needsRepo_of_exit_or_inGc {pc : Pc} (h : pc.isExit = true ∨ pc.inGc = true) : pc.needsRepo = false := by
  cases pc
  case iAddLock | gOpen | gLock => rcases h with h | h <;> cases h
  all_goals rfl

/-- a process gets to a point where it has seen repo.json only over an edge that is guarded by its existence -/
theorem stepPc_needsRepo (H : Nat → Nat) {cfg : Cfg} (hc : cfg.Fixes) (prog : Prog) (exO shO : Bool) (g : Store) (pc : Pc)
    (hpc : pc.needsRepo = true → g.repo ≠ .absent)
    (h : (stepPc H cfg prog exO shO g pc).2.needsRepo = true) : (stepPc H cfg prog exO shO g pc).1.repo ≠ .absent := by
  have hf := stepPc_flow H cfg prog exO shO g pc
  generalize (stepPc H cfg prog exO shO g pc).2 = pc' at hf h
  generalize (stepPc H cfg prog exO shO g pc).1 = g' at hf
  cases hf
  case stay => exact hpc h
  case exit he _ => rw [Pc.not_needsRepo_of_exit_or_inGc (.inl he)] at h; cases h
  case gcLocked hg => rw [Pc.not_needsRepo_of_exit_or_inGc (.inr hg)] at h; cases h
  case gcGoes hg => rw [Pc.not_needsRepo_of_exit_or_inGc (.inr hg)] at h; cases h
  case gcOpen hm => intro e; simp [repoMissing, e, hc.2.1] at hm
  case addLock hne => exact hne
  case gcLock => exact hpc rfl
  all_goals cases h

theorem repoNA_step (H : Nat → Nat) {cfg : Cfg} (hc : cfg.Fixes) (s : St) (p : Pid) (h : RepoNA s) :
    RepoNA (step H cfg s p) := by
  rcases step_cases H cfg s p with ⟨_, e⟩ | ⟨pr, hpr, e⟩
  · rw [e]; exact h
  · rw [e]
    intro i pi hi hn
    simp only at hi ⊢
    rcases getElem?_set_cases hi with ⟨rfl, rfl, _⟩ | ⟨_, hi'⟩
    · exact stepPc_needsRepo H hc pr.prog _ _ s.g pr.pc (h i pr hpr) hn
    · exact stepPc_repo_na H cfg pr.prog _ _ s.g pr.pc (h i pi hi' hn)

theorem InvFF.step_of {s : St} {L L' : List (Bid × Nat)} {p : Nat} {a : Proc} {g' : Store} (inv : InvFF s L)
    (hmx : Mutex ⟨g', s.procs.set p a⟩) (hpcs : PcFF a.pc ∧ GcWf a.pc ∧ TmpOk a.prog a.pc)
    (hrepo : RepoOk (s.procs.set p a) g'.repo L') (hacc : Accts (s.procs.set p a) g'.final L') :
    ∃ L', InvFF ⟨g', s.procs.set p a⟩ L' :=
  ⟨L', hmx, forall_set inv.pcs hpcs, hrepo, hacc.nodup, hacc.recorded, hacc.pkgs, hacc.window, hacc.uniq⟩

theorem invFF_step (H : Nat → Nat) {cfg : Cfg} (hc : cfg.Fixes) (s : St) (L : List (Bid × Nat)) (p : Pid) (inv : InvFF s L)
    (hna : RepoNA s) : ∃ L', InvFF (step H cfg s p) L' := by
  have hmx := mutex_step H cfg s p inv.mutex
  rcases step_cases H cfg s p with ⟨_, e⟩ | ⟨pr, hpr, e⟩
  · rw [e]; exact ⟨L, inv⟩
  · rw [e] at hmx ⊢
    clear e
    obtain ⟨hpff, hgwf, htmp⟩ := inv.pcs p pr hpr
    have hacc := inv.accts
    have hinfo : ∀ b d, s.g.final b = some d → ∃ m, d.info = some (.valid m) :=
      fun b d hd => let ⟨m, hm, _⟩ := inv.pkgs b d hd; ⟨m, hm⟩
    -- nobody else is inside the exclusive section when the lock is free or `p` is inside itself
    have hothers : othersAny Pc.holdsEX s.procs p = false ∨ pr.pc.holdsEX = true →
        ∀ (i : Nat) (pi : Proc), s.procs[i]? = some pi → i ≠ p → pi.pc.holdsEX = false := by
      rintro (h | h) i pi hi hip
      · exact othersAny_false.mp h i pi hi hip
      · cases hx : pi.pc.holdsEX with
        | false => rfl
        | true => exact absurd (inv.mutex p i pr pi hpr hi h (.inl hx)).symm hip
    have hown := fun h => RepoOk.own inv.repoOk hpr (hothers h)
    have hrmL : ∀ rm, pr.pc.rmeta = some rm → rm = L :=
      fun rm hr => (hown (.inr (Pc.holdsEX_of_rmeta hr))).rmeta hr
    have hread_of : othersAny Pc.holdsEX s.procs p = false → (pr.pc = .iAddLock ∨ pr.pc = .gLock) →
        readRepo cfg s.g.repo = some L := by
      intro h1 h3
      have hn : s.g.repo ≠ .absent := hna p pr hpr (by rcases h3 with h | h <;> rw [h] <;> rfl)
      rw [readRepo_fixed hc hn, (hown (.inl h1)).clean (by rcases h3 with h | h <;> rw [h] <;> rfl)]
    have hscan : ∀ rm k sz rest cands total, pr.pc = .gScanLock rm k sz rest cands total → s.g.final k ≠ none := by
      intro rm k sz rest cands total hq
      rw [hq] at hgwf
      cases hrmL rm (by rw [hq]; rfl)
      obtain ⟨d, _, hd, _⟩ := inv.recorded k sz hgwf.2.2.1
      rw [hd]; nofun
    have hmv : ∀ rm c rest t d te, pr.pc = .gMove rm (c :: rest) t d te → s.g.final c.bid ≠ none := by
      intro rm c rest t d te hq
      rw [hq] at hgwf
      cases hrmL rm (by rw [hq]; rfl)
      obtain ⟨sz, hm⟩ := exists_of_mem_keys (hgwf.2.2 c (by simp))
      obtain ⟨dd, _, hd, _⟩ := inv.recorded c.bid sz hm
      rw [hd]; nofun
    have hnodup : ∀ l, readRepo cfg s.g.repo = some l → (keys l).Nodup := by
      intro l hl
      have hn : s.g.repo ≠ .absent := by intro e; rw [e] at hl; cases hl
      rw [readRepo_fixed hc hn] at hl; cases hl
      rcases inv.repoOk with ⟨hv, _⟩ | ⟨ht, _⟩
      · rw [hv]; exact inv.nodup
      · rw [ht]; exact List.nodup_nil
    have hpcs' := And.intro
      (stepPc_pcFF H hc pr.prog (othersAny Pc.holdsEX s.procs p) (othersAny Pc.holdsSH s.procs p) s.g pr.pc hpff (fun hq => hna p pr hpr (by rw [hq]; rfl))
        (fun h1 _ h3 => ⟨L, hread_of h1 h3⟩) hinfo hscan hmv)
      (And.intro (stepPc_gcWf H cfg pr.prog (othersAny Pc.holdsEX s.procs p) (othersAny Pc.holdsSH s.procs p) s.g pr.pc hgwf hnodup)
        (stepPc_tmpOk H cfg pr.prog (othersAny Pc.holdsEX s.procs p) (othersAny Pc.holdsSH s.procs p) s.g pr.pc htmp))
    generalize hexO : othersAny Pc.holdsEX s.procs p = exO at *
    generalize hshO : othersAny Pc.holdsSH s.procs p = shO at *
    generalize hstep : stepPc H cfg pr.prog exO shO s.g pr.pc = res at *
    -- the publishing rename
    by_cases h1 : (∃ tmp, pr.pc = .iRename tmp) ∧ s.g.final (opBid pr.prog) = none
    · obtain ⟨⟨tmp, hq⟩, hnone⟩ := h1
      rw [hq, stepPc_iRename_none H cfg pr.prog exO shO s.g tmp hnone] at hstep
      subst hstep
      exact inv.step_of hmx hpcs' (RepoOk.keep inv.repoOk hpr (by rw [hq]; rfl) rfl (.inl rfl))
        (hacc.publish hpr (by rw [hq]; rfl) hnone rfl (by rw [← hq]; exact htmp) rfl rfl)
    -- `__addPackage` gets the lock
    by_cases h2 : pr.pc = .iAddLock ∧ exO = false ∧ shO = false
    · obtain ⟨hq, rfl, rfl⟩ := h2
      rw [hq, stepPc_iAddLock_ok H hc pr.prog s.g L (hread_of rfl (.inl hq))] at hstep
      subst hstep
      exact inv.step_of hmx hpcs' (.of_own hpr (hothers (.inl rfl)) (.inl ⟨rfl, nofun⟩))
        (hacc.record hpr (by rw [hq]; rfl) rfl)
    -- a gc inside the exclusive section, or entering it
    by_cases hg : pr.pc.inSection exO shO
    · have hs := stepPc_gcStep H cfg pr.prog exO shO s.g pr.pc hg
      have hfr := stepPc_frame H cfg pr.prog exO shO s.g pr.pc
      rw [hstep] at hs hfr
      have hfree : exO = false ∨ pr.pc.holdsEX = true :=
        hg.elim .inr fun h => .inl (by simpa using h.2 : exO = false ∧ shO = false).1
      have hoth := hothers hfree
      have hown' := hown hfree
      have hw : pr.pc.inWindow = false := by
        rcases hg with h | ⟨h, _⟩
        · cases hq : pr.pc <;> rw [hq] at h
          case gScanOpen | gScanLock | gMove => rfl
          all_goals cases h
        · rw [h]; rfl
      have hw' : res.2.inWindow = false := by
        cases hh : res.2.inWindow with
        | false => rfl
        | true =>
          rw [← hstep] at hh
          obtain ⟨⟨tmp, hq⟩, _⟩ := stepPc_inWindow_enter H cfg pr.prog exO shO s.g pr.pc hh hw
          rw [hq] at hg; rcases hg with h | ⟨h, _⟩ <;> cases h
      by_cases hwp : pr.pc.writesPkgs = false
      · -- taking the lock, scanning: nothing is written, the copy of repo.json stays `L` and clean
        have hnd : pr.pc.dirty = false ∧ pr.pc.writesRepo = false := by
          rcases hg with h | ⟨h, _⟩
          · cases hq : pr.pc <;> rw [hq] at h hwp
            case gScanOpen | gScanLock => exact ⟨rfl, rfl⟩
            case gMove => cases hwp
            all_goals cases h
          · rw [h]; exact ⟨rfl, rfl⟩
        refine inv.step_of (L' := L) hmx hpcs' (.of_own hpr hoth (.inl ⟨?_, fun rm' hr' => ?_⟩)) ?_
        · rw [hfr.2 hnd.2]; exact hown'.clean hnd.1
        · obtain ⟨h1, h2⟩ := hs.rmeta hwp hr'
          refine ⟨?_, h2⟩
          rcases h1 with h1 | h1
          · exact hrmL _ h1
          · have hn : s.g.repo ≠ .absent := by intro e; rw [e] at h1; cases h1
            rw [readRepo_fixed hc hn, hown'.clean hnd.1] at h1
            exact (Option.some.inj h1).symm
        · rw [(hfr.1 hwp).1]; exact hacc.set_same hpr rfl (hw'.trans hw.symm)
      · -- moving
        generalize hq : pr.pc = pc at *
        generalize hp' : res.2 = pc' at *
        generalize hg' : res.1 = g' at *
        cases hs
        case finished rm _ d _ _ hfin hp =>
          refine inv.step_of (L' := L) hmx hpcs' (.of_own hpr hoth (.inl ⟨?_, nofun⟩)) ?_
          · rw [(hp hc.1).2]
            cases d with
            | true => exact hrmL rm rfl
            | false => exact hown'.clean rfl
          · rw [hfin]; exact hacc.set_same hpr rfl (hw'.trans (by rw [hq]; rfl))
        case vanished hf _ _ => exact absurd hf (hmv _ _ _ _ _ _ rfl)
        case movedLast rm c _ _ _ _ _ hf hfin hp =>
          cases hrmL rm rfl
          exact inv.step_of hmx hpcs' (.of_own hpr hoth (.inl ⟨by rw [(hp hc.1).2]; rfl, nofun⟩))
            ((hacc.collect (hgwf.2.2 c (by simp)) hfin).set_same hpr rfl (hw'.trans (by rw [hq]; rfl)))
        case moved rm c _ _ _ _ _ _ hf hfin hr =>
          cases hrmL rm rfl
          exact inv.step_of hmx hpcs' (.of_own hpr hoth (.inr ⟨hr, rfl, rfl⟩))
            ((hacc.collect (hgwf.2.2 c (by simp)) hfin).set_same hpr rfl (hw'.trans (by rw [hq]; rfl)))
        all_goals exact absurd rfl hwp
    -- everything else: repo.json is left alone or created empty, `use` may rewrite a pkg.json
    · have hnEX : pr.pc.holdsEX = false := Bool.eq_false_iff.mpr fun h => hg (.inl h)
      have hblk : pr.pc = .gLock → (exO || shO) = true :=
        fun hq => Decidable.byContradiction fun hx => hg (.inr ⟨hq, hx⟩)
      have hnEX' : res.2.holdsEX = false := by
        rw [← hstep]; exact stepPc_notEX H cfg pr.prog exO shO s.g pr.pc hnEX hblk
      have hrepo : res.1.repo = s.g.repo ∨ (s.g.repo = .absent ∧ res.1.repo = .torn) := by
        have hw := stepPc_writes H cfg pr.prog exO shO s.g pr.pc
        rw [hstep] at hw
        generalize hq : pr.pc = pc at hw
        rw [hq] at hpff
        cases hw
        case collect => exact absurd (.inl (by rw [hq]; rfl)) hg
        case repo hr _ _ _ e =>
          cases hr
          case touch ha => exact .inr ⟨ha, e⟩
          case add hfree _ => exact absurd ⟨hq, by simpa using hfree⟩ h2
          case restore => exact absurd (.inl (by rw [hq]; rfl)) hg
          case create | createAdd => cases hpff
          case flushAdd | flushGc => cases hpff.1
        all_goals rename_i e; exact .inl e
      have hfin : FinalQuiet s.g.final res.1.final := by
        rw [← hstep]
        refine stepPc_finalQuiet H hc pr.prog exO shO s.g pr.pc hpff ?_ ?_
        · intro tmp hq hn; exact h1 ⟨⟨tmp, hq⟩, hn⟩
        · intro rm plan t d te hq; exact hg (.inl (by rw [hq]; rfl))
      have hwin : res.2.inWindow = pr.pc.inWindow := by
        cases hw : pr.pc.inWindow with
        | true =>
          rcases stepPc_inWindow_stay H cfg pr.prog exO shO s.g pr.pc hw with h | ⟨hq | hq, hx, hy⟩
          · rw [← hstep]; exact h
          · exact absurd ⟨hq, hx, hy⟩ h2
          · rw [hq] at hpff; cases hpff
        | false =>
          cases hh : res.2.inWindow with
          | false => rfl
          | true =>
            rw [← hstep] at hh
            exact absurd (stepPc_inWindow_enter H cfg pr.prog exO shO s.g pr.pc hh hw) h1
      exact inv.step_of hmx hpcs' (RepoOk.keep inv.repoOk hpr (Pc.rmeta_of_notEX hnEX) (Pc.rmeta_of_notEX hnEX') hrepo)
        ((hacc.quiet hfin).set_same hpr rfl hwin)

end Share
