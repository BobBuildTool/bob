import BobModel.Model.SubstSpec
/-
C17: the three mutually recursive parser functions one unit of fuel at a time.  Each equation
writes the body with `bindE`/`cat`, so that a fact about a call with fuel `n + 1` follows from facts
about the calls with fuel `n` by walking through a sequence of binds.  (A stuck `match` of the model
and `bindE` are not unfolded against each other by `rfl`, hence the case splits in the proofs.)
-/
namespace C17
open StringParser SubstSpec

abbrev Res := Except PErr (Str × Str)

def cat (s : Str) (R : Res) : Res :=
  match R with
  | .error e => .error e
  | .ok (r, r2) => .ok (s ++ r, r2)

@[simp] theorem cat_ok (s r r2 : Str) : cat s (.ok (r, r2)) = .ok (s ++ r, r2) := rfl
@[simp] theorem cat_err (s : Str) (e : PErr) : cat s (.error e) = .error e := rfl
@[simp] theorem cat_nil (R : Res) : cat [] R = R := by
  cases R with
  | error e => rfl
  | ok p => cases p; rfl

theorem cat_cat (s t : Str) (R : Res) : cat s (cat t R) = cat (s ++ t) R := by
  cases R with
  | error e => rfl
  | ok p => cases p; simp

/-- sequencing on results (plain `match`, so that everything reduces by `rfl`) -/
def bindE {α : Type} (r : Except PErr α) (k : α → Res) : Res :=
  match r with
  | .error e => .error e
  | .ok v => k v

@[simp] theorem bindE_ok {α : Type} (v : α) (k : α → Res) : bindE (.ok v) k = k v := rfl
@[simp] theorem bindE_err {α : Type} (e : PErr) (k : α → Res) : bindE (.error e) k = .error e := rfl

theorem cat_bindE {α : Type} (s : Str) (A : Except PErr α) (K : α → Res) :
    cat s (bindE A K) = bindE A fun v => cat s (K v) := by
  cases A <;> rfl

theorem bindE_cat_cat (s : Str) (R : Res) (F : Str → Res) :
    (bindE (cat s R) fun (t, r) => cat t (F r)) = cat s (bindE R fun (t, r) => cat t (F r)) := by
  cases R with
  | error e => rfl
  | ok p => exact (cat_cat ..).symm

/-- what `getCommand` does at the closing parenthesis; `wordsRev` in reverse order -/
def finish (cfg : Cfg) (sb : Bool) (wordsRev : List Str) (r2 : Str) : Res :=
  if !sb then .ok ([], r2)
  else match wordsRev.reverse with
    | [] => .error .funError
    | cmd :: args =>
      match callFun cfg cmd args with
      | .error e => .error e
      | .ok v => .ok (v, r2)

/-- the quoted or `$` item that starts with the delimiter `c` (already consumed) -/
def item (cfg : Cfg) (n : Nat) (sb : Bool) (c : Char) (rest : Str) : Res :=
  if c = '"' then getString cfg n ['"'] false false sb rest
  else if c = '\'' then getSingleQuoted rest
  else bindE (nextChar rest) fun (d, r0) =>
    if d = '{' then getVariable cfg n sb r0
    else if d = '(' then getCommand cfg n sb r0 []
    else if Consts.C17.nameStart.contains d then
      bindE (varValue cfg sb (d :: (getRestOfName r0).1)) fun v => .ok (v, (getRestOfName r0).2)
    else .error .invalidDollar

theorem bindE_cat (R : Res) (K : Str → Res) :
    (match R with
      | .error e => .error e
      | .ok (s, r1) => match K r1 with
        | .error e => .error e
        | .ok (r, r2) => .ok (s ++ r, r2)) = bindE R fun (s, r1) => cat s (K r1) := by
  cases R <;> rfl

theorem varValue_eq (cfg : Cfg) (sb : Bool) (nm r : Str) :
    (match lookup cfg.env nm with
      | some v => .ok (v, r)
      | none => if sb && cfg.nounset then .error .unsetVar else .ok ([], r)) =
    bindE (varValue cfg sb nm) fun v => .ok (v, r) := by
  unfold varValue
  cases lookup cfg.env nm with
  | some v => rfl
  | none => cases (sb && cfg.nounset) <;> rfl

theorem getString_succ (cfg : Cfg) (n : Nat) (E : List Char) (o k sb : Bool) (inp : Str) :
    getString cfg (n + 1) E o k sb inp =
      bindE (nextToken E inp) fun (t, rest) =>
        match t with
        | .eos => if o then .ok ([], rest) else .error .unexpectedEnd
        | .lit s => cat s (getString cfg n E o k sb rest)
        | .delim c =>
          if E.contains c then .ok ([], if k then c :: rest else rest)
          else bindE (item cfg n sb c rest) fun (s, r1) => cat s (getString cfg n E o k sb r1) := by
  rw [getString]
  cases nextToken E inp with
  | error e => rfl
  | ok p =>
    obtain ⟨t, rest⟩ := p
    cases t with
    | eos => rfl
    | lit s => rfl
    | delim c =>
      refine ite_congr rfl (fun _ => rfl) fun _ => ?_
      unfold item
      by_cases h1 : c = '"'
      · rw [if_pos h1, if_pos h1]; exact bindE_cat _ _
      rw [if_neg h1, if_neg h1]
      by_cases h2 : c = '\''
      · rw [if_pos h2, if_pos h2]; exact bindE_cat _ _
      rw [if_neg h2, if_neg h2]
      cases nextChar rest with
      | error e => rfl
      | ok q =>
        refine (bindE_cat _ (getString cfg n E o k sb)).trans (congrArg (bindE · _) ?_)
        exact ite_congr rfl (fun _ => rfl) fun _ => ite_congr rfl (fun _ => rfl) fun _ =>
          ite_congr rfl (fun _ => varValue_eq cfg sb _ _) fun _ => rfl

theorem isUnset_eq (cfg : Cfg) (colon : Bool) (nm : Str) :
    isUnset cfg colon nm =
      if colon then ((lookup cfg.env nm).isNone || decide (lookup cfg.env nm = some []))
      else (lookup cfg.env nm).isNone := by
  unfold isUnset
  cases lookup cfg.env nm with
  | none => cases colon <;> rfl
  | some v => cases colon <;> simp

/-- `getVariable` from the operator `op` on; `u`: the variable `nm` counts as unset -/
def varOp (cfg : Cfg) (n : Nat) (sb : Bool) (nm : Str) (u : Bool) (op : Char) (r3 : Str) : Res :=
  if op = '-' then
    bindE (getString cfg n ctxBranch false false (sb && u) r3) fun (d, r4) =>
      .ok (if u then d else (lookup cfg.env nm).getD [], r4)
  else if op = '+' then
    bindE (getString cfg n ctxBranch false false (sb && !u) r3) fun (a, r4) =>
      .ok (if u then [] else a, r4)
  else if op = '}' then bindE (varValue cfg sb nm) fun v => .ok (v, r3)
  else .error .unterminatedVar

theorem getVariable_succ (cfg : Cfg) (n : Nat) (sb : Bool) (inp : Str) :
    getVariable cfg (n + 1) sb inp =
      bindE (getString cfg n ctxName false true sb inp) fun (nm, r1) =>
      bindE (nextChar r1) fun (op0, r2) =>
      bindE (if op0 = ':' then nextChar r2 else .ok (op0, r2)) fun (op, r3) =>
        varOp cfg n sb nm (isUnset cfg (op0 = ':') nm) op r3 := by
  have tail (nm : Str) (u : Bool) (op : Char) (r3 : Str) :
      (if op = '-' then
        match getString cfg n ['}'] false false (sb && u) r3 with
        | .error e => .error e
        | .ok (dflt, r4) => .ok (if u then dflt else (lookup cfg.env nm).getD [], r4)
      else if op = '+' then
        match getString cfg n ['}'] false false (sb && !u) r3 with
        | .error e => .error e
        | .ok (alt, r4) => .ok (if u then [] else alt, r4)
      else if op = '}' then
        match lookup cfg.env nm with
        | none => if sb && cfg.nounset then .error .unsetVar else .ok ([], r3)
        | some v => .ok (v, r3)
      else .error .unterminatedVar) = varOp cfg n sb nm u op r3 := by
    unfold varOp ctxBranch
    refine ite_congr rfl (fun _ => ?_) fun _ => ite_congr rfl (fun _ => ?_) fun _ =>
      ite_congr rfl (fun _ => ?_) fun _ => rfl
    · cases getString cfg n ['}'] false false (sb && u) r3 <;> rfl
    · cases getString cfg n ['}'] false false (sb && !u) r3 <;> rfl
    · unfold varValue
      cases lookup cfg.env nm with
      | some v => rfl
      | none => cases (sb && cfg.nounset) <;> rfl
  rw [getVariable]
  unfold ctxName
  cases getString cfg n [':', '-', '+', '}'] false true sb inp with
  | error e => rfl
  | ok p =>
    obtain ⟨nm, r1⟩ := p
    dsimp only [bindE_ok]
    cases nextChar r1 with
    | error e => rfl
    | ok q =>
      obtain ⟨op0, r2⟩ := q
      dsimp only [bindE_ok]
      rw [isUnset_eq]
      by_cases hc : op0 = ':'
      · rw [if_pos hc, if_pos hc, decide_eq_true hc, if_pos rfl]
        cases nextChar r2 with
        | error e => rfl
        | ok q => exact tail ..
      · rw [if_neg hc, if_neg hc, decide_eq_false hc]
        exact tail ..

theorem getCommand_succ (cfg : Cfg) (n : Nat) (sb : Bool) (inp : Str) (words : List Str) :
    getCommand cfg (n + 1) sb inp words =
      bindE (getString cfg n ctxWord false true sb inp) fun (word, r1) =>
      bindE (nextChar r1) fun (endc, r2) =>
        if endc = ')' then finish cfg sb (word :: words) r2
        else getCommand cfg n sb r2 (word :: words) := by
  rw [getCommand]
  unfold ctxWord
  cases getString cfg n [',', ')'] false true sb inp with
  | error e => rfl
  | ok p =>
    dsimp only [bindE_ok]
    cases nextChar p.2 <;> rfl

end C17
