import BobModel.Model.Download
/-
C07: the micro-operation blocks (`prepOps`, `dlOps`, `pkgOps`) and the one workspace they address: the effect of a
micro-operation on that workspace (`locOp`), the ways through each block and the micro-operations it may emit, and the
invariant that makes a recorded `built [bid, inputs…]` / `downloaded bid` entry trustworthy.
-/
namespace Download

/-- effect of a micro-operation on the state of the workspace it addresses -/
def locOp (E : Env) (l : Loc) : Op → Loc
  | .mkDir _ => { l with disk := some emptyC }
  | .reset _ v => { l with res := none, inp := none, dir := v, vidv := none }
  | .emptyDir _ => { l with disk := some emptyC }
  | .rmAudit _ => { l with audit := none }
  | .download _ _ .notFound => l
  | .download _ _ (.extracted c au) => { l with disk := some c, audit := au }
  | .download _ _ .failed => { l with disk := some E.junk, audit := none }
  | .hashWs _ => l
  | .auditRead _ => l
  | .delInputs _ => { l with inp := none }
  | .setResult _ r => { l with res := some r }
  | .setVid _ v => { l with vidv := some v }
  | .setInputs _ i => { l with inp := some i }
  | .runPackage _ c => { l with disk := some c, audit := some (E.H c) }
  | .upload _ _ => l
  | .mispredict _ => l

theorem upd_same {β : Type} {f : Path → β} {p : Path} {v : β} : upd f p v p = v := if_pos rfl

theorem upd_other {β : Type} {f : Path → β} {p q : Path} {v : β} (h : q ≠ p) : upd f p v q = f q := if_neg h

theorem upd_some {β : Type} {f : Path → Option β} {p q : Path} {v w : β} (h : upd f p (some v) q = some w) :
    (q = p ∧ v = w) ∨ (q ≠ p ∧ f q = some w) := by
  by_cases hq : q = p
  · exact Or.inl ⟨hq, Option.some.inj ((if_pos hq).symm.trans h)⟩
  · exact Or.inr ⟨hq, (if_neg hq).symm.trans h⟩

theorem forall_mem_pair {α : Type} {P : α → Prop} {a b : α} (ha : P a) (hb : P b) : ∀ x ∈ [a, b], P x :=
  List.forall_mem_cons.mpr ⟨ha, List.forall_mem_singleton.mpr hb⟩

theorem applyOp_upload (E : Env) (s : St) (a : Archive) (p : Path) (b : BuildId) :
    ((s.audit p = none ∨ ∃ x, a b = some x) ∧ applyOp E (s, a) (.upload p b) = (s, a)) ∨
    ∃ au, s.audit p = some au ∧ a b = none ∧
      applyOp E (s, a) (.upload p b) = (s, upd a b (some (.good ((s.disk p).getD emptyC) (some au)))) := by
  dsimp only [applyOp]
  cases s.audit p with
  | none => exact Or.inl ⟨Or.inl rfl, rfl⟩
  | some au =>
    cases a b with
    | none => exact Or.inr ⟨au, rfl, rfl, rfl⟩
    | some x => exact Or.inl ⟨Or.inr ⟨x, rfl⟩, rfl⟩

theorem loc_applyOp_same (E : Env) (sa : St × Archive) (op : Op) :
    ((applyOp E sa op).1).loc op.path = locOp E (sa.1.loc op.path) op := by
  obtain ⟨s, a⟩ := sa
  -- unfolding is definitional; what is left, if anything, are the `upd … p p`
  cases op with
  | download p b r => cases r <;> dsimp only [applyOp, locOp, St.loc, Op.path] <;> simp only [upd_same]
  | upload p b =>
    dsimp only [applyOp, locOp, Op.path]
    split <;> rfl
  | _ => dsimp only [applyOp, locOp, St.loc, Op.path, St.reset] <;> simp only [upd_same]

theorem loc_applyOp_other (E : Env) (sa : St × Archive) (op : Op) (q : Path) (h : op.path ≠ q) :
    ((applyOp E sa op).1).loc q = sa.1.loc q := by
  obtain ⟨s, a⟩ := sa
  cases op with
  | download p b r =>
    have h' : p ≠ q := h
    cases r <;> dsimp only [applyOp, St.loc] <;> simp only [upd_other h'.symm]
  | upload p b =>
    dsimp only [applyOp]
    split <;> rfl
  | _ =>
    dsimp only [Op.path] at h
    dsimp only [applyOp, St.loc, St.reset] <;> simp only [upd_other h.symm]

def Op.isUpload : Op → Bool
  | .upload _ _ => true
  | _ => false

theorem arch_applyOp (E : Env) (sa : St × Archive) (op : Op) (h : op.isUpload = false) :
    (applyOp E sa op).2 = sa.2 := by
  obtain ⟨s, a⟩ := sa
  cases op with
  | download p b r => cases r <;> rfl
  | upload p b => simp [Op.isUpload] at h
  | _ => rfl

theorem applyOps_frame (E : Env) (p : Path) (ops : List Op) : ∀ (sa : St × Archive), (∀ op ∈ ops, op.path = p) →
    ((applyOps E sa ops).1).loc p = ops.foldl (locOp E) (sa.1.loc p) ∧
    (∀ q, q ≠ p → ((applyOps E sa ops).1).loc q = sa.1.loc q) ∧
    ((∀ op ∈ ops, op.isUpload = false) → (applyOps E sa ops).2 = sa.2) := by
  induction ops with
  | nil => exact fun sa _ => ⟨rfl, fun _ _ => rfl, fun _ => rfl⟩
  | cons op ops ih =>
    intro sa h
    have hp := h op List.mem_cons_self
    obtain ⟨i1, i2, i3⟩ := ih (applyOp E sa op) (fun o ho => h o (List.mem_cons_of_mem _ ho))
    refine ⟨i1.trans ?_, fun q hq => (i2 q hq).trans (loc_applyOp_other E sa op q (by rw [hp]; exact hq.symm)),
      fun hu => (i3 fun o ho => hu o (List.mem_cons_of_mem _ ho)).trans (arch_applyOp E sa op (hu op List.mem_cons_self))⟩
    rw [← hp, loc_applyOp_same]
    rfl

theorem applyOps_append (E : Env) (sa : St × Archive) (l1 l2 : List Op) :
    applyOps E sa (l1 ++ l2) = applyOps E (applyOps E sa l1) l2 := by
  simp [applyOps, List.foldl_append]

/-- `_constructDir` at the head of `_downloadPackage` and `_cookPackageStep` -/
abbrev mkOps (p : Path) (l : Loc) : List Op := if l.disk.isNone then [.mkDir p] else []

/-- the prune block of `_downloadPackage` -/
abbrev pruneOps (i : PInfo) : List Op :=
  [.reset i.path none, .emptyDir i.path, .rmAudit i.path, .reset i.path (some i.vid)]

theorem foldl_mkOps (E : Env) (p : Path) (l : Loc) :
    (mkOps p l).foldl (locOp E) l = { l with disk := some (l.disk.getD emptyC) } := by
  cases l with
  | mk res inp dir vidv disk audit => cases disk <;> rfl

section
variable {E : Env} {cfg : Cfg} {depth : Nat} {i : PInfo} {b : BuildId} {l : Loc} {x : Option Artifact}

theorem dlOps_skip (ht : tryDownload cfg.dl depth i = false) : dlOps E cfg depth i b l x = ([], .no) := by
  simp only [dlOps, ht, Bool.not_false, if_true]

theorem dlOps_prune (ht : tryDownload cfg.dl depth i = true) (hp : dlPrune cfg b (dissect l.inp) = true) :
    dlOps E cfg depth i b l x =
      (mkOps i.path l ++ pruneOps i ++ (dlFetchOps E cfg depth i b (fetch cfg x)).1,
        (dlFetchOps E cfg depth i b (fetch cfg x)).2) := by
  simp only [dlOps, ht, hp, Bool.not_true, Bool.false_eq_true, if_false, if_true, Bool.true_or]

theorem dlOps_fetch (ht : tryDownload cfg.dl depth i = true) (hp : dlPrune cfg b (dissect l.inp) = false)
    (hr : l.res = none) :
    dlOps E cfg depth i b l x =
      (mkOps i.path l ++ (dlFetchOps E cfg depth i b (fetch cfg x)).1, (dlFetchOps E cfg depth i b (fetch cfg x)).2) := by
  simp only [dlOps, ht, hp, hr, Option.isNone_none, Bool.not_true, Bool.false_eq_true, if_false, if_true, Bool.or_true,
    List.append_nil]

theorem dlOps_keep (ht : tryDownload cfg.dl depth i = true) (hp : dlPrune cfg b (dissect l.inp) = false)
    {r : RH} (hr : l.res = some r) :
    dlOps E cfg depth i b l x =
      (mkOps i.path l, if (dissect l.inp).wasDownloaded then .downloaded else .no) := by
  simp only [dlOps, ht, hp, hr, Option.isNone_some, Bool.not_true, Bool.false_eq_true, if_false, Bool.or_self,
    List.append_nil]
  split <;> rfl

/-! the download branch proper checks an extracted artifact against its audit trail; the other outcomes of the
fetch are constructor cases of `dlFetchOps` -/

theorem dlFetchOps_bad {c : Content} {h : Hash} (hne : h ≠ E.H c) :
    dlFetchOps E cfg depth i b (.extracted c (some h)) =
      ([.download i.path b (.extracted c (some h)), .hashWs i.path, .auditRead i.path], .error) :=
  if_pos hne

theorem dlFetchOps_good (c : Content) :
    dlFetchOps E cfg depth i b (.extracted c (some (E.H c))) =
      ([.download i.path b (.extracted c (some (E.H c))), .hashWs i.path, .auditRead i.path,
        .setInputs i.path (.downloaded b), .setResult i.path (.hash (E.H c)), .setVid i.path i.vid,
        .setInputs i.path (.downloaded b)], .downloaded) :=
  if_neg (not_not_intro rfl)

theorem fetch_some (hc : cfg.canDownload = true) (y : Artifact) :
    fetch cfg (some y) = match y with
      | .good c au => .extracted c au
      | .broken => .failed := by
  unfold fetch
  rw [hc]
  cases y <;> rfl

theorem fetch_extracted {cfg : Cfg} {x : Option Artifact} {c : Content} {au : Option Hash}
    (h : fetch cfg x = .extracted c au) : x = some (.good c au) := by
  unfold fetch at h
  split at h
  · cases h
  · split at h
    · cases h
    · cases h; rfl
    · cases h

/-- the ways through `_preparePackageStep`: prune what another variant left; claim a fresh workspace; nothing to do -/
theorem prepOps_cases (i : PInfo) (l : Loc) :
    (l.disk ≠ none ∧ prepOps i l = [.reset i.path none, .emptyDir i.path, .reset i.path (some i.vid)]) ∨
    (l.disk = none ∧ prepOps i l = [.reset i.path (some i.vid)]) ∨
    (l.disk ≠ none ∧ l.dir = some i.vid ∧ prepOps i l = []) := by
  unfold prepOps
  cases hd : l.disk with
  | none => exact Or.inr (Or.inl ⟨rfl, rfl⟩)
  | some c =>
    by_cases hv : l.dir = some i.vid
    · exact Or.inr (Or.inr ⟨nofun, hv, by simp [hv]⟩)
    · exact Or.inl ⟨nofun, by simp [hv]⟩

/-- "unchanged input": the recorded input hashes are those of the current inputs, and no `--force` -/
abbrev pkgSkip (E : Env) (cfg : Cfg) (i : PInfo) (depC : List Content) (l : Loc) : Bool :=
  !cfg.force && decide ((dissect l.inp).oldInput = some [some (.hash (E.H (E.semB i.rsig i.src depC)))])

abbrev runOps (E : Env) (i : PInfo) (b : BuildId) (depC : List Content) (tok : Nat) : List Op :=
  [.delInputs i.path, .setResult i.path (.forged tok), .runPackage i.path (E.semP i.rsig (E.semB i.rsig i.src depC)),
    .hashWs i.path, .setResult i.path (.hash (E.H (E.semP i.rsig (E.semB i.rsig i.src depC)))), .setVid i.path i.vid,
    .setInputs i.path (.built b [some (.hash (E.H (E.semB i.rsig i.src depC)))])]

theorem pkgOps_skip {depC : List Content} {tok : Nat} (h : pkgSkip E cfg i depC l = true) :
    pkgOps E cfg i b depC tok l = (mkOps i.path l, false) := by
  unfold pkgOps
  exact if_pos h

theorem pkgOps_run {depC : List Content} {tok : Nat} (h : pkgSkip E cfg i depC l = false) :
    pkgOps E cfg i b depC tok l = (mkOps i.path l ++ runOps E i b depC tok, true) := by
  unfold pkgOps
  exact if_neg (ne_true_of_eq_false h)

/-! the alphabet of each block: what holds of the micro-operations it may emit holds of all it emits -/

variable {P : Op → Prop} {p : Path}

theorem forall_mem_mkOps (hm : P (.mkDir p)) : ∀ op ∈ mkOps p l, P op := by
  cases hd : l.disk.isNone <;> simp only [mkOps, hd, if_true, Bool.false_eq_true, if_false]
  · exact fun _ h => nomatch h
  · exact List.forall_mem_singleton.mpr hm

theorem forall_mem_prepOps (hr : ∀ v, P (.reset i.path v)) (he : P (.emptyDir i.path)) : ∀ op ∈ prepOps i l, P op := by
  rcases prepOps_cases i l with ⟨_, e⟩ | ⟨_, e⟩ | ⟨_, _, e⟩ <;> rw [e]
  · exact List.forall_mem_cons.mpr ⟨hr _, forall_mem_pair he (hr _)⟩
  · exact List.forall_mem_singleton.mpr (hr _)
  · exact fun _ h => nomatch h

theorem forall_mem_dlFetchOps {f : Fetch}
    (hd : P (.download i.path b f)) (hh : P (.hashWs i.path)) (ha : P (.auditRead i.path))
    (hi : P (.setInputs i.path (.downloaded b))) (hr : ∀ r, P (.setResult i.path r)) (hv : P (.setVid i.path i.vid)) :
    ∀ op ∈ (dlFetchOps E cfg depth i b f).1, P op := by
  have h3 := List.forall_mem_cons.mpr ⟨hd, forall_mem_pair hh ha⟩
  rcases f with _ | ⟨c, _ | h⟩ | _
  · exact List.forall_mem_singleton.mpr hd
  · exact List.forall_mem_singleton.mpr hd
  · by_cases hc : h = E.H c
    · subst hc
      rw [dlFetchOps_good]
      exact List.forall_mem_append (l₁ := [_, _, _]).mpr
        ⟨h3, List.forall_mem_cons.mpr ⟨hi, List.forall_mem_cons.mpr ⟨hr _, forall_mem_pair hv hi⟩⟩⟩
    · rw [dlFetchOps_bad hc]
      exact h3
  · exact List.forall_mem_singleton.mpr hd

theorem forall_mem_dlOps (hm : P (.mkDir i.path)) (hr : ∀ v, P (.reset i.path v)) (he : P (.emptyDir i.path))
    (ha : P (.rmAudit i.path)) (hf : ∀ op ∈ (dlFetchOps E cfg depth i b (fetch cfg x)).1, P op) :
    ∀ op ∈ (dlOps E cfg depth i b l x).1, P op := by
  have hmk : ∀ op ∈ mkOps i.path l, P op := forall_mem_mkOps hm
  have hpr : ∀ op ∈ pruneOps i, P op := by
    simp only [List.mem_cons, List.not_mem_nil, or_false, forall_eq_or_imp, forall_eq]
    exact ⟨hr _, he, ha, hr _⟩
  cases ht : tryDownload cfg.dl depth i
  · rw [dlOps_skip ht]; exact fun _ h => nomatch h
  cases hp : dlPrune cfg b (dissect l.inp)
  · cases hr : l.res
    · rw [dlOps_fetch ht hp hr]
      exact List.forall_mem_append.mpr ⟨hmk, hf⟩
    · rw [dlOps_keep ht hp hr]
      exact hmk
  · rw [dlOps_prune ht hp]
    exact List.forall_mem_append.mpr ⟨List.forall_mem_append.mpr ⟨hmk, hpr⟩, hf⟩

theorem forall_mem_pkgOps {depC : List Content} {tok : Nat}
    (hm : P (.mkDir i.path)) (hd : P (.delInputs i.path)) (hr : ∀ r, P (.setResult i.path r))
    (hp : ∀ c, P (.runPackage i.path c)) (hh : P (.hashWs i.path)) (hv : P (.setVid i.path i.vid))
    (hi : ∀ ins, P (.setInputs i.path (.built b ins))) : ∀ op ∈ (pkgOps E cfg i b depC tok l).1, P op := by
  have hmk : ∀ op ∈ mkOps i.path l, P op := forall_mem_mkOps hm
  cases hs : pkgSkip E cfg i depC l
  · rw [pkgOps_run hs]
    refine List.forall_mem_append.mpr ⟨hmk, ?_⟩
    simp only [List.mem_cons, List.not_mem_nil, or_false, forall_eq_or_imp, forall_eq]
    exact ⟨hd, hr _, hp _, hh, hr _, hv, hi _⟩
  · rw [pkgOps_skip hs]
    exact hmk

end

theorem prepOps_path (i : PInfo) (l : Loc) : ∀ op ∈ prepOps i l, op.path = i.path ∧ op.isUpload = false :=
  forall_mem_prepOps (fun _ => ⟨rfl, rfl⟩) ⟨rfl, rfl⟩

theorem dlOps_path (E : Env) (cfg : Cfg) (depth : Nat) (i : PInfo) (b : BuildId) (l : Loc) (x : Option Artifact) :
    ∀ op ∈ (dlOps E cfg depth i b l x).1, op.path = i.path ∧ op.isUpload = false :=
  forall_mem_dlOps ⟨rfl, rfl⟩ (fun _ => ⟨rfl, rfl⟩) ⟨rfl, rfl⟩ ⟨rfl, rfl⟩
    (forall_mem_dlFetchOps ⟨rfl, rfl⟩ ⟨rfl, rfl⟩ ⟨rfl, rfl⟩ ⟨rfl, rfl⟩ (fun _ => ⟨rfl, rfl⟩) ⟨rfl, rfl⟩)

theorem pkgOps_path (E : Env) (cfg : Cfg) (i : PInfo) (b : BuildId) (depC : List Content) (tok : Nat) (l : Loc) :
    ∀ op ∈ (pkgOps E cfg i b depC tok l).1, op.path = i.path ∧ op.isUpload = false :=
  forall_mem_pkgOps ⟨rfl, rfl⟩ ⟨rfl, rfl⟩ (fun _ => ⟨rfl, rfl⟩) (fun _ => ⟨rfl, rfl⟩) ⟨rfl, rfl⟩ ⟨rfl, rfl⟩ (fun _ => ⟨rfl, rfl⟩)

/-- an archive entry as some cook of some project state uploaded it under its Build-Id: the result of a local
build of a package with that Build-Id, with an audit trail that records its hash -/
def Honest (E : Env) (b : BuildId) (x : Artifact) : Prop :=
  ∃ t : Pkg, tb E t = b ∧ x = .good (value E t) (some (E.H (value E t)))

/-- anything the verification of a download rejects: extraction fails, no audit trail, or the recorded result
hash is not the hash of the content -/
def Corrupt (E : Env) : Artifact → Prop
  | .broken => True
  | .good _ none => True
  | .good c (some h) => h ≠ E.H c

def ArchOK (E : Env) (a : Archive) : Prop := ∀ b x, a b = some x → Honest E b x ∨ Corrupt E x

/-- the Build-Id digest is injective (`C07.bid_injective_partial` for the byte level) -/
def BInj (E : Env) : Prop :=
  ∀ rs s bs rs' s' bs', E.B rs s bs = E.B rs' s' bs' → rs = rs' ∧ s = s' ∧ bs = bs'

/-- what the download logic needs of the Build-Id: packages with equal Build-Ids have equal results -/
def BidSound (E : Env) : Prop := ∀ t t' : Pkg, tb E t = tb E t' → value E t = value E t'

/-- **equal Build-Ids, equal results** (deterministic scripts, injective digest) -/
theorem bidSound_of_inj (E : Env) (hB : BInj E) : BidSound E := fun t =>
  Pkg.rec (motive_1 := fun t => ∀ t', tb E t = tb E t' → value E t = value E t')
    (motive_2 := fun ds => ∀ ds', tbs E ds = tbs E ds' → values E ds = values E ds')
    (fun i ds ih t' h => by
      cases t' with
      | mk i' ds' =>
        obtain ⟨h1, h2, h3⟩ := hB _ _ _ _ _ _ h
        simp only [value]
        rw [h1, h2, ih ds' h3])
    (fun ds' h => by
      cases ds' with
      | nil => rfl
      | cons d' ds' => cases h)
    (fun d ds ihd ihds ds' h => by
      cases ds' with
      | nil => cases h
      | cons d' ds' =>
        simp only [tbs, List.cons.injEq] at h
        simp only [values]
        rw [ihd d' h.1, ihds ds' h.2])
    t

/-- what makes the recorded state of one workspace trustworthy.  The directory state holds only a
Variant-Id, the result depends on the recipe part: `ρ` is the recipe part a Variant-Id stands for in
every project state of the history (`VidOK`; the Variant-Id determines it, C02). -/
structure InvLoc (E : Env) (ρ : Vid → RSig) (l : Loc) : Prop where
  /-- a workspace recorded as downloaded under `b` that has a result holds the result of a local build of a
  package with Build-Id `b` -/
  dl : ∀ b, l.inp = some (.downloaded b) → l.res ≠ none → ∃ t, tb E t = b ∧ l.disk = some (value E t)
  /-- a workspace recorded as built has a real result hash and holds what the package script of the recorded
  variant leaves for an input with the recorded hash -/
  built : ∀ b ins, l.inp = some (.built b ins) →
    (∃ h, l.res = some (.hash h)) ∧
    ∃ v c, l.dir = some v ∧ ins = [some (.hash (E.H c))] ∧ l.disk = some (E.semP (ρ v) c)

/-- what `_preparePackageStep` establishes -/
def Prep (i : PInfo) (l : Loc) : Prop :=
  l.dir = some i.vid ∧ (l.disk = none → l.inp = none ∧ l.res = none)

theorem invLoc_of_inp_none (E : Env) (ρ : Vid → RSig) (l : Loc) (h : l.inp = none) : InvLoc E ρ l :=
  ⟨fun b hb => (by rw [h] at hb; cases hb), fun b ins hb => (by rw [h] at hb; cases hb)⟩

theorem prep_block (E : Env) (ρ : Vid → RSig) (i : PInfo) (l : Loc) (h : InvLoc E ρ l) :
    InvLoc E ρ ((prepOps i l).foldl (locOp E) l) ∧ Prep i ((prepOps i l).foldl (locOp E) l) := by
  rcases prepOps_cases i l with ⟨_, e⟩ | ⟨_, e⟩ | ⟨hd, hv, e⟩ <;> rw [e]
  · exact ⟨invLoc_of_inp_none E ρ _ rfl, rfl, fun e => by cases e⟩
  · exact ⟨invLoc_of_inp_none E ρ _ rfl, rfl, fun _ => ⟨rfl, rfl⟩⟩
  · exact ⟨h, hv, fun e => absurd e hd⟩

theorem wasDownloaded_iff (inp : Option PkgInputs) :
    (dissect inp).wasDownloaded = true ↔ ∃ b, inp = some (.downloaded b) := by
  rcases inp with _ | _ | _ | _ | _ <;> simp [dissect]

/-- non-empty: `legacy` reads as the empty list -/
theorem oldInput_cons {inp : Option PkgInputs} {x : Option RH} {ins : List (Option RH)}
    (h : (dissect inp).oldInput = some (x :: ins)) : ∃ b, inp = some (.built b (x :: ins)) := by
  rcases inp with _ | _ | _ | _ | _ <;> simp [dissect] at h ⊢
  exact h

/-- what a download block that ends in workspace state `l` with outcome `o` guarantees -/
structure DlPost (E : Env) (ρ : Vid → RSig) (i : PInfo) (b : BuildId) (l : Loc) (o : DlOutcome) : Prop where
  inv : InvLoc E ρ l
  prep : Prep i l
  got : o = .downloaded → ∃ t, tb E t = b ∧ l.disk = some (value E t)

theorem dlFetch_block (E : Env) (ρ : Vid → RSig) (cfg : Cfg) (depth : Nat) (i : PInfo) (b : BuildId) (l : Loc)
    (x : Option Artifact) (hx : ∀ y, x = some y → Honest E b y ∨ Corrupt E y)
    (hI : InvLoc E ρ l) (hP : Prep i l) (hres : l.res = none) (hdisk : l.disk ≠ none) :
    DlPost E ρ i b ((dlFetchOps E cfg depth i b (fetch cfg x)).1.foldl (locOp E) l)
      (dlFetchOps E cfg depth i b (fetch cfg x)).2 := by
  -- nothing is recorded: whatever lands in the workspace, it keeps having no result
  have keep : ∀ (l' : Loc) (o : DlOutcome), l'.res = none → l'.inp = l.inp → l'.dir = l.dir → l'.disk ≠ none →
      o ≠ .downloaded → DlPost E ρ i b l' o := by
    intro l' o h1 h2 h3 h4 ho
    refine ⟨⟨fun _ _ hr => absurd h1 hr, fun b0 ins hb => ?_⟩, ⟨h3.trans hP.1, fun e => absurd e h4⟩, fun e => absurd e ho⟩
    obtain ⟨⟨h, hh⟩, _⟩ := hI.built b0 ins (h2 ▸ hb)
    rw [hres] at hh; cases hh
  cases hf : fetch cfg x with
  | notFound =>
    refine keep _ _ hres rfl rfl hdisk ?_
    dsimp only [dlFetchOps]
    split
    · exact nofun
    · split <;> exact nofun
  | failed => exact keep { l with disk := some E.junk, audit := none } _ hres rfl rfl nofun nofun
  | extracted c au =>
    cases au with
    | none => exact keep { l with disk := some c, audit := none } _ hres rfl rfl nofun nofun
    | some h =>
      by_cases hc : h = E.H c
      · -- verified: the entry cannot be corrupt, so it is honest
        subst hc
        obtain ⟨t0, ht0, hg⟩ : Honest E b (.good c (some (E.H c))) :=
          (hx _ (fetch_extracted hf)).resolve_right (fun hh => hh rfl)
        have hd : some c = some (value E t0) := congrArg some (Artifact.good.inj hg).1
        rw [dlFetchOps_good]
        exact ⟨⟨fun b0 hb0 _ => ⟨t0, ht0.trans (PkgInputs.downloaded.inj (Option.some.inj hb0)), hd⟩, fun _ _ hb0 => nomatch hb0⟩,
          ⟨hP.1, nofun⟩, fun _ => ⟨t0, ht0, hd⟩⟩
      · rw [dlFetchOps_bad hc]
        exact keep { l with disk := some c, audit := some h } _ hres rfl rfl nofun nofun

/-- **`_downloadPackage` keeps the workspace invariant**, and a reported download leaves the result of a local
build of a package with the requested Build-Id -/
theorem dl_block (E : Env) (ρ : Vid → RSig) (cfg : Cfg) (depth : Nat) (i : PInfo) (b : BuildId) (l : Loc)
    (x : Option Artifact) (hx : ∀ y, x = some y → Honest E b y ∨ Corrupt E y)
    (hI : InvLoc E ρ l) (hP : Prep i l) :
    DlPost E ρ i b ((dlOps E cfg depth i b l x).1.foldl (locOp E) l) (dlOps E cfg depth i b l x).2 := by
  cases ht : tryDownload cfg.dl depth i
  · rw [dlOps_skip ht]
    exact ⟨hI, hP, fun h => by cases h⟩
  cases hp : dlPrune cfg b (dissect l.inp)
  · cases hr : l.res with
    | none =>
      rw [dlOps_fetch ht hp hr, List.foldl_append, foldl_mkOps]
      refine dlFetch_block E ρ cfg depth i b _ x hx ?_ ⟨hP.1, fun e => by cases e⟩ hr (fun e => by cases e)
      cases hd : l.disk with
      | none => exact invLoc_of_inp_none E ρ _ (hP.2 hd).1
      | some c =>
        have e : ({ l with disk := some ((some c : Option Content).getD emptyC) } : Loc) = l := by
          cases l; cases hd; rfl
        rw [e]; exact hI
    | some r =>
      -- a workspace with a result exists on disk: nothing is done
      have hres : l.res ≠ none := fun e => by rw [hr] at e; cases e
      obtain ⟨c, hd⟩ := Option.ne_none_iff_exists'.mp (fun e => hres (hP.2 e).2)
      rw [dlOps_keep ht hp hr]
      simp only [mkOps, hd, Option.isNone_some, Bool.false_eq_true, if_false, List.foldl_nil]
      refine ⟨hI, hP, fun ho => ?_⟩
      have hwd : (dissect l.inp).wasDownloaded = true := by
        cases h : (dissect l.inp).wasDownloaded
        · rw [h] at ho; cases ho
        · rfl
      obtain ⟨b0, hi⟩ := (wasDownloaded_iff _).mp hwd
      obtain ⟨t0, h1, h2⟩ := hI.dl b0 hi hres
      refine ⟨t0, ?_, h2⟩
      simp only [hi, dlPrune, dissect, Bool.or_eq_false_iff, decide_eq_false_iff_not, ne_eq, Decidable.not_not] at hp
      rw [h1]; exact hp.1
  · -- the prune block leaves an empty workspace without recorded state
    rw [dlOps_prune ht hp]
    simp only [List.foldl_append, foldl_mkOps, List.foldl_cons, List.foldl_nil, locOp]
    exact dlFetch_block E ρ cfg depth i b _ x hx (invLoc_of_inp_none E ρ _ rfl) ⟨rfl, fun e => by cases e⟩ rfl
      (fun e => by cases e)

/-- **`_cookPackageStep` leaves the result of the package script on the current inputs**, whether it runs or
skips ("unchanged input") -/
theorem pkg_block (E : Env) (ρ : Vid → RSig) (hH : Function.Injective E.H) (cfg : Cfg) (i : PInfo) (b : BuildId)
    (depC : List Content) (tok : Nat) (l : Loc) (hI : InvLoc E ρ l) (hP : Prep i l) (hρ : ρ i.vid = i.rsig) :
    InvLoc E ρ ((pkgOps E cfg i b depC tok l).1.foldl (locOp E) l) ∧
    ((pkgOps E cfg i b depC tok l).1.foldl (locOp E) l).disk = some (E.semP i.rsig (E.semB i.rsig i.src depC)) ∧
    ((pkgOps E cfg i b depC tok l).2 = true →
      ((pkgOps E cfg i b depC tok l).1.foldl (locOp E) l).audit = some (E.H (E.semP i.rsig (E.semB i.rsig i.src depC)))) := by
  cases hs : pkgSkip E cfg i depC l
  · rw [pkgOps_run hs, List.foldl_append, foldl_mkOps]
    simp only [List.foldl_cons, List.foldl_nil, locOp]
    refine ⟨⟨?_, ?_⟩, ?_⟩
    · intro b0 hb0; cases hb0
    · intro b0 ins hb0
      simp only [Option.some.injEq, PkgInputs.built.injEq] at hb0
      refine ⟨⟨_, rfl⟩, i.vid, E.semB i.rsig i.src depC, hP.1, hb0.2.symm, ?_⟩
      rw [hρ]
    · simp
  · -- skipped (unchanged input): the recorded state says that this is what the workspace holds
    rw [pkgOps_skip hs]
    simp only [pkgSkip, Bool.and_eq_true, decide_eq_true_eq] at hs
    obtain ⟨b0, hi⟩ := oldInput_cons hs.2
    obtain ⟨_, v, c, hv, hins, hd⟩ := hI.built b0 _ hi
    have hvv : v = i.vid := Option.some.inj (hv.symm.trans hP.1)
    have hcc : E.semB i.rsig i.src depC = c := by
      simp only [List.cons.injEq, Option.some.injEq, RH.hash.injEq, and_true] at hins
      exact hH hins
    have hmk : mkOps i.path l = [] := by rw [mkOps, hd]; rfl
    rw [hmk]
    exact ⟨hI, by rw [hvv, hρ, ← hcc] at hd; exact hd, fun h => by cases h⟩

end Download
