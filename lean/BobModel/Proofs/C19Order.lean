import BobModel.Model.Retention
import BobModel.Proofs.CommonSort
/-
C19: what both the queue proofs and the index proofs rest on.  `strLe` (Python's `<=` on `str`) is a total order
on `List Char`.
-/
namespace Retention

theorem strLe_cons (a b : Char) (as bs : Str) :
    strLe (a :: as) (b :: bs) = true ↔ a.toNat < b.toNat ∨ (a = b ∧ strLe as bs = true) := by
  rw [strLe]
  by_cases h1 : a.toNat < b.toNat
  · simp only [h1, if_true, true_or]
  · by_cases h2 : a = b
    · subst h2
      simp only [h1, if_false, if_true, false_or, true_and]
    · simp only [h1, h2, if_false, false_or, false_and, Bool.false_eq_true]

/-- the comparison is the lexicographic order of core `List` on the code points -/
theorem strLe_iff : ∀ a b : Str, strLe a b = true ↔ a.map Char.toNat ≤ b.map Char.toNat :=
  SortKey.lexLe_iff (fun _ => rfl) (fun _ _ => rfl) fun a b as bs =>
    (strLe_cons a b as bs).trans (or_congr_right (and_congr_left' Char.toNat_inj.symm))

theorem strLe_refl (a : Str) : strLe a a = true :=
  SortKey.lex_refl strLe_iff a

theorem strLe_totalLe : SortKey.TotalLe strLe :=
  SortKey.lex_total strLe_iff

theorem strLe_total (a b : Str) : strLe a b = true ∨ strLe b a = true :=
  strLe_totalLe.total a b

theorem strLe_trans {a b c : Str} (h1 : strLe a b = true) (h2 : strLe b c = true) : strLe a c = true :=
  strLe_totalLe.trans h1 h2

theorem strLe_antisymm {a b : Str} (h1 : strLe a b = true) (h2 : strLe b a = true) : a = b :=
  SortKey.lex_antisymm strLe_iff Char.toNat_inj.mp h1 h2

end Retention
