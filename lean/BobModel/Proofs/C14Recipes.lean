import BobModel.Proofs.C14Closure
/-
C14: `Audit.setRecipesAudit` only rewrites the `recipes` and `layers` entries of the record; the debug
validation on load runs on a fresh object.
-/
namespace Audit
open Consts.C14

theorem dictGet_dictSet {α : Type} (d : List (Str × α)) (k k' : Str) (v : α) :
    dictGet (dictSet d k v) k' = if k' = k then some v else dictGet d k' := by
  fun_induction dictSet d k v <;> grind [dictGet]

theorem dictGet_dictDel {α : Type} (d : List (Str × α)) (k k' : Str) :
    dictGet (dictDel d k) k' = if k' = k then none else dictGet d k' := by
  induction d with
  | nil => simp [dictDel, dictGet]
  | cons p d ih =>
    unfold dictDel at ih ⊢
    grind [dictGet]

namespace Artifact

theorem setRecipes_get (a : Artifact) (r : Option Data) (k : Str) :
    dictGet (a.setRecipes r).other k = if k = "recipes".toList then r else dictGet a.other k := by
  cases r with
  | none => exact dictGet_dictDel _ _ _
  | some d => exact dictGet_dictSet _ _ _ _

theorem setLayers_get (a : Artifact) (l : List (Str × Data)) (k : Str) :
    dictGet (a.setLayers l).other k =
      if k = "layers".toList then (if l.isEmpty then none else some (.map l)) else dictGet a.other k := by
  unfold setLayers invalidate
  by_cases h : l.isEmpty = true
  · simp only [h, if_true]; exact dictGet_dictDel _ _ _
  · simp only [h]; exact dictGet_dictSet _ _ _ _

end Artifact

namespace Audit

/-- the layers `setRecipesAudit` stores: every entry but the one with the empty name, `None` kept as `None` -/
def layersOf (ra : List (Str × Option Data)) : List (Str × Data) :=
  (ra.filter fun p => p.1 ≠ []).map fun p => (p.1, p.2.getD .null)

theorem setRecipesAudit_references (a : Audit) (ra : List (Str × Option Data)) :
    (setRecipesAudit a ra).references = a.references := rfl

theorem setRecipesAudit_getReferences (a : Audit) (ra : List (Str × Option Data)) :
    (setRecipesAudit a ra).artifact.getReferences = a.artifact.getReferences := rfl

theorem setRecipesAudit_cachedId (a : Audit) (ra : List (Str × Option Data)) :
    (setRecipesAudit a ra).artifact.cachedId = none := rfl

theorem setRecipesAudit_get (a : Audit) (ra : List (Str × Option Data)) (k : Str) :
    dictGet (setRecipesAudit a ra).artifact.other k =
      if k = "layers".toList then (if (layersOf ra).isEmpty then none else some (.map (layersOf ra)))
      else if k = "recipes".toList then (dictGet ra []).bind id else dictGet a.artifact.other k := by
  unfold setRecipesAudit
  simp only
  rw [Artifact.setLayers_get, Artifact.setRecipes_get]
  rfl

theorem validate_create (fields : List (Str × Data)) : validate (create fields) = .ok := by
  simp [validate, create, Artifact.getReferences, setUnion, validateLoop]

theorem loadDebug_create (H : Bytes → Id) (fields : List (Str × Data)) (tree : Audit) :
    loadDebug H (create fields) tree = .ok (load H tree) := by
  simp [loadDebug, validate_create]

end Audit

end Audit
