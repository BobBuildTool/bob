import BobModel.Model.Share
import BobModel.Proofs.CommonSort
/-
C15, the pure part of `LocalShare.gc`: `sorted(candidates)` is a sorted permutation of the candidates, and the quota
loop removes a prefix of it.
-/
namespace Share

theorem Cand.le_iff (a b : Cand) : a.le b = true ↔
    a.unused.toNat < b.unused.toNat ∨ (a.unused.toNat = b.unused.toNat ∧ (a.time < b.time ∨ (a.time = b.time ∧
      (a.size < b.size ∨ (a.size = b.size ∧ a.bid ≤ b.bid))))) := by
  unfold Cand.le
  cases a.unused <;> cases b.unused <;> simp [Bool.toNat] <;>
    by_cases h1 : a.time = b.time <;> by_cases h2 : a.size = b.size <;> simp [h1, h2] <;> omega

theorem Cand.le_totalLe : SortKey.TotalLe Cand.le :=
  ⟨fun a b => by rw [Cand.le_iff, Cand.le_iff]; grind, fun h1 h2 => by rw [Cand.le_iff] at *; grind⟩

theorem sortCands_is : SortKey.IsSort Cand.le insertCand sortCands :=
  ⟨⟨fun _ => rfl, fun _ _ _ => rfl⟩, rfl, fun _ _ => rfl⟩

theorem sortCands_perm (l : List Cand) : (sortCands l).Perm l :=
  sortCands_is.perm l

theorem sortCands_sorted (l : List Cand) : (sortCands l).Pairwise (fun a b => a.le b = true) :=
  sortCands_is.sorted Cand.le_totalLe l

def sumCand (l : List Cand) : Nat := (l.map (·.size)).sum

theorem gcLoop_prefix (quota : Option Nat) (pun : Bool) (l : List Cand) (total : Nat) :
    ∃ rest, l = (gcLoop quota pun l total).1 ++ rest := by
  induction l generalizing total with
  | nil => exact ⟨[], by simp [gcLoop]⟩
  | cons c rest ih =>
    unfold gcLoop
    split
    · cases quota with
      | none => exact ⟨c :: rest, by simp⟩
      | some q =>
        simp only
        split
        · exact ⟨c :: rest, by simp⟩
        · obtain ⟨r, hr⟩ := ih (total - c.size)
          exact ⟨r, by simp; exact hr⟩
    · obtain ⟨r, hr⟩ := ih (total - c.size)
      exact ⟨r, by simp; exact hr⟩

theorem gcLoop_size (quota : Option Nat) (pun : Bool) (l : List Cand) (total : Nat) :
    (gcLoop quota pun l total).2.1 = total - sumCand (gcLoop quota pun l total).1 := by
  induction l generalizing total with
  | nil => simp [gcLoop, sumCand]
  | cons c rest ih =>
    unfold gcLoop
    split
    · cases quota with
      | none => simp [sumCand]
      | some q =>
        simp only
        split
        · simp [sumCand]
        · simp only [ih (total - c.size), sumCand, List.map_cons, List.sum_cons]; omega
    · simp only [ih (total - c.size), sumCand, List.map_cons, List.sum_cons]; omega

theorem gcLoop_noTypeError_quota (q : Nat) (pun : Bool) (l : List Cand) (total : Nat) :
    (gcLoop (some q) pun l total).2.2 = false := by
  induction l generalizing total with
  | nil => simp [gcLoop]
  | cons c rest ih =>
    unfold gcLoop
    split
    · simp only
      split
      · rfl
      · exact ih _
    · exact ih _

/-- `--all-unused` without `--used`: every candidate is unused, the loop removes all of them -/
theorem gcLoop_allUnused (quota : Option Nat) (l : List Cand) (total : Nat)
    (h : ∀ c ∈ l, c.unused = true) :
    (gcLoop quota true l total).1 = l ∧ (gcLoop quota true l total).2.2 = false := by
  induction l generalizing total with
  | nil => simp [gcLoop]
  | cons c rest ih =>
    have hc : c.unused = true := h c (by simp)
    have := ih (total - c.size) (fun d hd => h d (by simp [hd]))
    unfold gcLoop
    simp [hc, this.1, this.2]

/-- automatic / manual cleaning without `--all-unused`: the loop stops exactly when the quota is met.
`removed` is the SHORTEST prefix after which the recorded size is within the quota. -/
theorem gcLoop_quota (q : Nat) (l : List Cand) (total : Nat) :
    let r := (gcLoop (some q) false l total).1
    (∀ p, p <+: r → p ≠ r → total - sumCand p > q) ∧
    (total - sumCand r ≤ q ∨ r = l) := by
  induction l generalizing total with
  | nil =>
    refine ⟨fun p hp hne => ?_, Or.inr (by simp [gcLoop])⟩
    have : p = [] := List.prefix_nil.mp (by simpa [gcLoop] using hp)
    exact absurd this (by simpa [gcLoop] using hne)
  | cons c rest ih =>
    unfold gcLoop
    simp only [Bool.not_false, Bool.or_true, if_true]
    split
    · rename_i hle
      refine ⟨fun p hp hne => ?_, Or.inl (by simp [sumCand]; exact hle)⟩
      have : p = [] := List.prefix_nil.mp hp
      exact absurd this hne
    · rename_i hgt
      obtain ⟨ih1, ih2⟩ := ih (total - c.size)
      simp only at ih1 ih2 ⊢
      constructor
      · intro p hp hne
        cases p with
        | nil => simp [sumCand]; omega
        | cons x xs =>
          have hx := List.cons_prefix_cons.mp hp
          have h1 := ih1 xs hx.2 (by intro h; apply hne; rw [hx.1, h])
          simp only [sumCand, List.map_cons, List.sum_cons] at h1 ⊢
          rw [hx.1]; omega
      · rcases ih2 with h | h
        · left; simp only [sumCand, List.map_cons, List.sum_cons] at h ⊢; omega
        · right; rw [h]

theorem sorted_unused_time {l : List Cand} (hs : l.Pairwise (fun a b => a.le b = true))
    (hu : ∀ c ∈ l, c.unused = true) : l.Pairwise (fun a b => a.time ≤ b.time) := by
  induction l with
  | nil => simp
  | cons c rest ih =>
    have hc := List.pairwise_cons.mp hs
    refine List.pairwise_cons.mpr ⟨?_, ih hc.2 (fun d hd => hu d (by simp [hd]))⟩
    intro d hd
    have h := hc.1 d hd
    have u1 := hu c (by simp)
    have u2 := hu d (by simp [hd])
    unfold Cand.le at h
    simp [u1, u2] at h
    by_cases e : c.time = d.time
    · omega
    · simp [e] at h; omega

end Share
