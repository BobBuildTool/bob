import BobModel.Proofs.C07Loc
/-
C07: the steps a cook is composed of, as far as every proof about whole invocations needs them: what `Run.exec`
does to one workspace and to the archive, which parts of the bookkeeping `_getBuildId` and `_wasAlreadyRun` leave
alone, the package branch of `_cookStep` written with its prelude (`preDl`) as one step, and the induction over the
package tree for properties of runs that every step keeps (`CookRule`).
In names: `war` = `_wasAlreadyRun`, `sar` = `_setAlreadyRun`, `gb`/`gbs` = `getBuildId`/`getBuildIds`; the
fields of `CookRule` follow the package branch: `war`, `pre` (`preDl`), `dl` (`dlPhase`), `err` (its `BuildError`),
`sar`, `chk` (`checkSrc`), `fin` (`finishPkg`).
-/
namespace Download

section
variable {E : Env} {r : Run} {ops : List Op} {p : Path} (h : ∀ op ∈ ops, op.path = p ∧ op.isUpload = false)
include h

theorem exec_loc_same : (r.exec E ops).st.loc p = ops.foldl (locOp E) (r.st.loc p) :=
  (applyOps_frame E p ops (r.st, r.arch) fun op ho => (h op ho).1).1

theorem exec_loc_other {q : Path} (hq : q ≠ p) : (r.exec E ops).st.loc q = r.st.loc q :=
  (applyOps_frame E p ops (r.st, r.arch) fun op ho => (h op ho).1).2.1 q hq

theorem exec_arch : (r.exec E ops).arch = r.arch :=
  (applyOps_frame E p ops (r.st, r.arch) fun op ho => (h op ho).1).2.2 fun op ho => (h op ho).2

end

/-- the bookkeeping apart from the Build-Id cache -/
def MemFrame (m m' : Mem) : Prop := m'.fixed = m.fixed ∧ m'.wasRun = m.wasRun ∧ m'.tried = m.tried

theorem gbs_frame_of (E : Env) (ds : List Pkg) (h : ∀ d ∈ ds, ∀ m, MemFrame m (getBuildId E d m).2) :
    ∀ m, MemFrame m (getBuildIds E ds m).2 := by
  induction ds with
  | nil => exact fun m => ⟨rfl, rfl, rfl⟩
  | cons d ds ih =>
    intro m
    unfold getBuildIds
    obtain ⟨h1, h2, h3⟩ := ih (fun x hx => h x (List.mem_cons_of_mem _ hx)) (getBuildId E d m).2
    obtain ⟨k1, k2, k3⟩ := h d List.mem_cons_self m
    exact ⟨h1.trans k1, h2.trans k2, h3.trans k3⟩

theorem gb_frame (E : Env) (t : Pkg) : ∀ m, MemFrame m (getBuildId E t m).2 :=
  Pkg.rec (motive_1 := fun t => ∀ m, MemFrame m (getBuildId E t m).2)
    (motive_2 := fun ds => ∀ d ∈ ds, ∀ m, MemFrame m (getBuildId E d m).2)
    (fun i ds ih m => by
      unfold getBuildId
      cases m.bids i.path with
      | some b => exact ⟨rfl, rfl, rfl⟩
      | none => exact gbs_frame_of E ds ih m)
    (fun _ h => by cases h)
    (fun d ds hd hds x hx => by
      rcases List.mem_cons.mp hx with rfl | hx
      · exact hd
      · exact hds x hx)
    t

theorem gbs_frame (E : Env) (ds : List Pkg) : ∀ m, MemFrame m (getBuildIds E ds m).2 :=
  gbs_frame_of E ds (fun d _ => gb_frame E d)

theorem war_frame (i : PInfo) (r : Run) :
    ∃ w, (wasAlreadyRun i r).2 = { r with mem := { r.mem with wasRun := w } } := by
  unfold wasAlreadyRun
  split
  · exact ⟨_, rfl⟩
  · split <;> exact ⟨_, rfl⟩

theorem checkSrc_cases (i : PInfo) (r : Run) :
    (srcNow r.mem i = i.src ∧ checkSrc i r = none) ∨
    (srcNow r.mem i ≠ i.src ∧
      checkSrc i r = some { r with mem := handleChangedBuildId i r.mem, log := r.log ++ [.mispredict i.path] }) := by
  unfold checkSrc
  by_cases h : srcNow r.mem i = i.src
  · exact Or.inl ⟨h, by simp [h]⟩
  · exact Or.inr ⟨h, by simp [h]⟩

/-- the ways through the download phase: tried before; `_downloadPackage` raises; otherwise its outcome, and the
package counts as tried -/
theorem dlPhase_cases (E : Env) (cfg : Cfg) (depth : Nat) (i : PInfo) (b : BuildId) (r : Run) :
    let d := dlOps E cfg depth i b (r.st.loc i.path) (r.arch b)
    (r.mem.tried i.path = true ∧ dlPhase E cfg depth i b r = (.no, r)) ∨
    (r.mem.tried i.path = false ∧ d.2 = .error ∧ dlPhase E cfg depth i b r = (.error, r.exec E d.1)) ∨
    (r.mem.tried i.path = false ∧ d.2 ≠ .error ∧ dlPhase E cfg depth i b r = (d.2, setTried i (r.exec E d.1))) := by
  unfold dlPhase
  cases ht : r.mem.tried i.path
  · right
    simp only [Bool.false_eq_true, if_false, true_and]
    generalize dlOps E cfg depth i b (r.st.loc i.path) (r.arch b) = d
    obtain ⟨ops, o⟩ := d
    cases o
    · exact Or.inr ⟨(fun h => nomatch h), rfl⟩
    · exact Or.inr ⟨(fun h => nomatch h), rfl⟩
    · exact Or.inl ⟨rfl, rfl⟩
  · exact Or.inl ⟨rfl, rfl⟩

theorem dlPhase_ind {E : Env} {cfg : Cfg} {depth : Nat} {i : PInfo} {b : BuildId} {r : Run} {P : Run → Prop} (h0 : P r)
    (hdl : P (r.exec E (dlOps E cfg depth i b (r.st.loc i.path) (r.arch b)).1)) (htr : ∀ r1, P r1 → P (setTried i r1)) :
    P (dlPhase E cfg depth i b r).2 := by
  rcases dlPhase_cases E cfg depth i b r with ⟨_, e⟩ | ⟨_, _, e⟩ | ⟨_, _, e⟩ <;> rw [e]
  · exact h0
  · exact hdl
  · exact htr _ hdl

/-- the ways through the end of the package branch: run before; built; built and uploaded -/
theorem finish_cases (E : Env) (cfg : Cfg) (depth : Nat) (i : PInfo) (ds : List Pkg) (b : BuildId) (r : Run) :
    let r0 := (wasAlreadyRun i r).2
    let r1 := setAlreadyRun i (r0.exec E (pkgOps E cfg i b (contentsOf r0.st ds) r0.log.length (r0.st.loc i.path)).1)
    finishPkg E cfg depth i ds b r = .ok r0 ∨ finishPkg E cfg depth i ds b r = .ok r1 ∨
      finishPkg E cfg depth i ds b r = .ok (r1.exec E [.upload i.path b]) := by
  unfold finishPkg
  simp only
  split
  · exact Or.inl rfl
  · split
    · exact Or.inr (Or.inr rfl)
    · exact Or.inr (Or.inl rfl)

theorem finish_ind {E : Env} {cfg : Cfg} {depth : Nat} {i : PInfo} {ds : List Pkg} {b : BuildId} {r : Run} {P : Run → Prop}
    (h0 : P (wasAlreadyRun i r).2)
    (hpk : ∀ r0 depC tok, P r0 → P (setAlreadyRun i (r0.exec E (pkgOps E cfg i b depC tok (r0.st.loc i.path)).1)))
    (hup : ∀ r1, P r1 → P (r1.exec E [.upload i.path b])) : P (finishPkg E cfg depth i ds b r).run := by
  rcases finish_cases E cfg depth i ds b r with e | e | e <;> rw [e]
  · exact h0
  · exact hpk _ _ _ h0
  · exact hup _ (hpk _ _ _ h0)

theorem finish_ok (E : Env) (cfg : Cfg) (depth : Nat) (i : PInfo) (ds : List Pkg) (b : BuildId) (r : Run) :
    finishPkg E cfg depth i ds b r = .ok (finishPkg E cfg depth i ds b r).run := by
  rcases finish_cases E cfg depth i ds b r with e | e | e <;> rw [e] <;> rfl

/-- `_preparePackageStep` and the Build-Id of the expected artifact: what precedes the download phase -/
def preDl (E : Env) (i : PInfo) (deps : List Pkg) (r : Run) : BuildId × Run :=
  let r1 := r.exec E (prepOps i (r.st.loc i.path))
  let bm := getBuildId E (.mk i deps) r1.mem
  (bm.1, { r1 with mem := bm.2 })

theorem cookPkg_done {E : Env} {cfg : Cfg} {depth : Nat} {i : PInfo} {deps : List Pkg} {r r0 : Run}
    (hw : wasAlreadyRun i r = (true, r0)) : cookPkg E cfg depth (.mk i deps) r = .ok r0 := by
  rw [cookPkg, hw]
  rfl

theorem cookPkg_go {E : Env} {cfg : Cfg} {depth : Nat} {i : PInfo} {deps : List Pkg} {r r0 : Run}
    (hw : wasAlreadyRun i r = (false, r0)) {pb : BuildId × Run} (hpb : preDl E i deps r0 = pb)
    {d : DlOutcome × Run} (hd : dlPhase E cfg depth i pb.1 pb.2 = d) :
    cookPkg E cfg depth (.mk i deps) r =
      match d.1 with
      | .error => .abort d.2
      | .downloaded => .ok (setAlreadyRun i d.2)
      | .no =>
        match checkSrc i d.2 with
        | some r5 => .restart r5
        | none =>
          match cookList E cfg (depth + 2) deps d.2 with
          | .ok r5 => finishPkg E cfg depth i deps pb.1 r5
          | x => x := by
  subst hpb hd
  rw [cookPkg, hw]
  rfl

theorem self_mem_nodes (t : Pkg) : t ∈ nodes t := by
  cases t with
  | mk i ds => simp [nodes]

/-! For a property `P` of runs that every step of the package branch keeps, it is enough to say so step by step:
`CookRule` lists the steps, `CookRule.cookPkg` is the induction over the package tree. -/

/-- `P` holds of the run a cook hands on, `A` of the run a `BuildError` leaves behind, `S` of the run a restart
starts from -/
def Res.Sat (P A S : Run → Prop) : Res → Prop
  | .ok r => P r
  | .abort r => A r
  | .restart r => S r

theorem Res.Sat.imp {P P' A S : Run → Prop} {x : Res} (hx : x.Sat P A S) (h : ∀ r, P r → P' r) : x.Sat P' A S := by
  cases x with
  | ok r => exact h r hx
  | abort r => exact hx
  | restart r => exact hx

theorem Res.Sat.bind {P Q A S : Run → Prop} {x : Res} {f : Run → Res} (hx : x.Sat P A S)
    (hf : ∀ r, P r → (f r).Sat Q A S) :
    (match x with
      | .ok r => f r
      | y => y).Sat Q A S := by
  cases x with
  | ok r => exact hf r hx
  | abort r => exact hx
  | restart r => exact hx

structure CookRule (E : Env) (cfg : Cfg) (N : List Pkg) (P A S : Run → Prop) : Prop where
  war : ∀ i r, P r → P (wasAlreadyRun i r).2
  pre : ∀ i ds r, P r → P (preDl E i ds r).2
  dl : ∀ depth i b r, P r → P (dlPhase E cfg depth i b r).2
  /-- a `BuildError` can only come out of the download phase -/
  err : ∀ r, P r → A r
  sar : ∀ i r, P r → P (setAlreadyRun i r)
  /-- only a package of `N` restarts the build -/
  chk : ∀ i ds r r5, Pkg.mk i ds ∈ N → P r → checkSrc i r = some r5 → S r5
  fin : ∀ depth i ds b r, P r → P (finishPkg E cfg depth i ds b r).run

section
variable {E : Env} {cfg : Cfg} {N : List Pkg} {P A S : Run → Prop} (h : CookRule E cfg N P A S)
include h

theorem CookRule.mk_case (i : PInfo) (ds : List Pkg) (hN : Pkg.mk i ds ∈ N)
    (ih : ∀ depth r, P r → (cookList E cfg depth ds r).Sat P A S) (depth : Nat) (r : Run) (hr : P r) :
    (cookPkg E cfg depth (.mk i ds) r).Sat P A S := by
  have h0 := h.war i r hr
  rcases hw : wasAlreadyRun i r with ⟨_ | _, r0⟩ <;> rw [hw] at h0
  · have h1 := h.pre i ds r0 h0
    rw [cookPkg_go hw rfl rfl]
    generalize preDl E i ds r0 = pb at h1 ⊢
    have h3 := h.dl depth i pb.1 pb.2 h1
    generalize dlPhase E cfg depth i pb.1 pb.2 = d at h3 ⊢
    obtain ⟨o, r3⟩ := d
    cases o
    · dsimp only
      cases hcs : checkSrc i r3 with
      | some r5 => exact h.chk i ds r3 r5 hN h3 hcs
      | none =>
        refine Res.Sat.bind (ih (depth + 2) r3 h3) fun r5 h5 => ?_
        rw [finish_ok]
        exact h.fin depth i ds pb.1 r5 h5
    · exact h.sar i r3 h3
    · exact h.err r3 h3
  · rw [cookPkg_done hw]
    exact h0

omit h in
theorem Res.Sat.cons {d : Pkg} {ds : List Pkg} (hd : ∀ depth r, P r → (cookPkg E cfg depth d r).Sat P A S)
    (hds : ∀ depth r, P r → (cookList E cfg depth ds r).Sat P A S) (depth : Nat) (r : Run) (hr : P r) :
    (cookList E cfg depth (d :: ds) r).Sat P A S := by
  rw [cookList]
  exact (hd depth r hr).bind (hds depth)

theorem CookRule.cookPkg (t : Pkg) : (∀ u ∈ nodes t, u ∈ N) → ∀ depth r, P r → (cookPkg E cfg depth t r).Sat P A S :=
  Pkg.rec (motive_1 := fun t => (∀ u ∈ nodes t, u ∈ N) → ∀ depth r, P r → (Download.cookPkg E cfg depth t r).Sat P A S)
    (motive_2 := fun ds => (∀ u ∈ nodesL ds, u ∈ N) → ∀ depth r, P r → (cookList E cfg depth ds r).Sat P A S)
    (fun i ds ih hsub => h.mk_case i ds (hsub _ (self_mem_nodes _)) (ih fun u hu => hsub u (by simp [nodes, hu])))
    (fun _ _ _ hr => hr)
    (fun d ds hd hds hsub => Res.Sat.cons (hd fun u hu => hsub u (by simp [nodesL, hu]))
      (hds fun u hu => hsub u (by simp [nodesL, hu])))
    t

end

end Download
