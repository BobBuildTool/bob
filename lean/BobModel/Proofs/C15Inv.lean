import BobModel.Proofs.C15Basic
/-
C15: induction over runs (`run_inv`, `step_procs_inv`), the lock invariant `Mutex`, and the invariants behind the
property theorems: whatever is at a final path is complete (`InvVC`), and the ghost counters count the successful
renames (`CountInv`, `PubCount`).
-/
namespace Share

theorem othersAny_false {f : Pc → Bool} {procs : List Proc} {p : Pid} :
    othersAny f procs p = false ↔ ∀ j q, procs[j]? = some q → j ≠ p → f q.pc = false := by
  unfold othersAny
  rw [List.any_eq_false]
  constructor
  · intro h j q hq hj
    have := h (q, j) (List.mem_zipIdx_iff_getElem?.mpr hq)
    simp only [Bool.and_eq_true, bne_iff_ne, ne_eq, not_and] at this
    have := this hj
    simpa using this
  · intro h x hx
    have hq := List.mem_zipIdx_iff_getElem?.mp hx
    simp only [Bool.and_eq_true, bne_iff_ne, ne_eq, not_and]
    intro hj
    have := h x.2 x.1 hq hj
    simp [this]

theorem othersAny_true_of {f : Pc → Bool} {procs : List Proc} {p j : Nat} {q : Proc}
    (hq : procs[j]? = some q) (hj : j ≠ p) (hf : f q.pc = true) : othersAny f procs p = true := by
  cases hc : othersAny f procs p with
  | true => rfl
  | false =>
    have := othersAny_false.mp hc j q hq hj
    rw [hf] at this; cases this

theorem step_cases (H : Nat → Nat) (cfg : Cfg) (s : St) (p : Pid) :
    (s.procs[p]? = none ∧ step H cfg s p = s) ∨
    (∃ pr, s.procs[p]? = some pr ∧
      step H cfg s p =
        { g := (stepPc H cfg pr.prog (othersAny Pc.holdsEX s.procs p) (othersAny Pc.holdsSH s.procs p) s.g pr.pc).1,
          procs := s.procs.set p
            { pr with pc := (stepPc H cfg pr.prog (othersAny Pc.holdsEX s.procs p) (othersAny Pc.holdsSH s.procs p) s.g pr.pc).2,
                      pub := pr.pub || isPublish s.g pr.prog pr.pc } }) := by
  unfold step
  cases h : s.procs[p]? with
  | none => left; simp
  | some pr => right; exact ⟨pr, rfl, rfl⟩

theorem run_inv {P : St → Prop} (H : Nat → Nat) (cfg : Cfg) (hstep : ∀ s p, P s → P (step H cfg s p))
    (init : St) (h0 : P init) (sched : List Pid) : P (run H cfg init sched) := by
  induction sched generalizing init with
  | nil => exact h0
  | cons p rest ih => exact ih _ (hstep _ _ h0)

def Mutex (s : St) : Prop :=
  ∀ (i j : Nat) (pi pj : Proc), s.procs[i]? = some pi → s.procs[j]? = some pj → pi.pc.holdsEX = true →
    (pj.pc.holdsEX = true ∨ pj.pc.holdsSH = true) → i = j

theorem Pc.not_EX_and_SH (pc : Pc) : pc.holdsEX = true → pc.holdsSH = true → False := by
  cases pc <;> simp [Pc.holdsEX, Pc.holdsSH]

theorem getElem?_set_cases {α : Type} {l : List α} {i j : Nat} {a x : α} (h : (l.set i a)[j]? = some x) :
    (j = i ∧ x = a ∧ i < l.length) ∨ (j ≠ i ∧ l[j]? = some x) := by
  rw [List.getElem?_set] at h
  by_cases e : i = j
  · subst e
    simp only [if_true] at h
    split at h
    · left; exact ⟨rfl, by simpa using h.symm, by assumption⟩
    · cases h
  · right; simp [e] at h; exact ⟨fun h' => e h'.symm, h⟩

theorem set_get_self {α : Type} {l : List α} {p : Nat} {x a : α} (h : l[p]? = some x) : (l.set p a)[p]? = some a :=
  List.getElem?_set_self (List.getElem?_eq_some_iff.1 h).1

theorem forall_set {Q : Proc → Prop} {l : List Proc} {p : Nat} {a : Proc}
    (h : ∀ (i : Nat) (pi : Proc), l[i]? = some pi → Q pi) (ha : Q a) :
    ∀ (i : Nat) (pi : Proc), (l.set p a)[i]? = some pi → Q pi := by
  intro i pi hi
  rcases getElem?_set_cases hi with ⟨rfl, rfl, _⟩ | ⟨_, hi'⟩
  · exact ha
  · exact h i pi hi'

theorem step_procs_inv {Q : Proc → Prop} (H : Nat → Nat) (cfg : Cfg)
    (hstep : ∀ (g : Store) (pr : Proc) (exO shO : Bool), Q pr →
      Q { pr with pc := (stepPc H cfg pr.prog exO shO g pr.pc).2, pub := pr.pub || isPublish g pr.prog pr.pc })
    (s : St) (p : Pid) (h : ∀ (i : Nat) (pi : Proc), s.procs[i]? = some pi → Q pi) :
    ∀ (i : Nat) (pi : Proc), (step H cfg s p).procs[i]? = some pi → Q pi := by
  rcases step_cases H cfg s p with ⟨_, e⟩ | ⟨pr, hpr, e⟩
  · rw [e]; exact h
  · rw [e]; exact forall_set h (hstep _ pr _ _ (h p pr hpr))

theorem mutex_step (H : Nat → Nat) (cfg : Cfg) (s : St) (p : Pid) (hm : Mutex s) : Mutex (step H cfg s p) := by
  rcases step_cases H cfg s p with ⟨_, h⟩ | ⟨pr, hpr, h⟩
  · rw [h]; exact hm
  · rw [h]
    intro i j pi pj hi hj hex hj2
    simp only at hi hj
    rcases getElem?_set_cases hi with ⟨rfl, rfl, _⟩ | ⟨hip, hi'⟩ <;>
      rcases getElem?_set_cases hj with ⟨rfl, rfl, _⟩ | ⟨hjp, hj'⟩
    · rfl
    · -- p enters / stays in EX, j is another process holding a lock
      exfalso
      cases hold : pr.pc.holdsEX with
      | true => exact hjp (hm i j pr pj hpr hj' hold hj2).symm
      | false =>
        have hne : pr.pc = .gLock → (othersAny Pc.holdsEX s.procs i || othersAny Pc.holdsSH s.procs i) = true := by
          intro _
          rcases hj2 with h2 | h2
          · simp [othersAny_true_of hj' hjp h2]
          · simp [othersAny_true_of hj' hjp h2]
        have := stepPc_notEX H cfg pr.prog (othersAny Pc.holdsEX s.procs i) (othersAny Pc.holdsSH s.procs i) s.g pr.pc hold hne
        simp only at hex
        rw [this] at hex; cases hex
    · -- i is another process in EX, p enters / stays in a locked section
      exfalso
      simp only at hj2
      have hiEX : othersAny Pc.holdsEX s.procs j = true := othersAny_true_of hi' hip hex
      rcases hj2 with h2 | h2
      · cases hold : pr.pc.holdsEX with
        | true => exact hip (hm i j pi pr hi' hpr hex (Or.inl hold))
        | false =>
          have := stepPc_notEX H cfg pr.prog (othersAny Pc.holdsEX s.procs j) (othersAny Pc.holdsSH s.procs j) s.g pr.pc hold (fun _ => by simp [hiEX])
          rw [this] at h2; cases h2
      · cases hold : pr.pc.holdsSH with
        | true => exact hip (hm i j pi pr hi' hpr hex (Or.inr hold))
        | false =>
          have := stepPc_notSH H cfg pr.prog (othersAny Pc.holdsEX s.procs j) (othersAny Pc.holdsSH s.procs j) s.g pr.pc hold (fun _ => hiEX)
          rw [this] at h2; cases h2
    · exact hm i j pi pj hi' hj' hex hj2

/-- `info` is `torn` while a `use` of the code without flush-before-unlock rewrites `pkg.json` -/
def Complete (H : Nat → Nat) (d : PkgDir) : Prop :=
  d.audit = true ∧ ∃ c, d.ws = some c ∧ (d.info = some .torn ∨ ∃ m, d.info = some (.valid m) ∧ m.hash = H c)

/-- what a process owes to `Complete` for what it carries -/
def PcComplete (H : Nat → Nat) (g : Store) (prog : Prog) : Pc → Prop
  | .iRename tmp => Complete H tmp
  | .uClosePkg (some m') _ => ∃ d c, g.final (opBid prog) = some d ∧ d.ws = some c ∧ m'.hash = H c
  | _ => True

/-- the invariant behind `visible_complete` (VC).  `mutex` is part of it because the buffered `pkg.json` text of a `use`
refers to the directory at the final path: a gc must not move it in between, and cannot, the `use` holds the shared lock. -/
structure InvVC (H : Nat → Nat) (s : St) : Prop where
  store : ∀ b d, s.g.final b = some d → Complete H d
  pcs : ∀ (i : Nat) (pi : Proc), s.procs[i]? = some pi → PcComplete H s.g pi.prog pi.pc
  mutex : Mutex s

/-- the obligation is empty wherever a segment can go without preparing a directory or a `pkg.json` text -/
theorem pcComplete_of_exit_or_inGc {H : Nat → Nat} {g : Store} {prog : Prog} {pc : Pc}
    (h : pc.isExit = true ∨ pc.inGc = true) : PcComplete H g prog pc := by
  cases pc
  case iRename | uClosePkg => rcases h with h | h <;> cases h
  all_goals trivial

theorem stepPc_pcComplete (H : Nat → Nat) (cfg : Cfg) (prog : Prog) (exO shO : Bool) (g : Store) (pc : Pc)
    (hs : ∀ b d, g.final b = some d → Complete H d) (hpc : PcComplete H g prog pc) :
    PcComplete H (stepPc H cfg prog exO shO g pc).1 prog (stepPc H cfg prog exO shO g pc).2 := by
  by_cases h1 : pc = .iVerify
  · subst h1
    unfold stepPc; simp only
    split
    · split
      · trivial
      · rename_i hh
        refine ⟨rfl, _, rfl, Or.inr ⟨_, rfl, ?_⟩⟩
        simp at hh; exact hh.symm
    · trivial
  by_cases h2 : pc = .uLockPkg
  · subst h2
    unfold stepPc; simp only
    cases hf : g.final (opBid prog) with
    | none => trivial
    | some d =>
      simp only
      cases hi : d.info with
      | none => trivial
      | some j =>
        cases j with
        | torn => trivial
        | valid m =>
          simp only
          split
          · trivial
          · split
            · trivial
            · obtain ⟨_, c, hc, hinfo⟩ := hs _ _ hf
              refine ⟨{ d with info := some .torn, mtime := g.clock }, c, ?_, hc, ?_⟩
              · simp [setMeta_final, hf]
              · rcases hinfo with h | ⟨m0, h, hh⟩
                · rw [hi] at h; cases h
                · rw [hi] at h; cases h; exact hh
  -- every other segment stays where it is or goes where nothing is owed
  have hf := stepPc_flow H cfg prog exO shO g pc
  generalize (stepPc H cfg prog exO shO g pc).2 = pc' at hf
  generalize (stepPc H cfg prog exO shO g pc).1 = g' at hf
  cases hf
  case stay => exact hpc
  case exit h _ => exact pcComplete_of_exit_or_inGc (.inl h)
  case gcLocked h => exact pcComplete_of_exit_or_inGc (.inr h)
  case gcGoes h => exact pcComplete_of_exit_or_inGc (.inr h)
  case verified => exact absurd rfl h1
  case useClose => exact absurd rfl h2
  all_goals trivial

theorem complete_of_final (H : Nat → Nat) (cfg : Cfg) (prog : Prog) (exO shO : Bool) (g : Store) (pc : Pc)
    (hs : ∀ b d, g.final b = some d → Complete H d) (hpc : PcComplete H g prog pc) (b : Bid) (d' : PkgDir)
    (h : (stepPc H cfg prog exO shO g pc).1.final b = some d') : Complete H d' := by
  rcases stepPc_final H cfg prog exO shO g pc b with hsame | ⟨tmp, rfl, _, _, hnew⟩ | ⟨_, _, _, _, _, _, _, _, _, hnone⟩ |
      ⟨d, info, mt, hb, hold, hnew, hok⟩
  · rw [hsame] at h; exact hs b d' h
  · rw [hnew] at h; cases h; exact hpc
  · rw [hnone] at h; cases h
  · rw [hnew] at h; cases h
    obtain ⟨ha, c, hc, hinfo⟩ := hs b d hold
    refine ⟨ha, c, hc, ?_⟩
    rcases hok with ⟨_, hi | ⟨hi, _⟩ | ⟨m, m', hdi, hi, hh, _⟩⟩ | ⟨m', r, rfl, hi⟩
    · simp only [hi]; exact hinfo
    · left; exact hi
    · right
      refine ⟨m', hi, ?_⟩
      rcases hinfo with h0 | ⟨m0, h0, hh0⟩
      · rw [hdi] at h0; cases h0
      · rw [hdi] at h0; cases h0; rw [hh]; exact hh0
    · right
      refine ⟨m', hi, ?_⟩
      obtain ⟨d0, c0, hd0, hc0, hh⟩ := hpc
      rw [← hb, hold] at hd0; cases hd0
      rw [hc] at hc0; cases hc0; exact hh

theorem invVC_step (H : Nat → Nat) (cfg : Cfg) (s : St) (p : Pid) (inv : InvVC H s) : InvVC H (step H cfg s p) := by
  have hmx := mutex_step H cfg s p inv.mutex
  rcases step_cases H cfg s p with ⟨_, h⟩ | ⟨pr, hpr, h⟩
  · rw [h]; exact inv
  · rw [h] at hmx ⊢
    have hpcp := inv.pcs p pr hpr
    refine ⟨?_, ?_, hmx⟩
    · intro b d' hd'
      exact complete_of_final H cfg pr.prog _ _ s.g pr.pc inv.store hpcp b d' hd'
    · intro i pi hi
      simp only at hi ⊢
      rcases getElem?_set_cases hi with ⟨rfl, rfl, _⟩ | ⟨hip, hi'⟩
      · exact stepPc_pcComplete H cfg pr.prog _ _ s.g pr.pc inv.store hpcp
      · have hold := inv.pcs i pi hi'
        cases hq : pi.pc with
        | iRename tmp => rw [hq] at hold; exact hold
        | uClosePkg pend r =>
          cases pend with
          | none => trivial
          | some m' =>
            rw [hq] at hold
            obtain ⟨d, c, hd, hc, hh⟩ := hold
            rcases stepPc_final H cfg pr.prog (othersAny Pc.holdsEX s.procs p) (othersAny Pc.holdsSH s.procs p) s.g pr.pc
                (opBid pi.prog) with hsame | ⟨tmp, _, _, hnone, _⟩ | ⟨rm, cc, rest, t, dd, te, hpcm, _, _, _⟩ |
                ⟨d0, info, mt, _, hold0, hnew, _⟩
            · exact ⟨d, c, by rw [hsame]; exact hd, hc, hh⟩
            · rw [hd] at hnone; cases hnone
            · exfalso
              have := inv.mutex p i pr pi hpr hi' (by rw [hpcm]; rfl) (Or.inr (by rw [hq]; rfl))
              exact hip this.symm
            · rw [hd] at hold0; cases hold0
              exact ⟨_, c, hnew, hc, hh⟩
        | _ => trivial

def present (o : Option PkgDir) : Nat := if o.isSome then 1 else 0
@[simp] theorem present_none : present none = 0 := rfl
@[simp] theorem present_some (d : PkgDir) : present (some d) = 1 := rfl

theorem setMeta_present (g : Store) (b : Bid) (m : JFile Meta) (b' : Bid) :
    present ((setMeta g b m).final b') = present (g.final b') := by
  rw [setMeta_final]
  by_cases e : b' = b
  · subst e; cases g.final b' <;> simp
  · simp [e]

theorem touch_present (g : Store) (b : Bid) (b' : Bid) :
    present ((touch g b).final b') = present (g.final b') := by
  rw [touch_final]
  by_cases e : b' = b
  · subst e; cases g.final b' <;> simp
  · simp [e]

/-- successful renames = collections + (1 if the package is at its final path) -/
def CountInv (g : Store) : Prop :=
  ∀ b, g.nInst b = g.nGc b + present (g.final b)

theorem stepPc_countInv (H : Nat → Nat) (cfg : Cfg) (prog : Prog) (exO shO : Bool) (g : Store) (pc : Pc)
    (h : CountInv g) : CountInv (stepPc H cfg prog exO shO g pc).1 := by
  have hw := stepPc_writes H cfg prog exO shO g pc
  generalize (stepPc H cfg prog exO shO g pc).1 = g' at hw ⊢
  intro b
  have := h b
  cases hw
  case keeps h1 h2 h3 _ => rw [h1, h2, h3]; exact this
  case repo h1 h2 h3 _ => rw [h1, h2, h3]; exact this
  case pkgMeta hf _ h1 h2 h3 _ =>
    rw [h1, h2, h3]
    by_cases e : b = opBid prog
    · subst e; simpa [upd, hf] using this
    · simpa [upd, e] using this
  case publish hn h1 h2 h3 _ =>
    rw [h1, h2, h3]
    by_cases e : b = opBid prog
    · subst e; simp [upd, hn] at this ⊢; omega
    · simpa [upd, e] using this
  case collect c _ _ _ _ _ hf h1 h2 h3 _ =>
    rw [h1, h2, h3]
    by_cases e : b = c.bid
    · subst e; simp [upd, hf] at this ⊢; omega
    · simpa [upd, e] using this

theorem countInv_step (H : Nat → Nat) (cfg : Cfg) (s : St) (p : Pid) (h : CountInv s.g) : CountInv (step H cfg s p).g := by
  rcases step_cases H cfg s p with ⟨_, e⟩ | ⟨pr, _, e⟩
  · rw [e]; exact h
  · rw [e]; exact stepPc_countInv H cfg pr.prog _ _ s.g pr.pc h

/-- the ghost flag `pub` (own rename succeeded) as a function of the program counter -/
def PubOk (prog : Prog) (pub : Bool) : Pc → Prop
  | .start | .iVerify | .iRename _ => pub = false
  | .iAddOpen | .iAddTouch | .iAddLock | .iAddCreate | .iAddCreateLock | .iAddClose .. => pub = true
  | .gOpen | .gLock | .gScanOpen .. | .gScanLock .. | .gMove .. => isInstall prog = true → pub = true
  | .gClose _ r => r.isInst = false ∧ (isInstall prog = true → pub = true)
  | .uClosePkg _ r => r.isInst = false
  | .done (.inst b) => pub = b
  | _ => True

theorem PubOk.held {prog : Prog} {pub b : Bool} {pc : Pc} (h : PubOk prog pub pc) (hr : pc.res = some (.inst b)) :
    pub = b := by
  cases pc
  case done => cases hr; exact h
  case uClosePkg => cases hr; cases h
  case gClose => cases hr; cases h.1
  all_goals cases hr

theorem pubOk_of_exit {prog : Prog} {pub : Bool} {pc : Pc} (he : pc.isExit = true)
    (hd : ∀ b, pc = .done (.inst b) → pub = b) : PubOk prog pub pc := by
  cases pc
  case done r =>
    cases r
    case inst b => exact hd b rfl
    all_goals trivial
  case bUnlink | bSymlink | uOpen => trivial
  all_goals cases he

theorem pubOk_of_inGc {prog : Prog} {pub : Bool} {pc : Pc} (hp : isInstall prog = true → pub = true)
    (h : pc.inGc = true) : PubOk prog pub pc := by
  cases pc
  case gScanOpen | gScanLock | gMove => exact hp
  case gClose p r => exact ⟨by simpa [Pc.inGc] using h, hp⟩
  all_goals cases h

theorem isPublish_true {g : Store} {prog : Prog} {pc : Pc} (h : isPublish g prog pc = true) :
    ∃ tmp, pc = .iRename tmp ∧ g.final (opBid prog) = none := by
  cases pc
  case iRename tmp => exact ⟨tmp, rfl, Option.isNone_iff_eq_none.mp h⟩
  all_goals cases h

theorem stepPc_pubOk (H : Nat → Nat) (cfg : Cfg) (prog : Prog) (exO shO : Bool) (g : Store) (pc : Pc) (pub : Bool)
    (h : PubOk prog pub pc) :
    PubOk prog (pub || isPublish g prog pc) (stepPc H cfg prog exO shO g pc).2 := by
  by_cases hp : isPublish g prog pc = true
  · obtain ⟨tmp, rfl, hn⟩ := isPublish_true hp
    rw [stepPc_iRename_none H cfg prog exO shO g tmp hn, hp]
    exact Bool.or_true pub
  rw [Bool.eq_false_iff.mpr hp, Bool.or_false]
  have hf := stepPc_flow H cfg prog exO shO g pc
  generalize (stepPc H cfg prog exO shO g pc).2 = pc' at hf ⊢
  generalize (stepPc H cfg prog exO shO g pc).1 = g' at hf
  cases hf
  case stay => exact h
  case exit he hr =>
    -- an install result is `false` before the own rename and `true` after it
    refine pubOk_of_exit he fun b hb => ?_
    cases hr _ hb
    case held hres => exact h.held hres
    case quiet hq _ => cases hq
    case cleaned hi => exact h.2 hi
    case lostStart | lostRename | added => exact h
  case gcOpen hw _ =>
    intro hi
    obtain ⟨p, t, f, rfl⟩ := hw hi
    exact h
  case useLock | useLocked | usePkg => trivial
  case useClose hr => exact hr
  case published hn => exact absurd (by simp [isPublish, hn]) hp
  case gcLocked hg => exact pubOk_of_inGc h hg
  case gcGoes hex hg => cases pc <;> cases hex <;> exact pubOk_of_inGc h hg
  -- the remaining edges do not cross the rename: `PubOk` asks the same of both ends
  all_goals exact h

def PubInv (s : St) : Prop := ∀ (i : Nat) (pi : Proc), s.procs[i]? = some pi → PubOk pi.prog pi.pub pi.pc

theorem pubInv_step (H : Nat → Nat) (cfg : Cfg) (s : St) (p : Pid) (h : PubInv s) : PubInv (step H cfg s p) :=
  step_procs_inv (Q := fun pr => PubOk pr.prog pr.pub pr.pc) H cfg
    (fun g pr exO shO => stepPc_pubOk H cfg pr.prog exO shO g pr.pc pr.pub) s p h

/-- the counter of successful renames moves exactly in a publishing segment -/
theorem stepPc_nInst (H : Nat → Nat) (cfg : Cfg) (prog : Prog) (exO shO : Bool) (g : Store) (pc : Pc) :
    (stepPc H cfg prog exO shO g pc).1.nInst =
      if isPublish g prog pc then upd g.nInst (opBid prog) (g.nInst (opBid prog) + 1) else g.nInst := by
  by_cases hp : isPublish g prog pc = true
  · obtain ⟨tmp, rfl, hn⟩ := isPublish_true hp
    rw [stepPc_iRename_none H cfg prog exO shO g tmp hn, if_pos hp]
  rw [if_neg hp]
  have hw := stepPc_writes H cfg prog exO shO g pc
  generalize (stepPc H cfg prog exO shO g pc).1 = g' at hw ⊢
  cases hw
  case publish hn _ _ _ _ => exact absurd (by simp [isPublish, hn]) hp
  all_goals assumption

def pubCount (procs : List Proc) (b : Bid) : Nat := procs.countP (fun q => q.pub && opBid q.prog == b)

/-- successful renames of `b` = `base b` + number of processes whose own rename of `b` succeeded -/
def PubCount (base : Bid → Nat) (s : St) : Prop := ∀ b, s.g.nInst b = base b + pubCount s.procs b

theorem pubCount_step (H : Nat → Nat) (cfg : Cfg) (base : Bid → Nat) (s : St) (p : Pid) (hp : PubInv s)
    (h : PubCount base s) : PubCount base (step H cfg s p) := by
  rcases step_cases H cfg s p with ⟨_, e⟩ | ⟨pr, hpr, e⟩
  · rw [e]; exact h
  · rw [e]
    intro b
    have hlt : p < s.procs.length := by
      rcases Nat.lt_or_ge p s.procs.length with hl | hl
      · exact hl
      · rw [List.getElem?_eq_none hl] at hpr; cases hpr
    have hget : s.procs[p] = pr := by
      have := List.getElem?_eq_getElem hlt
      rw [this] at hpr; exact Option.some.inj hpr
    simp only [pubCount, stepPc_nInst]
    rw [List.countP_set hlt, hget]
    have hb := h b
    simp only [pubCount] at hb
    cases hpub : isPublish s.g pr.prog pr.pc with
    | false =>
      simp only [Bool.or_false, Bool.false_eq_true, ↓reduceIte]
      have : (List.countP (fun q => q.pub && opBid q.prog == b) s.procs) ≥
          (if (pr.pub && opBid pr.prog == b) = true then 1 else 0) := by
        have hm : pr ∈ s.procs := by rw [← hget]; exact List.getElem_mem hlt
        split
        · rename_i hc
          exact List.countP_pos_iff.mpr ⟨pr, hm, hc⟩
        · omega
      omega
    | true =>
      have hpf : pr.pub = false := by
        obtain ⟨tmp, hq, _⟩ := isPublish_true hpub
        have := hp p pr hpr
        rw [hq] at this; exact this
      simp only [hpf, Bool.false_and, Bool.false_or, Bool.true_and, if_true]
      by_cases eb : b = opBid pr.prog
      · subst eb; simp [upd]; omega
      · have : (opBid pr.prog == b) = false := by simp; exact fun h => eb h.symm
        simp [upd, eb, this]; omega

end Share
