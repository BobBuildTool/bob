import BobModel.Model.Builder
/-
Helper definitions and lemmas for the builder model (C01, C05):
* a weakest-precondition calculus for the run monad `M` with an *abort assertion* `A`:
  `wp m Q A r` says: running `m` from `r` either finishes in a run satisfying `Q`, or is cut
  (fuel used up / script failure / BuildError) in a run satisfying `A`;
* the per-path invariant `Loc` and `Truthful`.
-/
namespace Builder

def wp {α : Type} (m : M α) (Q : α → Run → Prop) (A : Run → Prop) (r : Run) : Prop :=
  match m r with
  | .ok a r' => Q a r'
  | .abort r' => A r'

@[simp] theorem wp_pure {α : Type} (a : α) (Q : α → Run → Prop) (A : Run → Prop) (r : Run) :
    wp (pure a : M α) Q A r ↔ Q a r := by
  simp [wp, pure]

@[simp] theorem wp_bind {α β : Type} (m : M α) (f : α → M β) (Q : β → Run → Prop) (A : Run → Prop) (r : Run) :
    wp (m >>= f) Q A r ↔ wp m (fun a r' => wp (f a) Q A r') A r := by
  simp only [wp, bind]
  cases m r <;> simp

@[simp] theorem wp_getSt (Q : St → Run → Prop) (A : Run → Prop) (r : Run) :
    wp getSt Q A r ↔ Q r.st r := by simp [wp, getSt]

@[simp] theorem wp_getMem (Q : Mem → Run → Prop) (A : Run → Prop) (r : Run) :
    wp getMem Q A r ↔ Q r.mem r := by simp [wp, getMem]

@[simp] theorem wp_setMem (m : Mem) (Q : Unit → Run → Prop) (A : Run → Prop) (r : Run) :
    wp (setMem m) Q A r ↔ Q () { r with mem := m } := by simp [wp, setMem]

@[simp] theorem wp_abort {α : Type} (Q : α → Run → Prop) (A : Run → Prop) (r : Run) :
    wp (abort : M α) Q A r ↔ A r := by simp [wp, abort]

theorem wp_prim (op : Op) (f : St → St) (Q : Unit → Run → Prop) (A : Run → Prop) (r : Run) :
    wp (prim op f) Q A r ↔
      (r.fuel = 0 → A r) ∧ (∀ k, r.fuel = k + 1 → Q () { r with st := f r.st, fuel := k, log := r.log ++ [op] }) := by
  unfold wp prim
  cases h : r.fuel with
  | zero => simp
  | succ k => simp

/-- sufficient rule for a micro-operation when the assertions do not look at fuel and log -/
theorem wp_prim_intro {op : Op} {f : St → St} {Q : Unit → Run → Prop} {A : Run → Prop} {r : Run}
    (ha : A r) (hq : ∀ k l, Q () { r with st := f r.st, fuel := k, log := l }) :
    wp (prim op f) Q A r := by
  rw [wp_prim]
  exact ⟨fun _ => ha, fun k _ => hq k _⟩

theorem wp_ok {α : Type} {m : M α} {Q : α → Run → Prop} {A : Run → Prop} {r r' : Run} {a : α} (h : wp m Q A r)
    (hok : m r = .ok a r') : Q a r' := by
  unfold wp at h
  rw [hok] at h
  exact h

theorem wp_res {α : Type} {m : M α} {P : St → List Op → Prop} {r : Run}
    (h : wp m (fun _ r' => P r'.st r'.log) (fun r' => P r'.st r'.log) r) : P (m r).st (m r).log := by
  unfold wp at h
  cases hr : m r with
  | ok a r' => rw [hr] at h; exact h
  | abort r' => rw [hr] at h; exact h

theorem wp_mono {α : Type} (m : M α) (Q Q' : α → Run → Prop) (A A' : Run → Prop) (r : Run)
    (hq : ∀ a r', Q a r' → Q' a r') (ha : ∀ r', A r' → A' r') (h : wp m Q A r) : wp m Q' A' r := by
  unfold wp at *
  cases hm : m r with
  | ok a r' => rw [hm] at h; exact hq _ _ h
  | abort r' => rw [hm] at h; exact ha _ h

theorem wp_post {α : Type} {m : M α} {Q Q' : α → Run → Prop} {A : Run → Prop} {r : Run}
    (hq : ∀ a r', Q a r' → Q' a r') (h : wp m Q A r) : wp m Q' A r :=
  wp_mono m Q Q' A A r hq (fun _ hx => hx) h

theorem wp_and {α : Type} (m : M α) (Q Q' : α → Run → Prop) (A A' : Run → Prop) (r : Run)
    (h : wp m Q A r) (h' : wp m Q' A' r) : wp m (fun a r' => Q a r' ∧ Q' a r') (fun r' => A r' ∧ A' r') r := by
  unfold wp at *
  cases hm : m r with
  | ok a r' => rw [hm] at h h'; exact ⟨h, h'⟩
  | abort r' => rw [hm] at h h'; exact ⟨h, h'⟩

theorem wp_frame {α : Type} {m : M α} {Q F : α → Run → Prop} {A : Run → Prop} {r : Run} (h : wp m Q A r)
    (hf : wp m F (fun _ => True) r) : wp m (fun a r' => Q a r' ∧ F a r') A r :=
  wp_mono _ _ _ _ _ _ (fun _ _ hx => hx) (fun _ hx => hx.1) (wp_and _ _ _ _ _ _ h hf)

@[simp] theorem wp_whenM_true (m : M Unit) (Q : Unit → Run → Prop) (A : Run → Prop) (r : Run) :
    wp (whenM true m) Q A r ↔ wp m Q A r := by simp [whenM]

@[simp] theorem wp_whenM_false (m : M Unit) (Q : Unit → Run → Prop) (A : Run → Prop) (r : Run) :
    wp (whenM false m) Q A r ↔ Q () r := by simp [whenM]

theorem wp_whenM (b : Bool) (m : M Unit) (Q : Unit → Run → Prop) (A : Run → Prop) (r : Run) :
    wp (whenM b m) Q A r ↔ (b = true → wp m Q A r) ∧ (b = false → Q () r) := by
  cases b <;> simp

theorem wp_ite {α : Type} (c : Prop) [Decidable c] (m1 m2 : M α) (Q : α → Run → Prop) (A : Run → Prop) (r : Run) :
    wp (if c then m1 else m2) Q A r ↔ (c → wp m1 Q A r) ∧ (¬ c → wp m2 Q A r) := by
  split <;> simp_all

@[simp] theorem upd_same {β : Type} (f : Path → β) (p : Path) (v : β) : upd f p v p = v := by simp [upd]

theorem upd_other {β : Type} (f : Path → β) (p q : Path) (v : β) (h : q ≠ p) : upd f p v q = f q := by
  simp [upd, h]

/-- `st'` differs from `st` at most in the components of path `p` (and clock / attic list) -/
def AgreeOff (p : Path) (st st' : St) : Prop :=
  ∀ q, q ≠ p → st'.results q = st.results q ∧ st'.inputs q = st.inputs q ∧ st'.dirStates q = st.dirStates q
    ∧ st'.disk q = st.disk q ∧ st'.variantIds q = st.variantIds q

theorem AgreeOff.refl (p : Path) (st : St) : AgreeOff p st st := fun _ _ => ⟨rfl, rfl, rfl, rfl, rfl⟩

theorem AgreeOff.trans {p : Path} {a b c : St} (h1 : AgreeOff p a b) (h2 : AgreeOff p b c) : AgreeOff p a c := by
  intro q hq
  obtain ⟨a1, a2, a3, a4, a5⟩ := h1 q hq
  obtain ⟨b1, b2, b3, b4, b5⟩ := h2 q hq
  exact ⟨b1.trans a1, b2.trans a2, b3.trans a3, b4.trans a4, b5.trans a5⟩

theorem agree_setResult (st : St) (p : Path) (r : RH) : AgreeOff p st (st.setResult p r) := by
  intro q hq; simp [St.setResult, upd, hq]
theorem agree_forge (st : St) (p : Path) : AgreeOff p st (st.forge p) := by
  intro q hq; simp [St.forge, upd, hq]
theorem agree_setInputs (st : St) (p : Path) (i : Inputs) : AgreeOff p st (st.setInputs p i) := by
  intro q hq; simp [St.setInputs, upd, hq]
theorem agree_delInputs (st : St) (p : Path) : AgreeOff p st (st.delInputs p) := by
  intro q hq; simp [St.delInputs, upd, hq]
theorem agree_setDir (st : St) (p : Path) (d : DirState) : AgreeOff p st (st.setDir p d) := by
  intro q hq; simp [St.setDir, upd, hq]
theorem agree_setVid (st : St) (p : Path) (v : Vid) : AgreeOff p st (st.setVid p v) := by
  intro q hq; simp [St.setVid, upd, hq]
theorem agree_setDisk (st : St) (p : Path) (c : Content) : AgreeOff p st (st.setDisk p c) := by
  intro q hq; simp [St.setDisk, upd, hq]
theorem agree_reset (st : St) (p : Path) (d : Option DirState) : AgreeOff p st (st.reset p d) := by
  intro q hq; simp [St.reset, upd, hq]

def hashes (E : Env) (cs : List Content) : Inputs := cs.map fun c => some (.hash (E.H c))

def isFp : Option RH → Bool
  | some (.fp _) => true
  | _ => false

/-- input list without the relocation fingerprint -/
def strip (i : Inputs) : Inputs := i.filter fun x => !isFp x

/-- old workspace contents a script may have started from: package steps always start from an
empty workspace, build steps do unless incremental (develop mode) builds are in use (`dev`),
checkouts are never cleaned -/
def Adm (dev : Bool) (k : Kind) (old : Content) : Prop :=
  old = emptyC ∨ k = .checkout ∨ (k = .build ∧ dev = true)

/-- `c` is what the script with digest data `sig` produced from inputs `cs` -/
def Produced (E : Env) (dev : Bool) (sig : Sig) (cs : List Content) (c : Content) : Prop :=
  ∃ w old, Adm dev sig.kind old ∧ E.sem sig w old cs = .ok c

def isHash : Option RH → Prop
  | some (.hash _) => True
  | _ => False

/-- "Bob's state never claims more than the disk holds", for one workspace path.  It only looks at
the components of this path. -/
structure Loc (E : Env) (dev : Bool) (Γ : Path → List (Dir × Digest)) (st : St) (p : Path) : Prop where
  /-- nothing on disk, nothing claimed -/
  nodisk : st.disk p = none → st.results p = none ∧ st.inputs p = none
  /-- a stored result hash is the hash of the workspace -/
  res : ∀ h, st.results p = some (.hash h) → ∃ c, st.disk p = some c ∧ h = E.H c
  nofp : ∀ q, st.results p ≠ some (.fp q)
  /-- build step: stored inputs + stored digest describe how the workspace was produced -/
  bld : ∀ iv paths hs, st.dirStates p = some (.build iv paths) → st.inputs p = some hs →
    isHash (st.results p) ∧ ∀ cs, strip hs = hashes E cs → ∃ c, st.disk p = some c ∧ Produced E dev iv.sig cs c
  pkg : ∀ v hs, st.dirStates p = some (.pkg v) → st.inputs p = some hs →
    isHash (st.results p) ∧ ∀ cs, strip hs = hashes E cs → ∃ c, st.disk p = some c ∧ Produced E dev v.sig cs c
  /-- checkout: only with the variant-id key in the directory state; a forged / missing result
  disables the claim unless the step has no inputs at all: a checkout without script is skipped
  whatever the stored result is (`checkoutReason`), and `CoWF.noscript` gives it no dependencies.
  `cs.length = v.deps.length` lets `checkoutRun_truthful` read `cs = []` as "no dependencies". -/
  co : ∀ scms v bo hs cs, st.dirStates p = some (.co scms (some v) bo) → st.inputs p = some hs →
    strip hs = hashes E cs → cs.length = v.deps.length → (isHash (st.results p) ∨ cs = []) →
    ∃ c, st.disk p = some c ∧ Produced E dev v.sig cs c
  /-- recorded SCM directories belong to `Γ p`, the one SCM layout that every project of the history
  gives a checkout at `p` (`CoWF.scms`).  So `atticLoop` is `pure keep` (`atticLoop_noop`): an edit of
  the SCMs of a checkout that keeps its workspace path (switch, move to the attic) is outside the
  theorems that assume `Truthful` and `CoWF`. -/
  scm : ∀ scms v bo, st.dirStates p = some (.co scms v bo) → ∀ x ∈ scms, x ∈ Γ p

def Truthful (E : Env) (dev : Bool) (Γ : Path → List (Dir × Digest)) (st : St) : Prop :=
  ∀ p, Loc E dev Γ st p

theorem loc_congr {E : Env} {dev : Bool} {Γ : Path → List (Dir × Digest)} {st st' : St} {p : Path}
    (h1 : st'.results p = st.results p) (h2 : st'.inputs p = st.inputs p)
    (h3 : st'.dirStates p = st.dirStates p) (h4 : st'.disk p = st.disk p)
    (h : Loc E dev Γ st p) : Loc E dev Γ st' p := by
  constructor
  · rw [h1, h2, h4]; exact h.nodisk
  · rw [h1, h4]; exact h.res
  · rw [h1]; exact h.nofp
  · rw [h1, h2, h3, h4]; exact h.bld
  · rw [h1, h2, h3, h4]; exact h.pkg
  · rw [h1, h2, h3, h4]; exact h.co
  · rw [h3]; exact h.scm

theorem truthful_of_agree {E : Env} {dev : Bool} {Γ : Path → List (Dir × Digest)} {st st' : St} {p : Path}
    (h : Truthful E dev Γ st) (ha : AgreeOff p st st') (hp : Loc E dev Γ st' p) : Truthful E dev Γ st' := by
  intro q
  by_cases hq : q = p
  · subst hq; exact hp
  · obtain ⟨a1, a2, a3, a4, _⟩ := ha q hq
    exact loc_congr a1 a2 a3 a4 (h q)

theorem truthful_init (E : Env) (dev : Bool) (Γ : Path → List (Dir × Digest)) : Truthful E dev Γ St.init := by
  intro p
  constructor <;> simp [St.init, isHash]

/-- with no stored inputs only the result hash claims something -/
theorem loc_no_inputs {E : Env} {dev : Bool} {Γ : Path → List (Dir × Digest)} {st : St} {p : Path}
    (hi : st.inputs p = none)
    (hnd : st.disk p = none → st.results p = none)
    (hres : ∀ h, st.results p = some (.hash h) → ∃ c, st.disk p = some c ∧ h = E.H c)
    (hfp : ∀ q, st.results p ≠ some (.fp q))
    (hscm : ∀ scms v bo, st.dirStates p = some (.co scms v bo) → ∀ x ∈ scms, x ∈ Γ p) :
    Loc E dev Γ st p := by
  constructor
  · intro h; exact ⟨hnd h, hi⟩
  · exact hres
  · exact hfp
  · intro iv paths hs _ h; rw [hi] at h; cases h
  · intro v hs _ h; rw [hi] at h; cases h
  · intro scms v bo hs cs _ h; rw [hi] at h; cases h
  · exact hscm

theorem loc_junk {E : Env} {dev : Bool} {Γ : Path → List (Dir × Digest)} {st : St} {p : Path} (j : Content) :
    Loc { E with junk := j } dev Γ st p ↔ Loc E dev Γ st p := by
  constructor
  · intro h
    exact ⟨h.nodisk, h.res, h.nofp, h.bld, h.pkg, h.co, h.scm⟩
  · intro h
    exact ⟨h.nodisk, h.res, h.nofp, h.bld, h.pkg, h.co, h.scm⟩

theorem truthful_junk {E : Env} {dev : Bool} {Γ : Path → List (Dir × Digest)} {st : St} (j : Content) :
    Truthful { E with junk := j } dev Γ st ↔ Truthful E dev Γ st := by
  constructor
  · intro h p; exact (loc_junk j).mp (h p)
  · intro h p; exact (loc_junk j).mpr (h p)

end Builder
