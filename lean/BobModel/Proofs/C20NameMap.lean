import BobModel.Model.Jenkins
/-
C20: the dict `nameToJobs` (`extendName`, `lookup`, `setName`) as a list of entries: its keys and the jobs it
lists.  Each operation permutes `allJobs` up to the jobs it adds or replaces, and `Listing L s` says that `L` lists
every live job of `s` exactly once; the phases of `sanitize` are specified by what they do to such a listing.
-/
namespace Jenkins

def allJobs : NameMap → List Nat
  | [] => []
  | (_, l) :: rest => l ++ allJobs rest

def keysOf (M : NameMap) : List Str := M.map (·.1)

@[simp] theorem allJobs_cons (e : Str × List Nat) (M : NameMap) : allJobs (e :: M) = e.2 ++ allJobs M := rfl

@[simp] theorem keysOf_cons (e : Str × List Nat) (M : NameMap) : keysOf (e :: M) = e.1 :: keysOf M := rfl

theorem allJobs_eq_flatten (M : NameMap) : allJobs M = (M.map (·.2)).flatten := by
  induction M with
  | nil => rfl
  | cons e M ih => rw [allJobs_cons, ih, List.map_cons, List.flatten_cons]

theorem mem_allJobs {M : NameMap} {k : Nat} : k ∈ allJobs M ↔ ∃ e ∈ M, k ∈ e.2 := by
  induction M with
  | nil => simp [allJobs]
  | cons e M ih => simp only [allJobs_cons, List.mem_append, ih, List.mem_cons, exists_eq_or_imp]

theorem mem_keysOf {M : NameMap} {e : Str × List Nat} (h : e ∈ M) : e.1 ∈ keysOf M :=
  List.mem_map.mpr ⟨e, h, rfl⟩

theorem mem_keys_extendName {M : NameMap} {nm : Str} {js : List Nat} {x : Str} :
    x ∈ keysOf (extendName M nm js) ↔ x ∈ keysOf M ∨ x = nm := by
  induction M with
  | nil => simp [extendName, keysOf]
  | cons e M ih =>
    simp only [extendName]
    split
    · next hk => subst hk; simpa using Or.inl
    · simp [ih, or_assoc]

theorem nodup_keys_extendName {M : NameMap} {nm : Str} {js : List Nat} (h : (keysOf M).Nodup) :
    (keysOf (extendName M nm js)).Nodup := by
  induction M with
  | nil => simp [extendName, keysOf]
  | cons e M ih =>
    rw [keysOf_cons, List.nodup_cons] at h
    simp only [extendName]
    split
    · exact List.nodup_cons.mpr h
    · next hk =>
      refine List.nodup_cons.mpr ⟨fun hm => ?_, ih h.2⟩
      exact (mem_keys_extendName.mp hm).elim h.1 hk

theorem allJobs_perm {L L' : NameMap} (h : L.Perm L') : (allJobs L).Perm (allJobs L') := by
  rw [allJobs_eq_flatten, allJobs_eq_flatten]
  exact (h.map _).flatten

theorem allJobs_extendName_perm {M : NameMap} {nm : Str} {js : List Nat} :
    (allJobs (extendName M nm js)).Perm (allJobs M ++ js) := by
  induction M with
  | nil => simp [extendName, allJobs]
  | cons e M ih =>
    simp only [extendName]
    split
    · simp only [allJobs_cons, List.append_assoc]
      exact List.perm_append_comm.append_left e.2
    · simp only [allJobs_cons, List.append_assoc]
      exact ih.append_left e.2

theorem lookup_of_not_key {M : NameMap} {nm : Str} (h : nm ∉ keysOf M) : lookup M nm = [] := by
  induction M with
  | nil => rfl
  | cons e M ih =>
    rw [keysOf_cons, List.mem_cons, not_or] at h
    simp only [lookup]
    rw [if_neg (fun e => h.1 e.symm)]
    exact ih h.2

theorem setName_of_not_key {M : NameMap} {nm : Str} {js : List Nat} (h : nm ∉ keysOf M) : setName M nm js = M := by
  induction M with
  | nil => rfl
  | cons e M ih =>
    rw [keysOf_cons, List.mem_cons, not_or] at h
    simp only [setName]
    rw [if_neg (fun e => h.1 e.symm), ih h.2]

theorem keys_setName {M : NameMap} {nm : Str} {js : List Nat} : keysOf (setName M nm js) = keysOf M := by
  induction M with
  | nil => rfl
  | cons e M ih =>
    simp only [setName]
    split
    · rfl
    · rw [keysOf_cons, ih]; rfl

theorem entry_key_unique {M : NameMap} (h : (keysOf M).Nodup) {e1 e2 : Str × List Nat} (h1 : e1 ∈ M) (h2 : e2 ∈ M)
    (hk : e1.1 = e2.1) : e1 = e2 := by
  induction M with
  | nil => cases h1
  | cons e M ih =>
    rw [keysOf_cons, List.nodup_cons] at h
    rcases List.mem_cons.mp h1 with rfl | a1 <;> rcases List.mem_cons.mp h2 with rfl | a2
    · rfl
    · exact absurd (hk ▸ mem_keysOf a2) h.1
    · exact absurd (hk ▸ mem_keysOf a1) h.1
    · exact ih h.2 a1 a2

theorem lookup_mem {M : NameMap} {nm : Str} (h : nm ∈ keysOf M) : (nm, lookup M nm) ∈ M := by
  induction M with
  | nil => cases h
  | cons e M ih =>
    simp only [lookup]
    split
    · next hx => exact hx ▸ List.mem_cons_self
    · next hx => exact List.mem_cons_of_mem _ (ih ((List.mem_cons.mp h).resolve_left (Ne.symm hx)))

theorem lookup_of_mem {M : NameMap} {nm : Str} {l : List Nat} (hk : (keysOf M).Nodup) (h : (nm, l) ∈ M) :
    lookup M nm = l :=
  congrArg Prod.snd (entry_key_unique hk (lookup_mem (mem_keysOf h)) h rfl)

theorem allJobs_setName_perm (M : NameMap) (nm : Str) :
    ∃ R, (allJobs M).Perm (lookup M nm ++ R) ∧
      ∀ js, (∀ k ∈ js, k ∈ lookup M nm) → (allJobs (setName M nm js)).Perm (js ++ R) := by
  induction M with
  | nil =>
    exact ⟨[], .refl _, fun js h => by rw [List.eq_nil_iff_forall_not_mem.mpr fun k hk => nomatch h k hk]; exact .refl _⟩
  | cons e M ih =>
    simp only [lookup, setName]
    split
    · exact ⟨allJobs M, .refl _, fun _ _ => .refl _⟩
    · obtain ⟨R, h1, h2⟩ := ih
      exact ⟨e.2 ++ R, (h1.append_left e.2).trans (List.perm_append_comm_assoc ..),
        fun js h => ((h2 js h).append_left e.2).trans (List.perm_append_comm_assoc ..)⟩

/-- `L` lists the live jobs of `s`, each once.  A job is named by the variant-id it was created for, and job `k`
is live iff `s.v2j k = some k`: a job merged into another keeps its record in `s.job`, but no step maps to it
any more, its own first step included. -/
def Listing (L : List Nat) (s : St) : Prop := L.Nodup ∧ ∀ k, k ∈ L ↔ s.v2j k = some k

theorem Listing.perm {L L' : List Nat} {s : St} (h : Listing L s) (p : L.Perm L') : Listing L' s :=
  ⟨p.nodup_iff.mp h.1, fun k => p.mem_iff.symm.trans (h.2 k)⟩

theorem Listing.drop {j : Nat} {L : List Nat} {s s' : St} (h : Listing (j :: L) s)
    (hl : ∀ k, s'.v2j k = some k ↔ s.v2j k = some k ∧ k ≠ j) : Listing L s' := by
  obtain ⟨hj, hL⟩ := List.nodup_cons.mp h.1
  refine ⟨hL, fun k => ?_⟩
  rw [hl, ← h.2, List.mem_cons]
  exact ⟨fun hk => ⟨Or.inr hk, fun e => hj (e ▸ hk)⟩, fun hk => hk.1.resolve_left hk.2⟩

theorem Listing.add {v : Nat} {L : List Nat} {s s' : St} (h : Listing L s) (hv : s.v2j v ≠ some v)
    (hl : ∀ k, s'.v2j k = some k ↔ s.v2j k = some k ∨ k = v) : Listing (L ++ [v]) s' := by
  refine ⟨List.nodup_append.mpr ⟨h.1, by simp, fun a ha b hb e => hv ?_⟩, fun k => ?_⟩
  · rw [← List.mem_singleton.mp hb, ← e]; exact (h.2 a).mp ha
  · rw [hl, ← h.2, List.mem_append, List.mem_singleton]

/-- the name map lists every live job exactly once -/
structure NamesOk (M : NameMap) (s : St) : Prop where
  keys : (keysOf M).Nodup
  nodup : (allJobs M).Nodup
  live : ∀ k, k ∈ allJobs M ↔ s.v2j k = some k

theorem NamesOk.listing {M : NameMap} {s : St} (h : NamesOk M s) : Listing (allJobs M) s := ⟨h.nodup, h.live⟩

end Jenkins
