/-
Sorting by key, for the list insertion sorts that the models write out (`sorted(...)` of the items of a dict in the
source).  A model function enters through its defining equations (`IsIns`, `IsSort`), which hold by `rfl`, or by one case
split where the model tests the strict comparison the other way round (`c x y` is then `!lt y x`).  From these alone the
result is a permutation, is ordered by any transitive relation that `c` decides, and, when `c` is a total preorder
(`TotalLe`) that is antisymmetric on the keys and the keys are distinct, does not depend on the order of the input.
A hand-written lexicographic `≤` enters through its equation on two `cons`es and is then core's order on the lists of
codes (`lexLe_iff`), hence a `TotalLe`.
-/
namespace SortKey

variable {α β : Type}

theorem eq_of_pairwise_ne {f : α → β} {l : List α} (h : l.Pairwise fun a b => f a ≠ f b) {a b : α} (ha : a ∈ l)
    (hb : b ∈ l) (e : f a = f b) : a = b :=
  List.Pairwise.forall_of_forall_of_flip (R := fun a b => f a = f b → a = b) (fun _ _ _ => rfl)
    (h.imp fun ne e => absurd e ne) (h.imp fun ne e => absurd e.symm ne) ha hb e

theorem eq_of_nodup_map {f : α → β} {l : List α} (h : (l.map f).Nodup) {a b : α} (ha : a ∈ l) (hb : b ∈ l)
    (e : f a = f b) : a = b :=
  eq_of_pairwise_ne (List.pairwise_map.1 h) ha hb e

theorem nodup_of_nodup_map {f : α → β} {l : List α} (h : (l.map f).Nodup) : l.Nodup :=
  (List.pairwise_map.1 h).imp fun n e => n (congrArg f e)

structure IsIns (c : α → α → Bool) (ins : α → List α → List α) : Prop where
  nil : ∀ x, ins x [] = [x]
  cons : ∀ x y ys, ins x (y :: ys) = if c x y = true then x :: y :: ys else y :: ins x ys

structure IsSort (c : α → α → Bool) (ins : α → List α → List α) (sort : List α → List α) : Prop
    extends IsIns c ins where
  sort_nil : sort [] = []
  sort_cons : ∀ x xs, sort (x :: xs) = ins x (sort xs)

structure TotalLe (le : α → α → Bool) : Prop where
  total : ∀ a b, le a b = true ∨ le b a = true
  trans : ∀ {a b c}, le a b = true → le b c = true → le a c = true

theorem TotalLe.comap {le : α → α → Bool} (h : TotalLe le) (f : β → α) : TotalLe fun a b => le (f a) (f b) :=
  ⟨fun _ _ => h.total _ _, h.trans⟩

section ins
variable {c : α → α → Bool} {ins : α → List α → List α} (h : IsIns c ins)
include h

theorem IsIns.perm (x : α) (l : List α) : (ins x l).Perm (x :: l) := by
  induction l with
  | nil => rw [h.nil]
  | cons y ys ih =>
    rw [h.cons]
    split
    · exact .refl _
    · exact (ih.cons y).trans (.swap x y ys)

/-- `R` is what the list is ordered by; the test `c` decides it one way or the other. -/
theorem IsIns.pairwise {R : α → α → Prop} (trans : ∀ {a b c}, R a b → R b c → R a c)
    (ht : ∀ {x y}, c x y = true → R x y) (hf : ∀ {x y}, ¬ c x y = true → R y x) (x : α) {l : List α}
    (hl : l.Pairwise R) : (ins x l).Pairwise R := by
  induction l with
  | nil => rw [h.nil]; exact List.pairwise_singleton _ _
  | cons y ys ih =>
    have ⟨hy, hys⟩ := List.pairwise_cons.mp hl
    rw [h.cons]
    split
    · next hc =>
      exact List.pairwise_cons.mpr
        ⟨fun z hz => (List.mem_cons.mp hz).elim (· ▸ ht hc) fun hz => trans (ht hc) (hy z hz), hl⟩
    · next hc =>
      exact List.pairwise_cons.mpr
        ⟨fun z hz => (List.mem_cons.mp ((h.perm x ys).mem_iff.mp hz)).elim (· ▸ hf hc) (hy z), ih hys⟩

theorem IsIns.sorted (ord : TotalLe c) (x : α) {l : List α} (hl : l.Pairwise fun a b => c a b = true) :
    (ins x l).Pairwise fun a b => c a b = true :=
  h.pairwise (R := fun a b => c a b = true) ord.trans id (fun hc => (ord.total _ _).resolve_left hc) x hl

theorem IsIns.map {c' : β → β → Bool} {ins' : β → List β → List β} (h' : IsIns c' ins') (f : α → β)
    (hf : ∀ a b, c' (f a) (f b) = c a b) (x : α) (l : List α) : ins' (f x) (l.map f) = (ins x l).map f := by
  induction l with
  | nil => rw [h.nil, List.map_nil, h'.nil]; rfl
  | cons y ys ih =>
    rw [List.map_cons, h'.cons, h.cons, hf, ih]
    split <;> rfl

end ins

section sort
variable {c : α → α → Bool} {ins : α → List α → List α} {sort : List α → List α} (h : IsSort c ins sort)
include h

theorem IsSort.perm (l : List α) : (sort l).Perm l := by
  induction l with
  | nil => rw [h.sort_nil]
  | cons x xs ih => rw [h.sort_cons]; exact (h.toIsIns.perm x _).trans (ih.cons x)

theorem IsSort.sorted (ord : TotalLe c) (l : List α) : (sort l).Pairwise fun a b => c a b = true := by
  induction l with
  | nil => rw [h.sort_nil]; exact .nil
  | cons x xs ih => rw [h.sort_cons]; exact h.toIsIns.sorted ord x ih

theorem IsSort.eq_of_perm (ord : TotalLe c) {κ : Type} (key : α → κ)
    (anti : ∀ {a b}, c a b = true → c b a = true → key a = key b) {l l' : List α} (nd : (l.map key).Nodup)
    (hp : l.Perm l') : sort l = sort l' := by
  refine (((h.perm l).trans hp).trans (h.perm l').symm).eq_of_pairwise (fun a b ha hb hab hba => ?_)
    (h.sorted ord l) (h.sorted ord l')
  exact eq_of_nodup_map nd ((h.perm l).mem_iff.mp ha) (hp.mem_iff.mpr ((h.perm l').mem_iff.mp hb)) (anti hab hba)

theorem IsSort.map {c' : β → β → Bool} {ins' : β → List β → List β} {sort' : List β → List β}
    (h' : IsSort c' ins' sort') (f : α → β) (hf : ∀ a b, c' (f a) (f b) = c a b) (l : List α) :
    sort' (l.map f) = (sort l).map f := by
  induction l with
  | nil => rw [h.sort_nil, List.map_nil, h'.sort_nil]
  | cons x xs ih => rw [List.map_cons, h'.sort_cons, h.sort_cons, ih, h.toIsIns.map h'.toIsIns f hf]

end sort

theorem lexLe_iff {key : α → Nat} {le : List α → List α → Bool} (nil : ∀ b, le [] b = true)
    (cons_nil : ∀ a as, le (a :: as) [] = false)
    (cons : ∀ a b as bs, le (a :: as) (b :: bs) = true ↔ key a < key b ∨ key a = key b ∧ le as bs = true) :
    ∀ a b, le a b = true ↔ a.map key ≤ b.map key
  | [], b => iff_of_true (nil b) (List.nil_le _)
  | x :: xs, [] => iff_of_false (cons_nil x xs ▸ Bool.false_ne_true) (not_not_intro (List.nil_lt_cons _ _))
  | x :: xs, y :: ys => by
    rw [cons, List.map_cons, List.map_cons, List.cons_le_cons_iff, lexLe_iff nil cons_nil cons xs ys]

section lex
variable {key : α → Nat} {le : List α → List α → Bool} (h : ∀ a b, le a b = true ↔ a.map key ≤ b.map key)
include h

theorem lex_refl (a : List α) : le a a = true := (h a a).mpr (List.le_refl _)

theorem lex_total : TotalLe le :=
  ⟨fun a b => by rw [h, h]; exact List.le_total _ _,
    fun h1 h2 => (h _ _).mpr (List.le_trans ((h _ _).mp h1) ((h _ _).mp h2))⟩

theorem lex_antisymm (inj : ∀ {a b}, key a = key b → a = b) {a b : List α} (h1 : le a b = true)
    (h2 : le b a = true) : a = b :=
  (List.map_inj_right fun _ _ => inj).mp (List.le_antisymm ((h a b).mp h1) ((h b a).mp h2))

end lex

end SortKey
