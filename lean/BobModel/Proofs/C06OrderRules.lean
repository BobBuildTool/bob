import BobModel.Proofs.C06OrderVal
import BobModel.Proofs.C06Ctl
/-
**once**, **deps_first** and the dataflow theorem for all modes.  What a rule of `Step` that replaces the operation
`op` by `body` owes to `OnceInv` and `Full.DepsInv` is one record (`Push`); `Push.sound` shows once that a step which
pays it preserves both invariants.  `Rule.push`, `LockRule.push` and `TokRule.push` are the table: one row per rule,
naming the obligations that are not vacuous for it.  The start of a script, its end and the record of a run change the
history of a workspace and have rows of their own (`Op.ownRow`).
-/
namespace Sched
open JobSem

namespace Full

theorem chk_cook_lock {P : Project} {g : St} (C : Nat → Prop) (s : Nat) (co c : Bool) (hc : willRun P s co → c = false) :
    chk P g C [.cook (P.info s).deps c, .lock s co false] := by
  refine ⟨fun s' h => h.elim, ⟨fun s' h => ?_, trivial⟩⟩
  obtain ⟨_, e, hw⟩ := h
  subst e
  exact Or.inr ⟨hc hw, fun d hd _ => Or.inr (Or.inl hd)⟩

/-- the `lock` that leads to the script is preceded by the `_cook` of the dependencies -/
theorem cookBodyOps_chk {P : Project} {g : St} (C : Nat → Prop) (s : Nat) (co : Bool) : chk P g C (cookBodyOps P s co) := by
  unfold cookBodyOps
  cases hk : (P.info s).kind
  · exact chk_cook_lock C s co false (fun _ => rfl)
  · exact chk_cook_lock C s co co (fun hw => hw.elim (fun h => by rw [hk] at h; cases h) id)
  · have hc : willRun P s co → co = false := fun hw => hw.elim (fun h => by rw [hk] at h; cases h) id
    cases co
    · exact gchk_cons_noneed (fun _ => id) (gchk_cons_noneed (fun _ h => by cases h.1) (chk_cook_lock C s false false hc))
    · exact chk_cook_lock C s true true hc

theorem chk_run {P : Project} {g : St} (s : Nat) (h : depsDone P g s) :
    chk P g (depsDone P g) [.run s, .setRun s false] :=
  ⟨fun s' hs => by cases (show s' = s from hs); exact h, gchk_cons_noneed (fun _ => id) trivial⟩

/-- an operation that names no step leads to no script -/
theorem norel_spec (P : Project) {o : Op} (h : o.relStep = none) : (∀ s, ¬ needs P o s) ∧ ∀ s, o ≠ .setRun s false := by
  cases o with
  | lock | lockWait | underLock | run | runWait | setRun => cases h
  | _ => exact ⟨fun _ => id, fun _ e => (by cases e)⟩

/-- an operation that creates no cook task waits for none -/
theorem nocook_needsD {o : Op} (h : o.makesCook = false) (k : Nat) : ¬ needsD o k := by
  cases o with
  | spawnSeq trk =>
    cases trk with
    | cook => cases h
    | bid => exact fun h => (by cases h.1)
  | _ => exact id

theorem nocook_sv (P : Project) {o : Op} (h : o.makesCook = false) : SVop P o := by
  cases o with
  | spawn trk | spawnSeq trk =>
    cases trk with
    | cook => cases h
    | bid => trivial
  | _ => trivial

theorem DepsInv.cooked_done {P : Project} {st : St} (hi : DepsInv P st) {k d : Nat} (hck : cooks P st k d)
    (hdone : (st.task k).ops = []) (hnf : ¬ (st.task k).failed = true) :
    finishedOk P st.trace (P.info d).path = true := by
  obtain ⟨d', h1, h2, h3⟩ := hck
  rcases hi.live k d' h1 h2 with h4 | h4 | ⟨o, ho', _⟩
  · exact absurd (by simp [Task.failed, hdone, h4]) hnf
  · rw [← h3]; exact h4
  · rw [hdone] at ho'; cases ho'

/-- a dependency that `_cook` filters out has been run -/
theorem DepsInv.cookFiltered {P : Project} {st : St} (hi : DepsInv P st) {steps todo : List Nat} {co : Bool} {s : Nat}
    (f2 : ∀ d ∈ steps, (P.info d).valid = true → WasOk P st.wasRun d co ∨ d ∈ todo)
    (hc : covers P st (.cook steps co) s) : ∀ d ∈ (P.info s).deps, (P.info d).valid = true →
      finishedOk P st.trace (P.info d).path = true ∨ d ∈ todo := by
  intro d hd hv
  obtain ⟨hco, hcv⟩ := hc
  rcases hcv d hd hv with h' | h' | ⟨k, hk, _⟩
  · exact Or.inl h'
  · rcases f2 d h' hv with h'' | h''
    · left; subst hco; exact hi.ranFin _ (WasOk_false_RanAt h'')
    · exact Or.inr h''
  · cases hk

theorem DepsInv.init (P : Project) (cfg : Cfg) (r0 : Runners) : DepsInv P (init cfg r0) := by
  have hops := init_ops cfg r0
  have hkind : ∀ i, ((Sched.init cfg r0).task i).kind = .dispatcher := by
    intro i
    cases i with
    | zero => simp [St.task, Sched.init]
    | succ k => simp [St.task, Sched.init]; rfl
  refine ⟨?_, ?_, ?_, ?_, ?_, ?_, rfl, ?_⟩
  rotate_left 6
  · intro i
    refine gchk_noneed _ _ ?_
    intro o ho s hn
    rcases hops i o ho with e | e <;> subst e <;> simp [needsD] at hn
  · intro p ⟨v, hv⟩
    simp [Sched.init, lookup] at hv
  · intro i s hs
    rcases hops i _ hs with e | e <;> cases e
  · intro i s hk
    rw [hkind] at hk; cases hk
  · intro key k hm
    simp [Sched.init] at hm
  · intro i o ho
    rcases hops i o ho with e | e <;> subst e <;> trivial
  · intro i
    refine gchk_noneed _ _ ?_
    intro o ho s hn
    rcases hops i o ho with e | e <;> subst e <;> simp [needs] at hn

end Full

structure QFrame (P : Project) (st g : St) (new : List Task) : Prop where
  grow : GrowT st g new
  wasRun : g.wasRun = st.wasRun
  quiet : ∃ evs, g.trace = st.trace ++ evs ∧ ∀ e ∈ evs, e.quiet = true
  track : Track P g

theorem QFrame.same {P : Project} {st g : St} (hT : Track P st) (ht : g.tasks = st.tasks) (hc : g.cookT = st.cookT)
    (hw : g.wasRun = st.wasRun) (htr : g.trace = st.trace) : QFrame P st g [] :=
  ⟨.same ht, hw, ⟨[], by simp [htr], by simp⟩, hT.same ht hc⟩

theorem QFrame.evs {P : Project} {st g : St} (hT : Track P st) (evs : List Ev) (ht : g.tasks = st.tasks)
    (hc : ∀ k ∈ g.cookT, k ∈ st.cookT) (hw : g.wasRun = st.wasRun)
    (htr : g.trace = st.trace ++ evs) (he : evs.all Ev.quiet = true) : QFrame P st g [] :=
  ⟨.same ht, hw, ⟨evs, htr, fun e hm => List.all_eq_true.mp he e hm⟩, hT.grow (new := []) (by simp [ht]) hc⟩

theorem QFrame.spawn {P : Project} {st g : St} {new : List Task} (hs : Spawn st g new) (hT : Track P g) : QFrame P st g new :=
  ⟨hs.toGrow.toT, hs.wasRun, hs.trace, hT⟩

/-- What **once** and **deps_first** ask of a step of task `t` that logs no start, no end and no record of a run and
replaces `op` by `body`.  **deps_first** asks `Full.Body`; for **once**, `pushed` and `shape` justify the operations
pushed, `rw` and `nset` say that a wait for a script or the pending record of a run at the head is not dropped.
Defaults as in `Full.Body`. -/
structure Push (P : Project) (st g : St) (new : List Task) (t : Nat) (op : Op) (rest body : List Op)
    (e : Option Err) : Prop extends QFrame P st g new, Full.Body P st g t op body e where
  rw : ∀ s r, op = .runWait s r → ∃ r' rest', body ++ rest = .runWait s r' :: rest' := by exact nofun
  nset : ∀ s, op ≠ .setRun s false := by exact nofun
  pushed : ∀ o ∈ body, Pushed P st (fun _ => False) op o := by exact fun _ h => (List.not_mem_nil h).elim
  shape : secShape P (body ++ rest) = true

section
variable {P : Project} {st g : St} {new : List Task} {t : Nat} {op : Op} {rest body : List Op} {e : Option Err}

theorem Push.sound (ho : OnceInv P st) (hl : LockInv P st) (hd : Full.DepsInv P st)
    (hops : (st.task t).ops = op :: rest) (h : Push P st g new t op rest body e) :
    OnceInv P (g.setTask t { kind := (st.task t).kind, ops := body ++ rest, err := e }) ∧
    Full.DepsInv P (g.setTask t { kind := (st.task t).kind, ops := body ++ rest, err := e }) := by
  obtain ⟨q1, q2, q3⟩ := hd.quiet h.wasRun (quiet_isStart h.quiet)
  exact ⟨ho.quietStep hl hops h.grow _ h.wasRun h.quiet h.rw h.nset
      (fun o hm => (List.mem_append.mp hm).elim (fun hb => Or.inr (h.pushed o hb)) Or.inl) h.shape,
    hd.bodyStep hops h.grow q1 q2 q3 h.track h.toBody⟩

theorem nosec_ne {op : Op} (h : op.sec = false) (s : Nat) :
    op ≠ .run s ∧ (∀ r, op ≠ .runWait s r) ∧ op ≠ .setRun s false := by
  refine ⟨?_, fun r => ?_, ?_⟩ <;> (intro e; subst e; cases h)

theorem sv_nocook {body : List Op} (h : body.all (fun o => !o.makesCook) = true) : ∀ o ∈ body, SVop P o :=
  fun o hm => Full.nocook_sv P (by simpa using List.all_eq_true.mp h o hm)

theorem chkD_nocook {body : List Op} {C : Nat → Prop} (h : body.all (fun o => !o.makesCook) = true) :
    Full.chkD g C body :=
  gchk_noneed _ _ fun o hm => Full.nocook_needsD (by simpa using List.all_eq_true.mp h o hm)

/-- a step whose `body` names no step; by default `op` stood for nothing and `body` creates no cook task -/
theorem Push.plain (hSr : secShape P rest = true) (fr : QFrame P st g new)
    (hb : body.all (fun o => o.relStep.isNone) = true)
    (he : (st.task t).err.isSome = true → e.isSome = true := by exact id)
    (hop : ∀ s, op ≠ .run s ∧ (∀ r, op ≠ .runWait s r) ∧ op ≠ .setRun s false := by exact nosec_ne rfl)
    (coverKept : ∀ s, Full.covers P st op s → depsDone P g s ∨ ∃ o ∈ body, Full.covers P g o s := by exact fun _ h => h.elim)
    (liveKept : ∀ s, liveFor s op = true → (st.task t).kind = .cook s false → (P.info s).valid = true →
      finishedOk P g.trace (P.info s).path = true ∨ ∃ o ∈ body, liveFor s o = true := by exact nofun)
    (spawnValid : ∀ o ∈ body, SVop P o := by exact sv_nocook rfl)
    (bodyChkD : Full.chkD g (Full.doneAt g) body := by exact chkD_nocook rfl)
    (waitKept : ∀ k, Full.coversD st op k → Full.doneAt g k ∨ ∃ o ∈ body, Full.coversD g o k := by exact fun _ h => h.elim) :
    Push P st g new t op rest body e := by
  have hp : ∀ o ∈ body, o.relStep = none := fun o hm => by simpa using List.all_eq_true.mp hb o hm
  exact { toQFrame := fr, err := he
          rw := fun s r e => absurd e ((hop s).2.1 r)
          nset := fun s => (hop s).2.2
          pushed := fun o hm => .of_nosec (relStep_none_sec (hp o hm)) fun s hs => by rw [hp o hm] at hs; cases hs
          shape := secShape_append_nosec (fun o hm => relStep_none_sec (hp o hm)) hSr
          bodyChk := gchk_noneed _ _ fun o hm => (Full.norel_spec P (hp o hm)).1
          coverKept := coverKept
          setRunHasRun := fun s h => absurd rfl ((Full.norel_spec P (hp _ h)).2 s)
          scriptKept := fun s hh => by
            rcases hh with hh | ⟨r, hh⟩
            · exact absurd hh (hop s).1
            · exact absurd hh ((hop s).2.1 r)
          liveKept := liveKept, spawnValid := spawnValid, bodyChkD := bodyChkD, waitKept := waitKept }

theorem forall_mem_pair {α : Type} {p : α → Prop} {a b : α} (ha : p a) (hb : p b) : ∀ o ∈ [a, b], p o := by
  intro o hm
  rcases List.mem_cons.mp hm with e | e
  · exact e ▸ ha
  · exact List.mem_singleton.mp e ▸ hb

/-- inside the lock: `underLock` needs what `lock` needed and stands in front of its `unlock` -/
theorem Push.inside {s : Nat} {co dl : Bool} (hSr : secShape P rest = true) (fr : QFrame P st g new)
    (hval : (P.info s).valid = true) (hneed : dl = false → willRun P s co → depsDone P g s)
    (hlive : ∀ s', liveFor s' op = true → (s = s' ∧ co = false) ∧ dl = false)
    (hop : ∀ s, op ≠ .run s ∧ (∀ r, op ≠ .runWait s r) ∧ op ≠ .setRun s false := by exact nosec_ne rfl)
    (coverKept : ∀ s', Full.covers P st op s' → depsDone P g s' ∨ ∃ o ∈ inLock P s co dl, Full.covers P g o s' := by
      exact fun _ h => h.elim)
    (waitKept : ∀ k, Full.coversD st op k → Full.doneAt g k ∨ ∃ o ∈ inLock P s co dl, Full.coversD g o k := by
      exact fun _ h => h.elim) :
    Push P st g new t op rest (inLock P s co dl) (st.task t).err :=
  { toQFrame := fr
    rw := fun s r e => absurd e ((hop s).2.1 r)
    nset := fun s => (hop s).2.2
    pushed := by
      cases dl
      · exact forall_mem_pair ⟨fun _ hs => by cases hs; exact hval, nofun, fun _ h => by rcases h with h | h <;> cases h⟩
          (.of_nosec rfl nofun)
      · exact forall_mem_pair (.of_nosec rfl nofun) (.of_nosec rfl nofun)
    shape := by cases dl <;> simpa [inLock, secShape] using hSr
    bodyChk := by
      cases dl
      · exact ⟨fun s' hs' => by obtain ⟨e, hw⟩ := hs'; subst e; exact hneed rfl hw, gchk_cons_noneed (fun _ => id) trivial⟩
      · exact gchk_cons_noneed (fun _ => id) (gchk_cons_noneed (fun _ => id) trivial)
    coverKept := coverKept
    setRunHasRun := by cases dl <;> simp [inLock]
    scriptKept := fun s hh => hh.elim (fun h => absurd h (hop s).1) fun ⟨r, h⟩ => absurd h ((hop s).2.1 r)
    liveKept := fun s' hlv _ _ => by
      obtain ⟨⟨e1, e2⟩, e3⟩ := hlive s' hlv
      subst e1; subst e2; subst e3
      exact Or.inr ⟨.underLock s false, by simp [inLock], by simp [liveFor]⟩
    spawnValid := by cases dl <;> exact forall_mem_pair trivial trivial
    bodyChkD := by cases dl <;> exact gchk_cons_noneed (fun _ => id) (gchk_cons_noneed (fun _ => id) trivial)
    waitKept := waitKept }

theorem LockRule.push {p : Nat} {l : ALock} (ho : OnceInv P st) (hd : Full.DepsInv P st)
    (hops : (st.task t).ops = op :: rest) (hr : LockRule P st t op p l body) :
    Push P st ({ st with locks := insert p l st.locks } : St) [] t op rest body (st.task t).err := by
  obtain ⟨hshape, hv⟩ := ho.head hops
  have hSr := secShape_tail hshape
  have hord := hd.ord t
  rw [hops] at hord
  have fr : QFrame P st ({ st with locks := insert p l st.locks } : St) [] := .same hd.track rfl rfl rfl rfl
  cases hr with
  | @got s co dl =>
    exact .inside hSr fr (hv s rfl) (fun h1 h2 => hord.1 s ⟨h1, rfl, h2⟩) (fun s' h => by simpa [liveFor] using h)
  | @woken s co dl =>
    exact .inside hSr fr (hv s rfl) (fun h1 h2 => hord.1 s ⟨h1, rfl, h2⟩) (fun s' h => by simpa [liveFor] using h)
  | blocked =>
    exact { toQFrame := fr
            pushed := fun o hm => by cases List.mem_singleton.mp hm; exact .of_nosec rfl hv
            shape := by simpa [secShape] using hSr
            bodyChk := ⟨fun s' h' => hord.1 s' h', trivial⟩
            liveKept := fun s' hlv _ _ => Or.inr ⟨_, List.mem_singleton.mpr rfl, by simpa [liveFor] using hlv⟩
            spawnValid := fun o hm => by cases List.mem_singleton.mp hm; trivial
            bodyChkD := gchk_cons_noneed (fun _ => id) trivial }
  | released => exact { toQFrame := fr, shape := hSr }

/-- no `Push` describes these; their rows are `run_ord`, `finOk_ord`, `setRun_ord` -/
def Op.ownRow : Op → Bool
  | .run _ | .runWait _ (some true) | .setRun _ _ => true
  | _ => false

theorem Rule.push {cfg : Cfg} (hpv : PathVid P) (ho : OnceInv P st) (hd : Full.DepsInv P st)
    (hops : (st.task t).ops = op :: rest) (hr : Rule P cfg st t op body g) (hown : op.ownRow = false) :
    ∃ new, Push P st g new t op rest body (st.task t).err := by
  obtain ⟨hshape, hv⟩ := ho.head hops
  have hSr := secShape_tail hshape
  have hord := hd.ord t
  rw [hops] at hord
  have hordD := hd.ordD t
  rw [hops] at hordD
  have hsvop := hd.sv t op (by rw [hops]; simp)
  have hT := hd.track
  -- the cook task of `s` ends at `op`: `s` has been run
  have ran : ∀ (g : St) (s : Nat) (co : Bool), (∃ evs, g.trace = st.trace ++ evs) → WasOk P st.wasRun s co →
      ∀ s', (s == s' && !co) = true →
        finishedOk P g.trace (P.info s').path = true ∨ ∃ o ∈ ([] : List Op), liveFor s' o = true :=
    fun g s co ⟨evs, he⟩ hok s' hlv => by
      have : s = s' ∧ co = false := by simpa using hlv
      obtain ⟨e1, e2⟩ := this
      subst e1; subst e2
      exact Or.inl (by rw [he]; exact finishedOk_append _ _ _ (hd.ranFin _ (WasOk_false_RanAt hok)))
  cases hr with
  | run | finOk | setRun => cases hown
  | fence | bidCached | bidSrc | bidDist | cacheSrc | cacheDist | topSeq | topEnd =>
    exact Exists.intro [] <| .plain hSr (.same hT rfl rfl rfl rfl) rfl
  | download => exact Exists.intro [] <| .plain hSr (.same hT (by split <;> rfl) (by split <;> rfl) (by split <;> rfl) (by split <;> rfl)) rfl
  | checkRunning => exact Exists.intro [] <| .plain hSr (.evs hT [.pass t] rfl (fun _ h => h) rfl rfl rfl) rfl
  | @cookInvalid s co _ hval =>
    exact Exists.intro [] <| .plain hSr (.evs hT [.pass t] rfl (fun _ h => h) rfl rfl rfl) rfl
      (liveKept := fun s' hlv _ hv' => by
        have : s = s' ∧ co = false := by simpa [liveFor] using hlv
        rw [← this.1, hval] at hv'; cases hv')
  | @cookRan s co _ _ hw =>
    obtain ⟨ew, hran⟩ := wasAlreadyRun_spec hpv ho.wv s co
    exact Exists.intro [] <| .plain hSr (.evs hT [.pass t] rfl (fun _ h => h) ew rfl rfl) rfl
      (liveKept := fun s' hlv _ _ => ran _ s co ⟨_, rfl⟩ (hran.mp hw) s' hlv)
  | @cookNone steps co hemp =>
    obtain ⟨fw, f2, _⟩ := filterTodo_spec hpv ho.wv co steps
    exact Exists.intro [] <| .plain hSr (.same hT rfl rfl fw rfl) rfl
      (coverKept := fun s hc => Or.inl fun d hdm hvd => (hd.cookFiltered f2 hc d hdm hvd).elim id
        fun h' => by rw [List.isEmpty_iff.mp hemp] at h'; cases h')
  | @cook steps co =>
    obtain ⟨fw, f2, f3⟩ := filterTodo_spec hpv ho.wv co steps
    exact Exists.intro [] <| .plain hSr (.same hT rfl rfl fw rfl) rfl
      (coverKept := fun s hc => Or.inr ⟨_, List.mem_singleton.mpr rfl, rfl, hc.1, fun d hdm hvd =>
        (hd.cookFiltered f2 hc d hdm hvd).elim Or.inl (fun h' => Or.inr (Or.inl h'))⟩)
      (spawnValid := fun o hm => by cases List.mem_singleton.mp hm; exact fun d hdm => (f3 d hdm).2)
      (bodyChkD := gchk_cons_noneed (fun _ => id) trivial)
  | @spawnPar trk steps co =>
    obtain ⟨new, hg⟩ := createTasks_spawn P trk co steps st
    cases trk with
    | bid =>
      exact Exists.intro new <| .plain hSr (.spawn hg (hT.grow hg.tasks (by rw [createTasks_bid_cookT]; exact fun _ h => h))) rfl
        (coverKept := fun _ h => (by cases h.1))
    | cook =>
      obtain ⟨evs, hev, _⟩ := hg.trace
      obtain ⟨hT', hks⟩ := createTasks_cook co steps st hT hsvop
      refine Exists.intro new <| .plain hSr (.spawn hg hT') rfl (coverKept := fun s hc => ?_)
      obtain ⟨_, hco, hcv⟩ := hc
      subst hco
      refine Or.inr ⟨_, List.mem_singleton.mpr rfl, rfl, fun d hdm hvd => ?_⟩
      rcases hcv d hdm hvd with h' | h' | ⟨k, hk, _⟩
      · left; rw [hev]; exact finishedOk_append _ _ _ h'
      · exact Or.inr (Or.inr (hks d h'))
      · cases hk
  | @spawnSeq trk steps co =>
    cases trk with
    | bid =>
      exact Exists.intro [] <| .plain hSr (.same hT rfl rfl rfl rfl) rfl (coverKept := fun _ h => (by cases h.1))
    | cook =>
      exact Exists.intro [] <| .plain hSr (.same hT rfl rfl rfl rfl) rfl
        (coverKept := fun s hc => Or.inr ⟨_, List.mem_singleton.mpr rfl, rfl, hc.2.1, hc.2.2⟩)
        (spawnValid := fun o hm => by cases List.mem_singleton.mp hm; exact hsvop)
        (bodyChkD := ⟨fun k hk => (by cases hk.2.2), trivial⟩)
  | @seqEnd trk co made =>
    cases trk with
    | bid =>
      exact Exists.intro [] <| .plain hSr (.same hT rfl rfl rfl rfl) rfl (coverKept := fun _ h => (by cases h.1))
    | cook =>
      refine Exists.intro [] <| .plain hSr (.same hT rfl rfl rfl rfl) rfl (coverKept := fun s hc => ?_)
      obtain ⟨_, hco, hcv⟩ := hc
      refine Or.inr ⟨_, List.mem_singleton.mpr rfl, fun d hdm hvd => ?_⟩
      rcases hcv d hdm hvd with h' | h' | ⟨k, hk, hck⟩
      · exact Or.inl h'
      · cases h'
      · exact Or.inr ⟨k, hk, hck, (hordD.1 k ⟨rfl, hco, hk⟩).1⟩
  | @seqNext trk s todo' made co =>
    obtain ⟨new, hg⟩ := createTask_spawn P st trk s co
    cases trk with
    | bid =>
      exact Exists.intro new <| .plain hSr (.spawn hg (hT.grow hg.tasks (by rw [createTask_bid_cookT]; exact fun _ h => h))) rfl
        (coverKept := fun _ h => (by cases h.1))
    | cook =>
      obtain ⟨evs, hev, _⟩ := hg.trace
      obtain ⟨hT', d1', k1, k2, k3⟩ := createTask_cook hT s co (hsvop s (by simp))
      have hlen : st.tasks.length ≤ (createTask P st .cook s co).1.tasks.length := by
        rw [hg.tasks, List.length_append]; omega
      refine Exists.intro new <| .plain hSr (.spawn hg hT') rfl (coverKept := fun s' hc => ?_) (spawnValid := fun o hm => ?_) (bodyChkD := ?_)
      · obtain ⟨_, hco, hcv⟩ := hc
        refine Or.inr ⟨.spawnSeq .cook todo' co (made ++ [(createTask P st .cook s co).2]), by simp, rfl, hco,
          fun d hdm hvd => ?_⟩
        rcases hcv d hdm hvd with h' | h' | ⟨k, hk, hck⟩
        · left; rw [hev]; exact finishedOk_append _ _ _ h'
        · rcases List.mem_cons.mp h' with e | e
          · subst e
            subst hco
            exact Or.inr (Or.inr ⟨_, by simp, d1', k1, k2, k3⟩)
          · exact Or.inr (Or.inl e)
        · exact Or.inr (Or.inr ⟨k, by simp [hk], cooks_grow hg.tasks hck⟩)
      · simp only [List.mem_cons, List.not_mem_nil, or_false] at hm
        rcases hm with e | e <;> subst e
        · trivial
        · exact fun d hdm => hsvop d (by simp [hdm])
      · -- the new task is waited for by the `yieldRel` in front of the loop
        refine ⟨fun k' hn => hn.elim, ⟨fun k' hn => ?_, trivial⟩⟩
        obtain ⟨_, hco, hm⟩ := hn
        rcases List.mem_append.mp hm with hm | hm
        · left
          obtain ⟨c1, c2⟩ := hordD.1 k' ⟨rfl, hco, hm⟩
          exact ⟨by rw [task_append_left hg.tasks c2]; exact c1, by omega⟩
        · right
          cases List.mem_singleton.mp hm
          exact ⟨rfl, by simp, kind_lt k1⟩
  | @gather ks hall hnf =>
    refine Exists.intro [] <| .plain hSr (.same hT rfl rfl rfl rfl) rfl (coverKept := fun s hc => Or.inl fun d hdm hvd => ?_)
    rcases hc d hdm hvd with h' | h' | ⟨k, hk, hck⟩
    · exact h'
    · cases h'
    · exact hd.cooked_done hck (by simpa [Task.done] using (List.all_eq_true.mp hall) k hk)
        (fun hf => hnf (by simp only [St.anyFailed, List.any_eq_true]; exact ⟨k, hk, hf⟩))
  | @waitOnly ks hall =>
    exact Exists.intro [] <| .plain hSr (.same hT rfl rfl rfl rfl) rfl
      (waitKept := fun k hk => Or.inl ⟨by simpa [Task.done] using (List.all_eq_true.mp hall) k hk.1, hk.2⟩)
  | @results ks hnf =>
    refine Exists.intro [] <| .plain hSr (.same hT rfl rfl rfl rfl) rfl (coverKept := fun s hc => Or.inl fun d hdm hvd => ?_)
    rcases hc d hdm hvd with h' | ⟨k, hk, hck, hdone⟩
    · exact h'
    · exact hd.cooked_done hck hdone (fun hf => hnf (by simp only [St.anyFailed, List.any_eq_true]; exact ⟨k, hk, hf⟩))
  | @cookBody s co _ hval =>
    obtain ⟨hall, hlock⟩ := cookBodyOps_all P s co
    have hb : ∀ o ∈ cookBodyOps P s co, o.sec = false ∧ (∀ s', o.relStep = some s' → s' = s) ∧ o.makesCook = false :=
      fun o hm => by
        have := List.all_eq_true.mp hall o hm
        simp only [Bool.and_eq_true, Bool.not_eq_eq_eq_not, Bool.not_true, Bool.or_eq_true, beq_iff_eq] at this
        exact ⟨this.1.1, fun s' hs => by rcases this.1.2 with e | e <;> rw [e] at hs <;> cases hs; rfl, this.2⟩
    exact Exists.intro [] {
      toQFrame := .evs hT [.pass t] rfl (fun _ h => h) (wasAlreadyRun_spec hpv ho.wv s co).1 rfl rfl
      pushed := fun o hm => .of_nosec (hb o hm).1 fun s' hs => (hb o hm).2.1 s' hs ▸ hval
      shape := secShape_append_nosec (fun o hm => (hb o hm).1) hSr
      bodyChk := Full.cookBodyOps_chk _ s co
      setRunHasRun := fun s' hm => by cases (hb _ hm).1
      liveKept := fun s' hlv _ _ => by
        have : s = s' ∧ co = false := by simpa [liveFor] using hlv
        obtain ⟨e1, e2⟩ := this
        subst e1; subst e2
        exact Or.inr ⟨_, hlock, by simp [liveFor]⟩
      spawnValid := fun o hm => Full.nocook_sv P (hb o hm).2.2
      bodyChkD := gchk_noneed _ _ fun o hm => Full.nocook_needsD (hb o hm).2.2 }
  | @underRan s co hw =>
    obtain ⟨ew, hran⟩ := wasAlreadyRun_spec hpv ho.wv s co
    exact Exists.intro [] <| .plain hSr (.same hT rfl rfl ew rfl) rfl (hop := fun _ => ⟨nofun, nofun, nofun⟩)
      (liveKept := fun s' hlv _ _ => ran _ s co ⟨[], by simp⟩ (hran.mp hw) s' (by simpa [liveFor] using hlv))
  | @underLock s co hw =>
    obtain ⟨ew, hran⟩ := wasAlreadyRun_spec hpv ho.wv s co
    have hval : (P.info s).valid = true := hv s rfl
    have hnot : ¬ RanAt st.wasRun (P.info s).path := fun hc => hw (hran.mpr (RanAt_WasOk hpv ho.wv co hc))
    obtain ⟨r', rfl⟩ := secShape_unlock (Or.inl ⟨co, rfl⟩) hshape
    have hdone : willRun P s co → depsDone P st s := fun hw' => hord.1 s ⟨rfl, hw'⟩
    exact Exists.intro [] {
      toQFrame := .same hT rfl rfl ew rfl
      pushed := fun o hm => by
        rcases underLockOps_mem hm with e | e | ⟨sk, e⟩ <;> subst e <;> simp [Pushed, Op.relStep, hval, hnot]
      shape := by
        rcases underLockOps_cases P s co with ⟨_, e | e⟩ | ⟨_, e⟩ <;> rw [e] <;> simpa [secShape] using hSr
      bodyChk := by
        rcases underLockOps_cases P s co with ⟨hw', e | e⟩ | ⟨_, e⟩ <;> rw [e]
        · exact Full.chk_run s (hdone hw')
        · exact gchk_cons_noneed (fun _ => id) (Full.chk_run s (hdone hw'))
        · exact gchk_cons_noneed (fun _ => id) trivial
      setRunHasRun := fun s' hm => by
        rcases underLockOps_cases P s co with ⟨_, e | e⟩ | ⟨_, e⟩ <;> rw [e] at hm ⊢ <;> simp at hm <;> simp [hm]
      liveKept := fun s' hlv _ _ => by
        have : s = s' ∧ co = false := by simpa [liveFor] using hlv
        obtain ⟨e1, e2⟩ := this
        subst e1; subst e2
        refine Or.inr ⟨.run s, ?_, by simp [liveFor]⟩
        rcases underLockOps_cases P s false with ⟨_, e | e⟩ | ⟨e, _⟩
        · rw [e]; simp
        · rw [e]; simp
        · cases e
      spawnValid := fun o hm => by rcases underLockOps_mem hm with e | e | ⟨sk, e⟩ <;> subst e <;> trivial
      bodyChkD := gchk_noneed _ _ fun o hm => by
        rcases underLockOps_mem hm with e | e | ⟨sk, e⟩ <;> subst e <;> exact fun _ => id }
  | @finish s ok =>
    exact Exists.intro [] {
      toQFrame := .same hT rfl rfl rfl rfl
      rw := fun s' r e => by cases e; exact ⟨_, _, rfl⟩
      pushed := fun o hm => by
        cases List.mem_singleton.mp hm
        exact ⟨hv, fun _ _ e => Or.inr ⟨none, by cases e; rfl⟩, fun _ e => by rcases e with e | e <;> cases e⟩
      shape := by simpa [secShape] using hshape
      bodyChk := ⟨fun s' hs => hord.1 s' hs, trivial⟩
      scriptKept := fun s' hh => by
        rcases hh with hh | ⟨r, hh⟩ <;> cases hh
        exact Or.inr (Or.inr ⟨some ok, by simp⟩)
      liveKept := fun s' hlv _ _ => Or.inr ⟨_, List.mem_singleton.mpr rfl, by simpa [liveFor] using hlv⟩
      spawnValid := fun o hm => by cases List.mem_singleton.mp hm; trivial
      bodyChkD := gchk_cons_noneed (fun _ => id) trivial }
  | @topPar targets =>
    obtain ⟨new, hg⟩ := createTops_spawn targets st
    exact Exists.intro new <| .plain hSr (.spawn hg (hT.grow hg.tasks (by rw [createTops_cookT]; exact fun _ h => h))) rfl
  | @topNext s todo made =>
    obtain ⟨new, hg⟩ := createTop_spawn st s
    exact Exists.intro new <| .plain hSr (.spawn hg (hT.grow hg.tasks (fun _ h => h))) rfl

theorem run_ord {s : Nat} (ho : OnceInv P st) (hl : LockInv P st) (hd : Full.DepsInv P st)
    (hops : (st.task t).ops = .run s :: rest) :
    OnceInv P ((st.emit (.start t s)).setTask t
      { kind := (st.task t).kind, ops := [.runWait s none] ++ rest, err := (st.task t).err }) ∧
    Full.DepsInv P ((st.emit (.start t s)).setTask t
      { kind := (st.task t).kind, ops := [.runWait s none] ++ rest, err := (st.task t).err }) := by
  have hord := hd.ord t
  rw [hops] at hord
  have hdone : depsDone P st s := hord.1 s rfl
  exact ⟨ho.runStep hl hops, hd.bodyStep hops (g := st.emit (.start t s)) (GrowT.same rfl)
    (fun p hp => finishedOk_append _ _ _ (hd.ranFin p hp)) ⟨[.start t s], rfl⟩
    (first_start t s hd.first hdone) (hd.track.same rfl rfl)
    { bodyChk := ⟨fun s' hs => by cases (show s' = s from hs); exact depsDone_mono ⟨[.start t s], rfl⟩ _ hdone, trivial⟩
      scriptKept := fun s' hh => by rcases hh with hh | ⟨r, hh⟩ <;> cases hh; exact Or.inr (Or.inr ⟨none, by simp⟩)
      liveKept := fun s' hlv _ _ => Or.inr ⟨_, List.mem_singleton.mpr rfl, by simpa [liveFor] using hlv⟩
      spawnValid := fun o hm => by cases List.mem_singleton.mp hm; trivial
      bodyChkD := gchk_cons_noneed (fun _ => id) trivial }⟩

theorem finOk_ord {s : Nat} (ho : OnceInv P st) (hl : LockInv P st) (hd : Full.DepsInv P st)
    (hops : (st.task t).ops = .runWait s (some true) :: rest) (ht : g.tasks = st.tasks) (hc : g.cookT = st.cookT)
    (hw : g.wasRun = st.wasRun) (htr : g.trace = st.trace ++ [.fin t s true]) :
    OnceInv P (g.setTask t { kind := (st.task t).kind, ops := [] ++ rest, err := (st.task t).err }) ∧
    Full.DepsInv P (g.setTask t { kind := (st.task t).kind, ops := [] ++ rest, err := (st.task t).err }) := by
  obtain ⟨q1, q2, q3⟩ := hd.quiet hw ⟨[.fin t s true], htr, by simp [Ev.isStart]⟩
  have hfin : finishedOk P g.trace (P.info s).path = true := by rw [htr]; exact finishedOk_fin _ _ _
  exact ⟨ho.finStep true hl hops ht hw htr { kind := (st.task t).kind, ops := rest, err := (st.task t).err }
      (fun o ho => ho) (secShape_tail (ho.head hops).1) (fun _ => rfl),
    hd.bodyStep (body := []) hops (GrowT.same ht) q1 q2 q3 (hd.track.same ht hc)
      { scriptKept := fun s' hh => by rcases hh with hh | ⟨r, hh⟩ <;> cases hh; exact Or.inl hfin
        liveKept := fun s' hlv _ _ => by
          have : s = s' := by simpa [liveFor] using hlv
          subst this
          exact Or.inl hfin }⟩

theorem setRun_ord {s : Nat} {sk : Bool} (ho : OnceInv P st) (hl : LockInv P st) (hd : Full.DepsInv P st)
    (hops : (st.task t).ops = .setRun s sk :: rest) {g : St}
    (hg : g = ({ st with wasRun := insert (P.info s).path ((P.info s).vid, sk) st.wasRun } : St).emit (.setRun t s sk)) :
    OnceInv P (g.setTask t { kind := (st.task t).kind, ops := [] ++ rest, err := (st.task t).err }) ∧
    Full.DepsInv P (g.setTask t { kind := (st.task t).kind, ops := [] ++ rest, err := (st.task t).err }) := by
  subst hg
  obtain ⟨r', rfl⟩ := secShape_unlock (Or.inr ⟨sk, rfl⟩) (ho.head hops).1
  refine ⟨ho.setRunStep hl hops, hd.bodyStep (body := []) hops
    (g := ({ st with wasRun := insert (P.info s).path ((P.info s).vid, sk) st.wasRun } : St).emit (.setRun t s sk))
    (GrowT.same rfl) ?_ ⟨[.setRun t s sk], rfl⟩ ?_ (hd.track.same rfl rfl) {}⟩
  · intro p hp
    simp only [emit_wasRun, emit_trace] at hp ⊢
    apply finishedOk_append
    by_cases hpp : p = (P.info s).path
    · subst hpp
      obtain ⟨v, hv⟩ := hp
      rw [lookup_insert_self] at hv
      have hsk : sk = false := by cases hv; rfl
      subst hsk
      -- the script of `s` has ended: its `run` / `runWait` cannot be behind the `unlock`
      have behind : ∀ o, (o = .run s ∨ ∃ r, o = .runWait s r) → o ∈ (st.task t).ops → False := fun o ho hm => by
        rw [hops] at hm
        simp only [List.mem_cons] at hm
        rcases hm with e | e | e
        · rcases ho with h | ⟨r, h⟩ <;> rw [h] at e <;> cases e
        · rcases ho with h | ⟨r, h⟩ <;> rw [h] at e <;> cases e
        · exact hl.single hops e (by rcases ho with h | ⟨r, h⟩ <;> subst h <;> rfl)
      rcases hd.setFin t s (by rw [hops]; simp) with h1 | h1 | ⟨r, h1⟩
      · exact h1
      · exact (behind _ (Or.inl rfl) h1).elim
      · exact (behind _ (Or.inr ⟨r, rfl⟩) h1).elim
    · exact hd.ranFin p ((RanAt_insert_ne _ hpp).mp hp)
  · simp only [emit_trace]
    rw [depsFirstFrom_append, hd.first, depsFirstFrom_quiet _ _ (by simp [Ev.isStart])]; rfl

theorem Rule.ord {cfg : Cfg} (hpv : PathVid P) (ho : OnceInv P st) (hl : LockInv P st) (hd : Full.DepsInv P st)
    (hops : (st.task t).ops = op :: rest) (hr : Rule P cfg st t op body g) :
    OnceInv P (g.setTask t { kind := (st.task t).kind, ops := body ++ rest, err := (st.task t).err }) ∧
    Full.DepsInv P (g.setTask t { kind := (st.task t).kind, ops := body ++ rest, err := (st.task t).err }) := by
  cases hown : op.ownRow with
  | false =>
    obtain ⟨_, h⟩ := hr.push hpv ho hd hops hown
    exact h.sound ho hl hd hops
  | true =>
    cases hr with
    | run => exact run_ord ho hl hd hops
    | finOk => exact finOk_ord ho hl hd hops rfl rfl rfl rfl
    | setRun => exact setRun_ord ho hl hd hops rfl
    | _ => cases hown

theorem TokRule.push {cfg : Cfg} {k : TKind} {r : Runners} (ho : OnceInv P st) (hd : Full.DepsInv P st)
    (hops : (st.task t).ops = op :: rest) (hk : (st.task t).kind = k) (hr : TokRule cfg st t k op r body g) :
    Push P st g [] t op rest body (st.task t).err := by
  have hT := hd.track
  have hSr := secShape_tail (ho.head hops).1
  have same : ∀ e ∈ st.cookT, e ∈ st.cookT := fun _ h => h
  -- the task has its job slot and enters its body; a cook task goes on to `_cookStep`
  have hrel : (prog cfg k ++ [Op.release]).all (fun o => o.relStep.isNone) = true := by cases k <;> rfl
  have hmk : (prog cfg k ++ [Op.release]).all (fun o => !o.makesCook) = true := by cases k <;> rfl
  have live : ∀ s, (st.task t).kind = .cook s false → ∃ o ∈ prog cfg k ++ [Op.release], liveFor s o = true :=
    fun s hk' => ⟨.cookBody s false, by simp [← hk, hk', prog], by simp [liveFor]⟩
  cases hr with
  | got he =>
    cases he with
    | start =>
      exact .plain hSr (.evs hT [.acq t, .got t] rfl same rfl (by simp) rfl) hrel
        (liveKept := fun s _ hk' _ => Or.inr (live s hk')) (spawnValid := sv_nocook hmk) (bodyChkD := chkD_nocook hmk)
    | reacq => exact .plain hSr (.evs hT [.acq t, .got t] rfl same rfl (by simp) rfl) rfl
  | blocked he =>
    cases he with
    | start =>
      exact .plain hSr (.evs hT [.acq t] rfl same rfl rfl rfl) rfl
        (liveKept := fun s _ _ _ => Or.inr ⟨.startWait, by simp, rfl⟩)
    | reacq => exact .plain hSr (.evs hT [.acq t] rfl same rfl rfl rfl) rfl
  | woken he =>
    cases he with
    | start =>
      exact .plain hSr (.evs hT [.got t] rfl same rfl rfl rfl) hrel
        (liveKept := fun s _ hk' _ => Or.inr (live s hk')) (spawnValid := sv_nocook hmk) (bodyChkD := chkD_nocook hmk)
    | reacq => exact .plain hSr (.evs hT [.got t] rfl same rfl rfl rfl) rfl
  | released hlv =>
    cases hlv with
    | release => exact .plain hSr (.evs hT [.rel t true] rfl same rfl rfl rfl) rfl
    | @yieldRel ks rs =>
      refine .plain hSr (.evs hT [.rel t true] rfl same rfl rfl rfl) (by cases rs <;> rfl)
        (coverKept := fun s hc => ?_) (waitKept := fun k' hk' => ?_) (spawnValid := sv_nocook (by cases rs <;> rfl))
        (bodyChkD := chkD_nocook (by cases rs <;> rfl))
      · obtain ⟨hrs, hcv⟩ := hc
        subst hrs
        exact Or.inr ⟨.gather ks, by simp,
          covered_mono ⟨[.rel t true], rfl⟩ (fun k d hh => cooks_grow (new := []) (by simp) hh) hcv⟩
      · obtain ⟨hrs, hm, hl'⟩ := hk'
        subst hrs
        exact Or.inr ⟨.waitOnly ks, by simp, hm, hl'⟩

theorem raise_ord (ho : OnceInv P st) (hl : LockInv P st) (hd : Full.DepsInv P st) (hops : (st.task t).ops = op :: rest)
    (e : Err) (evs : List Ev) (ht : g.tasks = st.tasks) (hc : g.cookT = st.cookT) (hw : g.wasRun = st.wasRun)
    (htr : g.trace = st.trace ++ evs) (hq : evs.all Ev.quiet = true)
    (hop1 : ∀ s r, op ≠ .runWait s r := by exact nofun) (hop2 : ∀ s, op ≠ .setRun s false := by exact nofun) :
    OnceInv P (g.setTask t (raise (st.task t) e rest)) ∧ Full.DepsInv P (g.setTask t (raise (st.task t) e rest)) :=
  have htr' : ∃ evs, g.trace = st.trace ++ evs ∧ ∀ e ∈ evs, e.quiet = true :=
    ⟨evs, htr, fun e hm => List.all_eq_true.mp hq e hm⟩
  ⟨ho.quietStep hl hops (.same ht) _ hw htr' (fun s r h => absurd h (hop1 s r)) hop2
      (fun _ hm => Or.inl (List.mem_filter.mp hm).1) (secShape_filter P rest),
    hd.raiseStep e hops ht hc hw (quiet_isStart htr')⟩

theorem ord_ofStep {cfg : Cfg} {st' : St} (hpv : PathVid P) (ho : OnceInv P st) (hwf : ∀ x ∈ st.tasks, x.wf = true)
    (hl : LockInv P st) (hd : Full.DepsInv P st) (hops : (st.task t).ops = op :: rest)
    (hs : Step P cfg st t op rest st') : OnceInv P st' ∧ Full.DepsInv P st' := by
  -- `wrapEnd` is the last operation of a continuation
  have fin : ∀ (g : St) (e : Option Err) (ev : List Ev), op = .wrapEnd → g.tasks = st.tasks → (∀ k ∈ g.cookT, k ∈ st.cookT) →
      g.wasRun = st.wasRun → g.trace = st.trace ++ ev → ev.all Ev.quiet = true →
      ((st.task t).err.isSome = true → e.isSome = true) →
      OnceInv P (g.setTask t { kind := (st.task t).kind, ops := [], err := e }) ∧
      Full.DepsInv P (g.setTask t { kind := (st.task t).kind, ops := [], err := e }) := by
    intro g e ev hop h1 h2 h3 h5 h6 h7
    subst hop
    obtain rfl := Step.end_rest hwf hops rfl
    exact (Push.plain (body := []) rfl (.evs hd.track ev h1 h2 h3 h5 h6) rfl (he := h7)).sound ho hl hd hops
  cases hs with
  | rule hr => exact hr.ord hpv ho hl hd hops
  | raise hr =>
    cases hr with
    | @finFail s =>
      exact ⟨ho.finStep (g := ({ st with disk := insert (P.info s).path (P.junk s) st.disk } : St).emit (.fin t s false))
          false hl hops rfl rfl rfl (raise (st.task t) .build rest) (fun o hm => (List.mem_filter.mp hm).1)
          (secShape_filter P rest) nofun,
        hd.raiseStep _ hops (g := ({ st with disk := insert (P.info s).path (P.junk s) st.disk } : St).emit (.fin t s false))
          rfl rfl rfl ⟨[.fin t s false], rfl, by simp [Ev.isStart]⟩⟩
    | _ => exact raise_ord ho hl hd hops _ [] rfl rfl rfl (List.append_nil _).symm rfl
  | tok hr => exact (hr.push ho hd hops rfl).sound ho hl hd hops
  | relFailed hlv =>
    cases hlv <;> exact raise_ord ho hl hd hops _ [.rel t false] (g := st.emit (.rel t false)) rfl rfl rfl rfl rfl
  | lock hr => exact (hr.push ho hd hops).sound ho hl hd hops
  | unlockFailed hop => subst hop; exact raise_ord ho hl hd hops _ [] rfl rfl rfl (List.append_nil _).symm rfl
  | endOk hop =>
    refine fin _ _ [.done t true] hop ?_ (fun k hk => ?_) ?_ ?_ rfl id
    · exact (untrack_frame P st _ (.done t true)).tasks.trans (List.append_nil _)
    · generalize (st.task t).kind = kd at hk
      cases kd
      case cook => exact mem_kremove hk
      all_goals exact hk
    · generalize (st.task t).kind = kd; cases kd <;> rfl
    · exact congrArg (· ++ _) (untrack_trace ..)
  | endCancel hop herr => exact fin _ _ [.done t false] hop rfl (fun _ h => h) rfl rfl rfl (fun _ => by simp [herr])
  | endBuild hop => exact fin _ _ [.failRec t, .done t false] hop rfl (fun _ h => h) rfl (by simp) rfl (fun _ => rfl)
  | endInternal hop => exact fin _ _ [.done t false] hop rfl (fun _ h => h) rfl rfl rfl (fun _ => rfl)

theorem ord_step {cfg : Cfg} {st' : St} {c : Choice} (hpv : PathVid P) (ho : OnceInv P st)
    (hwf : ∀ x ∈ st.tasks, x.wf = true) (hl : LockInv P st) (hd : Full.DepsInv P st)
    (h : step P cfg st c = some st') : OnceInv P st' ∧ Full.DepsInv P st' := by
  cases step_move h with
  | task hops hs | finish hops hs => exact ord_ofStep hpv ho hwf hl hd hops hs
  | env =>
    exact ⟨⟨ho.valid, ho.wv, ho.shape, ho.legal, ho.rwRunning, ho.runningRw, ho.okRan, ho.fresh⟩,
      ⟨hd.ranFin, hd.setFin, hd.live, hd.track, hd.sv, hd.ord, hd.first, hd.ordD⟩⟩

theorem ord_reach {n : Nat} {cfg : Cfg} {r0 : Runners} (hpv : PathVid P) (hr : GoodRunners n r0)
    (h : Reach P cfg r0 st) : OnceInv P st ∧ Full.DepsInv P st := by
  induction h with
  | init => exact ⟨OnceInv.init P cfg r0, Full.DepsInv.init P cfg r0⟩
  | step c hprev hs ih => exact ord_step hpv ih.1 (TokInv.reach hr hprev).wf (LockInv.reach hr hprev) ih.2 hs

end

theorem OnceInv.reach {n : Nat} {P : Project} {cfg : Cfg} {r0 : Runners} {st : St} (hpv : PathVid P)
    (hr : GoodRunners n r0) (h : Reach P cfg r0 st) : OnceInv P st :=
  (ord_reach hpv hr h).1

namespace Full

theorem DepsInv.reach {n : Nat} {P : Project} {cfg : Cfg} {r0 : Runners} {st : St} (hpv : PathVid P)
    (hr : GoodRunners n r0) (h : Reach P cfg r0 st) : DepsInv P st :=
  (ord_reach hpv hr h).2

/-- state form of **deps_first** -/
theorem needs_done {n : Nat} {P : Project} {cfg : Cfg} {r0 : Runners} {st : St} {t s : Nat} {op : Op} {rest : List Op}
    (hpv : PathVid P) (hr : GoodRunners n r0) (h : Reach P cfg r0 st) (hops : (st.task t).ops = op :: rest)
    (hn : needs P op s) : depsDone P st s := by
  have hord := (DepsInv.reach hpv hr h).ord t
  rw [hops] at hord
  exact hord.1 s hn

/-- **deps_first**, all modes -/
theorem deps_first_all {n : Nat} {P : Project} {cfg : Cfg} {r0 : Runners} {st : St} (hpv : PathVid P)
    (hr : GoodRunners n r0) (h : Reach P cfg r0 st) : depsFirst P st = true :=
  (DepsInv.reach hpv hr h).first

theorem depsAtEnd_all {n : Nat} {P : Project} {cfg : Cfg} {r0 : Runners} {st : St} (hpv : PathVid P)
    (hr : GoodRunners n r0) (h : Reach P cfg r0 st) : DepsAtEnd P st := by
  intro t s r rest hops
  exact needs_done hpv hr h hops rfl

end Full

/-- **schedule independence** -/
theorem ValInv.reach {n : Nat} {P : Project} {cfg : Cfg} {r0 : Runners} {st : St} {value : Nat → Nat}
    (hpv : PathVid P) (hval : ∀ s, value s = P.run s ((P.info s).bidDeps.map value))
    (hpath : ∀ s s', (P.info s).path = (P.info s').path → value s = value s') (hrd : ReadsDeps P)
    (hr : GoodRunners n r0) (h : Reach P cfg r0 st) : ValInv P value st := by
  induction h with
  | init => intro t s hm; simp [Sched.init] at hm
  | step c hprev hs ih =>
    exact ValInv.step hval hpath hrd (OnceInv.reach hpv hr hprev) (Full.depsAtEnd_all hpv hr hprev) ih hs

end Sched
