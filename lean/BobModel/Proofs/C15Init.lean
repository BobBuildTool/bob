import BobModel.Proofs.C15FF
/-
C15: initial states (any consistent store, any list of programs, all processes not yet started) satisfy the
invariants; reachability lemmas used by Props/C15.lean (`reach_invFF`: for every variant of the code with `Cfg.Fixes`).
-/
namespace C15
open Share

structure GoodStore (H : Nat → Nat) (g : Store) : Prop where
  repo : g.repo ≠ .torn
  pkgs : ∀ b d, g.final b = some d → Complete H d
  counts : CountInv g

def initSt (g : Store) (progs : List Prog) : St := ⟨g, mkProcs progs⟩

theorem getElem?_mkProcs {progs : List Prog} {i : Nat} {pi : Proc} (h : (mkProcs progs)[i]? = some pi) :
    pi.pc = .start ∧ pi.pub = false := by
  unfold mkProcs at h
  rw [List.getElem?_map] at h
  cases hp : progs[i]? with
  | none => rw [hp] at h; cases h
  | some pr => rw [hp] at h; simp at h; subst h; exact ⟨rfl, rfl⟩

theorem init_mutex (g : Store) (progs : List Prog) : Mutex (initSt g progs) := by
  intro i j pi pj hi _ hex _
  have := (getElem?_mkProcs hi).1
  rw [this] at hex; cases hex

theorem init_invVC (H : Nat → Nat) (g : Store) (progs : List Prog) (hg : GoodStore H g) : InvVC H (initSt g progs) :=
  ⟨hg.pkgs, fun i pi hi => by rw [(getElem?_mkProcs hi).1]; trivial, init_mutex g progs⟩

theorem init_pubInv (g : Store) (progs : List Prog) : PubInv (initSt g progs) := by
  intro i pi hi
  obtain ⟨h1, h2⟩ := getElem?_mkProcs hi
  rw [h1]; exact h2

theorem pubCount_mkProcs (progs : List Prog) (b : Bid) : pubCount (mkProcs progs) b = 0 := by
  unfold pubCount
  rw [List.countP_eq_zero]
  intro q hq
  obtain ⟨i, hi, rfl⟩ := List.getElem_of_mem hq
  have := (getElem?_mkProcs (List.getElem?_eq_getElem hi)).2
  simp [this]

/-- a property of the single process that holds before its first segment and that every segment preserves holds of every
process in every reachable state -/
theorem reach_procs_inv {Q : Proc → Prop} (H : Nat → Nat) (cfg : Cfg)
    (hstep : ∀ (g : Store) (pr : Proc) (exO shO : Bool), Q pr →
      Q { pr with pc := (stepPc H cfg pr.prog exO shO g pr.pc).2, pub := pr.pub || isPublish g pr.prog pr.pc })
    (g : Store) (progs : List Prog) (h0 : ∀ prog ∈ progs, Q ⟨prog, .start, false⟩) (sched : List Pid) (i : Nat) (pi : Proc)
    (hi : (run H cfg (initSt g progs) sched).procs[i]? = some pi) : Q pi :=
  run_inv (P := fun s => ∀ (i : Nat) (pi : Proc), s.procs[i]? = some pi → Q pi) H cfg (step_procs_inv H cfg hstep) _
    (fun i pi hi => by
      obtain ⟨prog, hp, rfl⟩ := List.mem_map.mp (List.mem_of_getElem? hi)
      exact h0 prog hp) sched i pi hi

theorem reach_pubInv (H : Nat → Nat) (cfg : Cfg) (g : Store) (progs : List Prog) (sched : List Pid) :
    PubInv (run H cfg (initSt g progs) sched) :=
  reach_procs_inv (Q := fun pr => PubOk pr.prog pr.pub pr.pc) H cfg
    (fun g pr exO shO => stepPc_pubOk H cfg pr.prog exO shO g pr.pc pr.pub) g progs (fun _ _ => rfl) sched

theorem reach_prog (H : Nat → Nat) (cfg : Cfg) (g : Store) (progs : List Prog) (sched : List Pid) (i : Nat) (pi : Proc)
    (hi : (run H cfg (initSt g progs) sched).procs[i]? = some pi) : pi.prog ∈ progs :=
  reach_procs_inv (Q := fun pr => pr.prog ∈ progs) H cfg (fun _ _ _ _ h => h) g progs (fun _ h => h) sched i pi hi

/-- a consistent store: repo.json (missing and empty both mean "no package") records exactly the installed
packages with the sizes of their pkg.json -/
structure GoodStoreFF (g : Store) (L : List (Bid × Nat)) : Prop where
  repo : logicalOf g.repo = L
  nodup : (keys L).Nodup
  recorded : ∀ b sz, (b, sz) ∈ L → ∃ d m, g.final b = some d ∧ d.info = some (.valid m) ∧ m.size = sz
  pkgs : ∀ b d, g.final b = some d → ∃ m, d.info = some (.valid m) ∧ (b, m.size) ∈ L

theorem init_invFF (g : Store) (L : List (Bid × Nat)) (progs : List Prog) (hg : GoodStoreFF g L) :
    InvFF (initSt g progs) L := by
  refine ⟨init_mutex g progs, ?_, ?_, hg.nodup, hg.recorded, ?_, ?_, ?_⟩
  · intro i pi hi; rw [(getElem?_mkProcs hi).1]; exact ⟨trivial, trivial, trivial⟩
  · left
    refine ⟨hg.repo, ?_⟩
    intro i pi rm hi hr
    rw [(getElem?_mkProcs hi).1] at hr; cases hr
  · intro b d hd
    obtain ⟨m, hm, h⟩ := hg.pkgs b d hd
    exact ⟨m, hm, Or.inl h⟩
  · intro i pi hi hw
    rw [(getElem?_mkProcs hi).1] at hw; cases hw
  · intro i j pi pj hi _ hw
    rw [(getElem?_mkProcs hi).1] at hw; cases hw

theorem init_repoNA (g : Store) (progs : List Prog) : RepoNA (initSt g progs) := by
  intro i pi hi hn
  rw [(getElem?_mkProcs hi).1] at hn; cases hn

theorem reach_invFF (H : Nat → Nat) {cfg : Cfg} (hc : cfg.Fixes) (g : Store) (L : List (Bid × Nat)) (progs : List Prog)
    (hg : GoodStoreFF g L) (sched : List Pid) : ∃ L', InvFF (run H cfg (initSt g progs) sched) L' :=
  (run_inv (P := fun s => (∃ L', InvFF s L') ∧ RepoNA s) H cfg
    (fun s p ⟨⟨L', h⟩, hn⟩ => ⟨invFF_step H hc s L' p h hn, repoNA_step H hc s p hn⟩) _
    ⟨⟨L, init_invFF g L progs hg⟩, init_repoNA g progs⟩ sched).1

theorem goodStore_empty (H : Nat → Nat) : GoodStore H emptyStore :=
  ⟨by simp [emptyStore], by intro b d h; simp [emptyStore] at h, by intro b; simp [emptyStore, present]⟩

/-- a store with one installed, recorded package -/
def g1 : Store :=
  { storeExists := true, repo := .valid [(1, 5)],
    final := upd (fun _ => none) 1 (some ⟨true, some 1, some (.valid ⟨1, 5, [100]⟩), 0⟩),
    links := fun _ => none, clock := 1, nInst := fun _ => 0, nGc := fun _ => 0 }

theorem goodStoreFF_g1 : GoodStoreFF g1 [(1, 5)] := by
  refine ⟨rfl, by decide, ?_, ?_⟩
  · intro b sz h
    simp only [List.mem_singleton, Prod.mk.injEq] at h
    obtain ⟨rfl, rfl⟩ := h
    exact ⟨⟨true, some 1, some (.valid ⟨1, 5, [100]⟩), 0⟩, ⟨1, 5, [100]⟩, rfl, rfl, rfl⟩
  · intro b d h
    by_cases e : b = 1
    · subst e
      have : d = ⟨true, some 1, some (.valid ⟨1, 5, [100]⟩), 0⟩ := by simpa [g1, upd] using h.symm
      subst this
      exact ⟨⟨1, 5, [100]⟩, rfl, by simp⟩
    · simp [g1, upd, e] at h

theorem goodStoreFF_empty : GoodStoreFF emptyStore [] := by
  refine ⟨rfl, by simp [keys], ?_, ?_⟩
  · intro b sz h; cases h
  · intro b d h; simp [emptyStore] at h

end C15
