import BobModel.Proofs.C18Worklist
import BobModel.Proofs.CommonSort
import BobModel.Spec.PathSem
/-
The graph relations behind the tables (`succs`, the parent table), the axis functions against
the declarative relations, backward evaluation of predicates, one step of the forward evaluation.
-/
namespace PathSpec

theorem mem_succs {g : Graph} {qi : Bool} {a b : Node} : b ∈ succs g qi a ↔ edge g qi a b := by
  simp only [succs, List.mem_map, List.mem_filter, edge, Bool.or_eq_true]
  constructor
  · rintro ⟨e, ⟨he, hq⟩, rfl⟩; exact ⟨e, he, rfl, hq⟩
  · rintro ⟨e, he, rfl, hq⟩; exact ⟨e, ⟨he, hq⟩, rfl⟩

theorem succs_rel_eq (g : Graph) (qi : Bool) : (fun a b => b ∈ succs g qi a) = edge g qi := by
  funext a b; exact propext mem_succs

theorem edge_true_of_edge {g : Graph} {qi : Bool} {a b : Node} (h : edge g qi a b) : edge g true a b := by
  obtain ⟨e, he, hn, _⟩ := h
  exact ⟨e, he, hn, Or.inl rfl⟩

theorem edge_lt {g : Graph} (hwf : g.WF) {qi : Bool} {a b : Node} (h : edge g qi a b) : b < g.size := by
  obtain ⟨e, he, rfl, _⟩ := h
  exact hwf.edge_lt a e he

theorem root_singleton_lt {g : Graph} (hwf : g.WF) : ∀ a ∈ [g.root], a < g.size := by
  simpa using hwf.root_lt

theorem transGen_edge_lt {g : Graph} (hwf : g.WF) {qi : Bool} {a b : Node}
    (h : Relation.TransGen (edge g qi) a b) : b < g.size := by
  cases h with
  | single h => exact edge_lt hwf h
  | tail _ h => exact edge_lt hwf h

/-- **the parent table is the inverse of the child table** (including the direct flag): since a
child occurs under one name only, the first edge to it is the only one -/
theorem mem_preds {g : Graph} (hwf : g.WF) {qi : Bool} {p x : Node} :
    p ∈ preds g qi x ↔ p < g.size ∧ edge g qi p x := by
  simp only [preds, allNodes, List.mem_filter, List.mem_range, parentFlag]
  refine and_congr_right fun _ => ?_
  cases hf : (g.children p).find? (fun e => e.node == x) with
  | none =>
    have hnone := List.find?_eq_none.mp hf
    simp only [Option.map_none, Bool.false_eq_true, false_iff]
    rintro ⟨e, he, hnode, _⟩
    exact hnone e he (by simpa using hnode)
  | some e =>
    have hmem := List.mem_of_find?_eq_some hf
    have hnode : e.node = x := by simpa using List.find?_some hf
    simp only [Option.map_some, Bool.or_eq_true]
    constructor
    · intro h; exact ⟨e, hmem, hnode, h⟩
    · rintro ⟨e', he', hnode', hq⟩
      rwa [SortKey.eq_of_nodup_map (hwf.targets_nodup p) hmem he' (by rw [hnode, hnode'])]

theorem transGen_inRange {g : Graph} (hwf : g.WF) {qi : Bool} {a b : Node} :
    Relation.TransGen (fun p x => p < g.size ∧ edge g qi p x) a b ↔
      a < g.size ∧ Relation.TransGen (edge g qi) a b := by
  constructor
  · intro t
    obtain ⟨c, hc, _⟩ := transGen_head_iff.mp t
    exact ⟨hc.1, transGen_mono (fun _ _ h => h.2) t⟩
  · rintro ⟨ha, t⟩
    induction t with
    | single h => exact .single ⟨ha, h⟩
    | tail t h ih => exact .tail ih ⟨transGen_edge_lt hwf t, h⟩

theorem reach_refl (g : Graph) (a : Node) : Reach g a a := Or.inl rfl

theorem reach_trans {g : Graph} {a b c : Node} (h1 : Reach g a b) (h2 : Reach g b c) : Reach g a c := by
  rcases h1 with rfl | h1
  · exact h2
  · rcases h2 with rfl | h2
    · exact Or.inr h1
    · exact Or.inr (h1.trans h2)

theorem reach_of_edge {g : Graph} {qi : Bool} {a b : Node} (h : edge g qi a b) : Reach g a b :=
  Or.inr (.single (edge_true_of_edge h))

theorem reach_of_transGen {g : Graph} {qi : Bool} {a b : Node} (h : Relation.TransGen (edge g qi) a b) :
    Reach g a b :=
  Or.inr (transGen_mono (fun _ _ h => edge_true_of_edge h) h)

theorem reach_of_axisRel {g : Graph} {ax : Axis} {a b : Node} (h : axisRel g ax a b) : Reach g a b := by
  cases ax <;> simp only [axisRel] at h
  · exact Or.inl h
  · exact reach_of_edge h
  · exact Or.inr h
  · exact h
  · exact reach_of_edge h
  · exact reach_of_transGen h
  · exact h.elim Or.inl reach_of_transGen

theorem reach_lt {g : Graph} (hwf : g.WF) {a b : Node} (ha : a < g.size) (h : Reach g a b) : b < g.size := by
  rcases h with rfl | h
  · exact ha
  · exact transGen_edge_lt hwf h

theorem axisRel_lt {g : Graph} (hwf : g.WF) {ax : Axis} {a b : Node} (ha : a < g.size)
    (h : axisRel g ax a b) : b < g.size :=
  reach_lt hwf ha (reach_of_axisRel h)

theorem worklist_succs {g : Graph} (hwf : g.WF) (nodes : List Node) (qi : Bool) :
    ∃ r, worklist (succs g qi) (g.size + 2) nodes [] = some r ∧
      ∀ x, x ∈ r ↔ ∃ n ∈ nodes, Relation.TransGen (edge g qi) n x := by
  have h := worklist_spec (succs g qi) g.size (fun a b h => edge_lt hwf (mem_succs.mp h)) nodes
  rwa [succs_rel_eq] at h

theorem worklist_preds {g : Graph} (hwf : g.WF) (nodes : List Node) (qi : Bool) :
    ∃ r, worklist (preds g qi) (g.size + 2) nodes [] = some r ∧
      ∀ x, x ∈ r ↔ x < g.size ∧ ∃ n ∈ nodes, Relation.TransGen (edge g qi) x n := by
  obtain ⟨r, hr, h⟩ := worklist_spec (preds g qi) g.size (fun a b h => ((mem_preds hwf).mp h).1) nodes
  refine ⟨r, hr, fun x => ?_⟩
  have hrel : (fun a b => b ∈ preds g qi a) = fun a b => (fun p x => p < g.size ∧ edge g qi p x) b a :=
    funext fun a => funext fun b => propext (mem_preds hwf)
  rw [h, hrel]
  simp only [transGen_flip, transGen_inRange hwf]
  exact ⟨fun ⟨n, hn, hx, t⟩ => ⟨hx, n, hn, t⟩, fun ⟨hx, n, hn, t⟩ => ⟨n, hn, hx, t⟩⟩

theorem mem_evalAxisChild {g : Graph} {ns : List Node} {qi : Bool} {x : Node} :
    x ∈ evalAxisChild g ns qi ↔ ∃ n ∈ ns, edge g qi n x := by
  simp only [evalAxisChild, mem_dedup, List.mem_flatMap, mem_succs]

theorem mem_evalAxisDescendant {g : Graph} (hwf : g.WF) {ns : List Node} {qi : Bool} {x : Node} :
    x ∈ evalAxisDescendant g ns qi ↔ ∃ n ∈ ns, Relation.TransGen (edge g qi) n x := by
  obtain ⟨r, hr, h⟩ := worklist_succs hwf ns qi
  rw [evalAxisDescendant, hr]
  exact h x

theorem mem_evalAxisParent {g : Graph} (hwf : g.WF) {ns : List Node} {qi : Bool} {x : Node} :
    x ∈ evalAxisParent g ns qi ↔ x < g.size ∧ ∃ n ∈ ns, edge g qi x n := by
  simp only [evalAxisParent, mem_dedup, List.mem_flatMap, mem_preds hwf]
  exact ⟨fun ⟨n, hn, hx, he⟩ => ⟨hx, n, hn, he⟩, fun ⟨hx, n, hn, he⟩ => ⟨n, hn, hx, he⟩⟩

theorem mem_evalAxisAncestor {g : Graph} (hwf : g.WF) {ns : List Node} {qi : Bool} {x : Node} :
    x ∈ evalAxisAncestor g ns qi ↔ x < g.size ∧ ∃ n ∈ ns, Relation.TransGen (edge g qi) x n := by
  obtain ⟨r, hr, h⟩ := worklist_preds hwf ns qi
  rw [evalAxisAncestor, hr]
  exact h x

/-- the `-or-self` axes add the context nodes themselves -/
theorem exists_or_self {p : Node → Prop} {ns : List Node} {x : Node} :
    ((∃ n ∈ ns, p n) ∨ x ∈ ns) ↔ ∃ n ∈ ns, n = x ∨ p n := by
  constructor
  · rintro (⟨n, hn, h⟩ | hx)
    · exact ⟨n, hn, Or.inr h⟩
    · exact ⟨x, hx, Or.inl rfl⟩
  · rintro ⟨n, hn, rfl | h⟩
    · exact Or.inr hn
    · exact Or.inl ⟨n, hn, h⟩

theorem mem_axisForward {g : Graph} (hwf : g.WF) {ax : Axis} {ns : List Node} {x : Node} :
    x ∈ (axisForward g ax ns).1 ↔ ∃ n ∈ ns, axisRel g ax n x := by
  cases ax <;>
    simp only [axisForward, axisRel, mem_evalAxisChild, mem_evalAxisDescendant hwf, mem_union, exists_or_self,
      exists_eq_right]

theorem mem_axisBackward {g : Graph} (hwf : g.WF) {ax : Axis} {s : List Node} {x : Node} (hx : x < g.size) :
    x ∈ axisBackward g ax s ↔ ∃ c ∈ s, axisRel g ax x c := by
  cases ax <;>
    simp only [axisBackward, axisRel, mem_evalAxisParent hwf, mem_evalAxisAncestor hwf, mem_union, hx, true_and,
      exists_or_self, exists_eq_right, @eq_comm _ x]

theorem mem_nameFilter {g : Graph} {test : Str} {ns : List Node} {x : Node} :
    x ∈ nameFilter g test ns ↔ x ∈ ns ∧ nameTest test (g.name x) = true := by
  unfold nameFilter nameTest
  split
  · simp
  · split <;> simp

theorem sem_lt {g : Graph} (hwf : g.WF) : ∀ (s : Steps) {a b : Node}, a < g.size → sem g s a b → b < g.size
  | .nil, a, b, ha, h => by simp only [sem] at h; subst h; exact ha
  | .cons ax test op rest, a, b, ha, h => by
    simp only [sem] at h
    obtain ⟨c, hax, _, _, hrest⟩ := h
    exact sem_lt hwf rest (axisRel_lt hwf ha hax) hrest

theorem exists_allNodes_sem {g : Graph} (hwf : g.WF) (s : Steps) {n : Node} (hn : n < g.size) :
    (∃ m ∈ allNodes g, sem g s n m) ↔ ∃ m, sem g s n m :=
  ⟨fun ⟨m, _, h⟩ => ⟨m, h⟩, fun ⟨m, h⟩ => ⟨m, mem_allNodes.mpr (sem_lt hwf s hn h), h⟩⟩

mutual
theorem pred_back {g : Graph} (hwf : g.WF) :
    ∀ (p : Pred) (n : Node), n < g.size → (n ∈ p.evalBackward g ↔ holds g p n)
  | .not p, n, hn => by
    simp only [Pred.evalBackward, holds, mem_diff, mem_allNodes, hn, true_and, pred_back hwf p n hn]
  | .and l r, n, hn => by
    simp only [Pred.evalBackward, holds, mem_inter, pred_back hwf l n hn, pred_back hwf r n hn]
  | .or l r, n, hn => by
    simp only [Pred.evalBackward, holds, mem_union, pred_back hwf l n hn, pred_back hwf r n hn]
  | .path abs steps, n, hn => by
    -- started from all nodes, the backward evaluation finds the nodes where the path selects something
    have key : ∀ a, a < g.size → (a ∈ steps.evalBackward g (allNodes g) ↔ ∃ m, sem g steps a m) :=
      fun a ha => (steps_back hwf steps _ a ha).trans (exists_allNodes_sem hwf steps ha)
    cases abs with
    | false => simpa only [Pred.evalBackward, holds, Bool.false_eq_true, if_false] using key n hn
    | true =>
      simp only [Pred.evalBackward, holds, if_true, List.contains_eq_mem, decide_eq_true_eq,
        ← key g.root hwf.root_lt]
      split <;> simp [*, mem_allNodes]
  | .cmp op l r, n, hn => by
    simp [Pred.evalBackward, holds, mem_allNodes, hn]
  | .truth e, n, hn => by
    simp [Pred.evalBackward, holds, mem_allNodes, hn]
theorem opt_back {g : Graph} (hwf : g.WF) :
    ∀ (op : OptPred) (ns : List Node) (n : Node), n < g.size →
      (n ∈ op.restrict g ns ↔ n ∈ ns ∧ holdsOpt g op n)
  | .none, ns, n, _ => by simp [OptPred.restrict, holdsOpt]
  | .some p, ns, n, hn => by
    simp only [OptPred.restrict, holdsOpt, mem_inter, pred_back hwf p n hn]
theorem steps_back {g : Graph} (hwf : g.WF) :
    ∀ (s : Steps) (ns : List Node) (n : Node), n < g.size →
      (n ∈ s.evalBackward g ns ↔ ∃ m ∈ ns, sem g s n m)
  | .nil, ns, n, _ => by
    simp only [Steps.evalBackward, sem, exists_eq_right']
  | .cons ax test op rest, ns, n, hn => by
    simp only [Steps.evalBackward, sem]
    rw [mem_axisBackward hwf hn]
    constructor
    · rintro ⟨c, hc, hax⟩
      have hcl := axisRel_lt hwf hn hax
      obtain ⟨hc1, hop⟩ := (opt_back hwf op _ c hcl).mp hc
      obtain ⟨hc2, hname⟩ := mem_nameFilter.mp hc1
      obtain ⟨m, hm, hsem⟩ := (steps_back hwf rest ns c hcl).mp hc2
      exact ⟨m, hm, c, hax, hname, hop, hsem⟩
    · rintro ⟨m, hm, c, hax, hname, hop, hsem⟩
      have hcl := axisRel_lt hwf hn hax
      exact ⟨c, (opt_back hwf op _ c hcl).mpr
        ⟨mem_nameFilter.mpr ⟨(steps_back hwf rest ns c hcl).mpr ⟨m, hm, hsem⟩, hname⟩, hop⟩, hax⟩
end

theorem steps_back_all {g : Graph} (hwf : g.WF) (s : Steps) {n : Node} (hn : n < g.size) :
    n ∈ s.evalBackward g (allNodes g) ↔ ∃ m, sem g s n m := by
  simpa only [Pred.evalBackward, holds, Bool.false_eq_true, if_false] using pred_back hwf (.path false s) n hn

theorem restrict_subset {g : Graph} {op : OptPred} {ns : List Node} {x : Node} (h : x ∈ op.restrict g ns) :
    x ∈ ns := by
  cases op with
  | none => exact h
  | some p => exact (mem_inter.mp h).1

theorem mem_stepForward {g : Graph} (hwf : g.WF) {ax : Axis} {test : Str} {op : OptPred} {old : List Node}
    (hold : ∀ a ∈ old, a < g.size) {x : Node} :
    x ∈ (stepForward g ax test op old).1 ↔
      ∃ a ∈ old, axisRel g ax a x ∧ nameTest test (g.name x) = true ∧ holdsOpt g op x := by
  simp only [stepForward]
  constructor
  · intro h
    obtain ⟨hx, hname⟩ := mem_nameFilter.mp (restrict_subset h)
    obtain ⟨a, ha, hax⟩ := (mem_axisForward hwf).mp hx
    exact ⟨a, ha, hax, hname, ((opt_back hwf op _ x (axisRel_lt hwf (hold a ha) hax)).mp h).2⟩
  · rintro ⟨a, ha, hax, hname, hop⟩
    exact (opt_back hwf op _ x (axisRel_lt hwf (hold a ha) hax)).mpr
      ⟨mem_nameFilter.mpr ⟨(mem_axisForward hwf).mpr ⟨a, ha, hax⟩, hname⟩, hop⟩

theorem stepForward_lt {g : Graph} (hwf : g.WF) {ax : Axis} {test : Str} {op : OptPred} {old : List Node}
    (hold : ∀ a ∈ old, a < g.size) : ∀ x ∈ (stepForward g ax test op old).1, x < g.size := by
  intro x hx
  obtain ⟨a, ha, hax, _⟩ := (mem_stepForward hwf hold).mp hx
  exact axisRel_lt hwf (hold a ha) hax

end PathSpec
