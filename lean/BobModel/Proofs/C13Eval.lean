import BobModel.Proofs.C13Quote
/-
`evalCmds` on the text rendered from a well-formed command list computes the
fold of the commands' intended meaning.
-/
namespace ShellEnv

theorem joinWith_cons (sep x : Str) : ∀ xs : List Str, joinWith sep (x :: xs) = x ++ xs.flatMap (sep ++ ·)
  | [] => by rw [joinWith, List.flatMap_nil, List.append_nil]
  | y :: ys => by rw [joinWith, joinWith_cons sep y ys, List.flatMap_cons, List.append_assoc, List.append_assoc]

theorem joinWith_append (sep x y : Str) (xs ys : List Str) :
    joinWith sep (x :: xs ++ y :: ys) = joinWith sep (x :: xs) ++ sep ++ joinWith sep (y :: ys) := by
  simp only [List.cons_append, joinWith_cons, List.flatMap_append, List.flatMap_cons, List.append_assoc]

theorem joinWith_len (sep : Str) (hs : sep.length = 1) : ∀ xs : List Str, xs.length ≤ (joinWith sep xs).length + 1
  | [] => by simp [joinWith]
  | [x] => by simp [joinWith]
  | x :: y :: r => by
    have := joinWith_len sep hs (y :: r)
    simp only [joinWith, List.length_append, List.length_cons] at *
    omega

theorem stripPrefix_append : ∀ (p t : Str), stripPrefix p (p ++ t) = some t
  | [], t => by simp [stripPrefix]
  | c :: p, t => by simp [stripPrefix, stripPrefix_append p t]

theorem stripPrefix_some : ∀ (p t r : Str), stripPrefix p t = some r → t = p ++ r
  | [], t, r, h => by simp [stripPrefix] at h; simp [h]
  | _ :: _, [], r, h => by simp [stripPrefix] at h
  | a :: p, c :: t, r, h => by
    simp only [stripPrefix] at h
    split at h
    · rename_i hac
      rw [hac, stripPrefix_some p t r h]; rfl
    · exact absurd h (by simp)

theorem isNameStart_isNameChar {c : Char} (h : isNameStart c = true) : isNameChar c = true := by
  simp only [isNameStart, isNameChar, Char.isAlphanum, Bool.or_eq_true] at *
  rcases h with h | h
  · exact Or.inl (Or.inl h)
  · exact Or.inr h

theorem isIdent_all {n : Str} (h : isIdent n = true) : n.all isNameChar = true ∧ headIs isNameStart n = true := by
  cases n with
  | nil => simp [isIdent] at h
  | cons c r =>
    simp only [isIdent, Bool.and_eq_true] at h
    simp [headIs, h.1, h.2, isNameStart_isNameChar h.1]

theorem spanName_append : ∀ (n rest : Str), n.all isNameChar = true → headIs isNameChar rest = false →
    spanName (n ++ rest) = (n, rest)
  | [], rest, _, h => by
    cases rest with
    | nil => simp [spanName]
    | cons c r => simp only [headIs] at h; simp [spanName, h]
  | c :: n, rest, hn, h => by
    simp only [List.all_cons, Bool.and_eq_true] at hn
    simp [spanName, hn.1, spanName_append n rest hn.2 h]

theorem spanName_ident {n : Str} (hid : isIdent n = true) (rest : Str) :
    spanName (n ++ '=' :: rest) = (n, '=' :: rest) :=
  spanName_append _ _ (isIdent_all hid).1 (by decide : isNameChar '=' = false)

theorem headIs_append {p : Char → Bool} {n : Str} (rest : Str) (h : headIs p n = true) :
    headIs p (n ++ rest) = true := by
  cases n with
  | nil => simp [headIs] at h
  | cons c r => simpa [headIs] using h

theorem tail_headIs_name {tl : Str} (h : Tail tl) : headIs isNameChar tl = false := by
  rcases h with h | ⟨r, h⟩ <;> subst h
  · rfl
  · simp only [headIs]; decide

theorem lexWord_tail (E : Env) (acc : Str) {tl : Str} (h : Tail tl) :
    lexWord E wordStop .unq acc tl = .ok (acc, tl) := by
  rcases h with h | ⟨r, h⟩ <;> subst h
  · exact lexWord_unq_nil E wordStop acc
  · exact lexWord_unq_stop E acc r (by decide)

theorem endCmd_tail {tl : Str} (h : Tail tl) : endCmd tl = .ok tl.tail := by
  rcases h with h | ⟨r, h⟩ <;> subst h <;> simp [endCmd]

theorem dropLine_append : ∀ (t : Str) {tl : Str}, '\n' ∉ t → Tail tl → dropLine (t ++ tl) = tl.tail
  | [], tl, _, h => by
    rcases h with h | ⟨r, h⟩ <;> subst h <;> simp [dropLine]
  | c :: t, tl, hn, h => by
    have hc : c ≠ '\n' := fun e => hn (by simp [e])
    have ht : '\n' ∉ t := fun e => hn (by simp [e])
    simp [dropLine, hc, dropLine_append t ht h]

theorem varPath_facts :
    Consts.C13.varPath.all isNameChar = true ∧ headIs isNameStart Consts.C13.varPath = true :=
  isIdent_all (by decide)

theorem lexWord_dollarPath (E : Env) {tl : Str} (htl : Tail tl) (acc : Str) :
    lexWord E wordStop .unq acc (dollarPath ++ tl) = .ok (acc ++ (lookup E Consts.C13.varPath).getD [], tl) := by
  rw [dollarPath, List.cons_append, lexWord_unq_dollar E acc _ (by decide), expandTail,
    spanName_append _ _ varPath_facts.1 (tail_headIs_name htl), headIs_append _ varPath_facts.2]
  rcases htl with h | ⟨r, h⟩ <;> subst h <;> rfl

theorem lexWord_quotedParts (E : Env) : ∀ (ps : List Str) (acc rest : Str), (∀ p ∈ ps, NoNul p) →
    lexWord E wordStop .unq acc (joinWith [':'] (ps.map shlexQuote) ++ rest) =
      lexWord E wordStop .unq (acc ++ joinWith [':'] ps) rest
  | [], acc, rest, _ => by rw [List.map_nil, joinWith, List.nil_append, List.append_nil]
  | [p], acc, rest, hn => lexWord_quote E safeStop_word p acc rest (hn p List.mem_cons_self)
  | p :: q :: ps, acc, rest, hn => by
    rw [List.map_cons, List.map_cons, joinWith, ← List.map_cons, joinWith, List.append_assoc, List.append_assoc,
      lexWord_quote E safeStop_word p acc _ (hn p List.mem_cons_self), List.singleton_append,
      lexWord_unq_safe E safeStop_word _ _ (by decide),
      lexWord_quotedParts E (q :: ps) _ rest fun x hx => hn x (List.mem_cons_of_mem p hx),
      List.append_assoc, List.append_assoc, List.append_assoc]

theorem lexWord_rhs (E : Env) (e : Export) {tl : Str} (htl : Tail tl) (hn : ∀ p ∈ e.parts, NoNul p) (acc : Str) :
    lexWord E wordStop .unq acc (e.rhs ++ tl) = .ok (acc ++ e.value E, tl) := by
  rw [Export.rhs, Export.value]
  cases e.withPath
  · rw [if_neg Bool.false_ne_true, if_neg Bool.false_ne_true, List.append_nil, List.append_nil,
      lexWord_quotedParts E _ _ _ hn]
    exact lexWord_tail E _ htl
  · rw [if_pos rfl, if_pos rfl]
    cases hp : e.parts with
    | nil => exact lexWord_dollarPath E htl acc
    | cons p ps =>
      rw [List.map_cons, joinWith_append, joinWith_append, ← List.map_cons, List.append_assoc, List.append_assoc,
        lexWord_quotedParts E (p :: ps) _ _ (hp ▸ hn), List.singleton_append,
        lexWord_unq_safe E safeStop_word _ _ (by decide), joinWith, joinWith, lexWord_dollarPath E htl,
        List.append_assoc, List.append_assoc, List.append_assoc]

theorem parseExport_render (sh : Sh) (e : Export) {tl : Str} (htl : Tail tl)
    (hid : isIdent e.name = true) (hn : ∀ p ∈ e.parts, NoNul p) :
    parseExport sh (e.name ++ '=' :: (e.rhs ++ tl)) = .ok (Cmd.eval sh (.export e), tl.tail) := by
  unfold parseExport
  simp only [spanName_ident hid, hid, ne_eq, not_true_eq_false, if_false, Bool.not_true, Bool.false_eq_true,
    lexWord_rhs sh.env e htl hn [], endCmd_tail htl]
  rfl

theorem parseElems_blank (E : Env) (f : Nat) (acc : List (Str × Str)) (t : Str) :
    parseElems E (f + 1) acc (' ' :: t) = parseElems E (f + 1) acc t := by
  simp only [parseElems, skipBlanks, decide_true, Bool.true_or, if_true]

theorem parseElems_close (E : Env) (f : Nat) (acc : List (Str × Str)) (tl : Str) :
    parseElems E (f + 1) acc (')' :: tl) = .ok (acc, tl) := by
  simp [parseElems, skipBlanks]

/-- one `[key]=value`; the blank that ends the value is left for the next round -/
theorem parseElems_elem (E : Env) (f : Nat) (acc : List (Str × Str)) (kv : Str × Str) {rest : Str}
    (hr : ∃ r, rest = ' ' :: r) (h : kv.1 ≠ [] ∧ NoNul kv.1 ∧ NoNul kv.2) :
    parseElems E (f + 1) acc (renderElem kv ++ rest) = parseElems E f (kv :: acc) rest := by
  obtain ⟨r, rfl⟩ := hr
  have hk : lexWord E subStop .unq [] (shlexQuote kv.1 ++ ']' :: '=' :: (shlexQuote kv.2 ++ ' ' :: r)) =
      .ok (kv.1, ']' :: '=' :: (shlexQuote kv.2 ++ ' ' :: r)) := by
    rw [lexWord_quote E safeStop_sub kv.1 [] _ h.2.1]
    exact lexWord_unq_stop E _ _ (by decide)
  have hv : lexWord E wordStop .unq [] (shlexQuote kv.2 ++ ' ' :: r) = .ok (kv.2, ' ' :: r) := by
    rw [lexWord_quote E safeStop_word kv.2 [] _ h.2.2]
    exact lexWord_unq_stop E _ _ (by decide)
  have hne : kv.1.isEmpty = false := by
    cases hk1 : kv.1 with
    | nil => exact absurd hk1 h.1
    | cons a b => rfl
  simp only [parseElems, renderElem, List.cons_append, List.append_assoc, skipBlanks, show ¬ ('[' = ')') by decide,
    show ('[' = ' ' || '[' = '\t') = false by decide, if_false, if_true, hk, hv, decide_true, Bool.and_self, hne,
    Bool.false_eq_true]

theorem parseElems_render (E : Env) (tl : Str) :
    ∀ (es : List (Str × Str)) (f : Nat) (acc : List (Str × Str)),
      es.length < f → (∀ e ∈ es, e.1 ≠ [] ∧ NoNul e.1 ∧ NoNul e.2) →
      parseElems E f acc (es.flatMap ([' '] ++ renderElem ·) ++ ' ' :: ')' :: tl) = .ok (es.reverse ++ acc, tl)
  | [], f + 1, acc, _, _ => by rw [List.flatMap_nil, List.nil_append, parseElems_blank, parseElems_close]; rfl
  | e :: es, f + 1, acc, hf, hwf => by
    have ih := parseElems_render E tl es f (e :: acc) (Nat.lt_of_succ_lt_succ hf)
      fun x hx => hwf x (List.mem_cons_of_mem e hx)
    rw [List.flatMap_cons, List.append_assoc, List.append_assoc, List.singleton_append, parseElems_blank,
      parseElems_elem E f acc e (by cases es <;> exact ⟨_, rfl⟩) (hwf e List.mem_cons_self), ih,
      List.reverse_cons, List.append_assoc, List.singleton_append]

theorem parseDeclare_render (sh : Sh) (n : Str) (es : List (Str × Str)) {tl : Str} (htl : Tail tl)
    (hid : isIdent n = true) (hwf : ∀ e ∈ es, e.1 ≠ [] ∧ NoNul e.1 ∧ NoNul e.2) :
    parseDeclare sh (n ++ (['=', '(', ' '] ++ (joinWith [' '] (es.map renderElem) ++ ([' ', ')'] ++ tl)))) =
      .ok (Cmd.eval sh (.declareA n es), tl.tail) := by
  -- behind `=(` the text is the elements, each with a blank in front, and ` )`; an empty list gives two blanks
  have helems : ∀ f, es.length < f + 1 →
      parseElems sh.env (f + 1) [] (' ' :: (joinWith [' '] (es.map renderElem) ++ ' ' :: ')' :: tl)) =
        .ok (es.reverse, tl) := fun f hf => by
    have := parseElems_render sh.env tl es (f + 1) [] hf hwf
    rw [List.append_nil] at this
    cases es with
    | nil => rw [← this, List.map_nil, joinWith, List.nil_append, parseElems_blank]; rfl
    | cons e es => rw [← this, List.map_cons, joinWith_cons, List.flatMap_map]; rfl
  have hlen := joinWith_len [' '] rfl (es.map renderElem)
  unfold parseDeclare
  simp only [List.cons_append, List.nil_append, spanName_ident hid, hid, Bool.not_true, Bool.false_eq_true,
    if_false, stripPrefix, if_true]
  rw [helems _ (by simp only [List.length_cons, List.length_append, List.length_map] at hlen ⊢; omega)]
  simp [endCmd_tail htl, Cmd.eval]

theorem evalCmds_nil (f : Nat) (sh : Sh) : evalCmds f sh [] = .ok sh := by
  cases f <;> rfl

theorem evalCmds_newline (f : Nat) (sh : Sh) (r : Str) : evalCmds (f + 1) sh ('\n' :: r) = evalCmds f sh r := by
  rw [evalCmds, if_pos rfl]

theorem evalCmds_comment (f : Nat) (sh : Sh) (r : Str) :
    evalCmds (f + 1) sh ('#' :: r) = evalCmds f sh (dropLine r) := by
  rw [evalCmds, if_neg (by decide), if_pos rfl]

/- The dispatch on the three keywords is a computation on their fixed text. -/

theorem evalCmds_export (f : Nat) (sh : Sh) (t : Str) :
    evalCmds (f + 1) sh (kwExport ++ t) =
      match parseExport sh t with
      | .error e => .error e
      | .ok (sh', r) => evalCmds f sh' r :=
  rfl

theorem evalCmds_declare (f : Nat) (sh : Sh) (t : Str) :
    evalCmds (f + 1) sh (kwDeclare ++ t) =
      match parseDeclare sh t with
      | .error e => .error e
      | .ok (sh', r) => evalCmds f sh' r :=
  rfl

theorem evalCmds_setO (f : Nat) (sh : Sh) (t : Str) : evalCmds (f + 1) sh (kwSetO ++ t) = evalCmds f sh (dropLine t) :=
  rfl

theorem evalCmds_cmd (f : Nat) (sh : Sh) (c : Cmd) {tl : Str} (htl : Tail tl) (hwf : c.WF) :
    evalCmds (f + 1) sh (c.render ++ tl) = evalCmds f (c.eval sh) tl.tail := by
  cases c with
  | line t =>
    obtain ⟨h1 | ⟨r, h1⟩, h2⟩ := hwf <;> subst h1
    · rcases htl with h | ⟨r, h⟩ <;> subst h
      · exact (evalCmds_nil _ sh).trans (evalCmds_nil _ sh).symm
      · exact evalCmds_newline f sh r
    · rw [Cmd.render, List.cons_append, evalCmds_comment, dropLine_append r (fun e => h2 (List.mem_cons_of_mem _ e)) htl]
      rfl
  | raw t => exact hwf.elim
  | declareA n es =>
    rw [Cmd.render, List.append_assoc, List.append_assoc, List.append_assoc, List.append_assoc, evalCmds_declare,
      parseDeclare_render sh n es htl hwf.1 hwf.2]
  | «export» e =>
    rw [Cmd.render, List.append_assoc, List.append_assoc, evalCmds_export, List.cons_append,
      parseExport_render sh e htl hwf.1 hwf.2]
  | setO t =>
    obtain ⟨r, rfl, h2⟩ := hwf
    rw [Cmd.render, List.append_assoc, evalCmds_setO, dropLine_append r h2 htl]
    rfl

theorem renderCmds_cons (c : Cmd) (cs : List Cmd) :
    ∃ tl, Tail tl ∧ renderCmds (c :: cs) = c.render ++ tl ∧ tl.tail = renderCmds cs := by
  cases cs with
  | nil => exact ⟨[], Or.inl rfl, (List.append_nil _).symm, rfl⟩
  | cons d ds => exact ⟨'\n' :: renderCmds (d :: ds), Or.inr ⟨_, rfl⟩, List.append_assoc _ _ _, rfl⟩

/-- **bash on the rendered text = fold of the intended meaning of the commands** -/
theorem evalCmds_render : ∀ (cs : List Cmd) (f : Nat) (sh : Sh), cs.length ≤ f → (∀ c ∈ cs, c.WF) →
    evalCmds f sh (renderCmds cs) = .ok (cs.foldl Cmd.eval sh)
  | [], f, sh, _, _ => evalCmds_nil f sh
  | c :: cs, f + 1, sh, hf, hwf => by
    obtain ⟨tl, h1, h2, h3⟩ := renderCmds_cons c cs
    rw [h2, evalCmds_cmd f sh c h1 (hwf c List.mem_cons_self), h3,
      evalCmds_render cs f (c.eval sh) (Nat.le_of_succ_le_succ hf) fun d hd => hwf d (List.mem_cons_of_mem c hd)]
    rfl

end ShellEnv
