import BobModel.Proofs.C14Closure
/-
C14: the two worklist loops, `__validate` and `getReferencedBuildIds`.
-/
namespace Audit
open Consts.C14

/-- ids reachable from the artifact's own references through records that resolve -/
inductive Reach (a : Audit) : Id → Prop
  | base {i : Id} : i ∈ a.artifact.getReferences → Reach a i
  | step {j i : Id} {c : Artifact} : Reach a j → lookupRef a.references j = some c → i ∈ c.getReferences → Reach a i

def Closed (a : Audit) : Prop := ∀ i, Reach a i → i ∈ refKeys a.references

/-- a record at which `getReferencedBuildIds` continues: it has a step label other than the stop label -/
def NonStop (c : Artifact) : Prop := ∃ s, c.step = some s ∧ s ≠ stopLabel.toList

/-- reference paths that pass only through resolvable non-stop records (the end point is arbitrary) -/
inductive Path (refs : List (Id × Artifact)) : Id → Id → Prop
  | refl (i : Id) : Path refs i i
  | step {i j k : Id} {c : Artifact} : Path refs i j → lookupRef refs j = some c → NonStop c → k ∈ c.getReferences → Path refs i k

/-- `b` is the build-id of a first stop-label record on a reference path from `S` -/
def Hit (refs : List (Id × Artifact)) (S : List Id) (b : Id) : Prop :=
  ∃ s ∈ S, ∃ j c, Path refs s j ∧ lookupRef refs j = some c ∧ c.step = some stopLabel.toList ∧ c.buildId = some b

/-- a frontier record at which the implementation raises KeyError -/
def Broken (refs : List (Id × Artifact)) (S : List Id) : Prop :=
  ∃ s ∈ S, ∃ j, Path refs s j ∧
    (lookupRef refs j = none ∨ ∃ c, lookupRef refs j = some c ∧
      (c.step = none ∨ (c.step = some stopLabel.toList ∧ c.buildId = none)))

theorem countP_succ_le {l : List Id} {p q : Id → Bool} (hpq : ∀ x, p x = true → q x = true) {c : Id}
    (hc : c ∈ l) (hq : q c = true) (hp : ¬ p c = true) : l.countP p + 1 ≤ l.countP q := by
  obtain ⟨l₁, l₂, rfl⟩ := List.append_of_mem hc
  have h1 := List.countP_mono_left (l := l₁) fun x _ => hpq x
  have h2 := List.countP_mono_left (l := l₂) fun x _ => hpq x
  rw [List.countP_append, List.countP_append, List.countP_cons_of_pos hq, List.countP_cons_of_neg hp]
  omega

namespace Audit

/-! Termination of `__validate`.  Every iteration pops `cur`, a key of `refs` (otherwise the loop returns).  If `cur` is not yet done it becomes
done; if it is done already, it leaves the worklist for good: only ids that are not done are pushed, and the
worklist has no duplicates.  So each key is popped at most twice, and `2 * refs.length + 1` is enough fuel. -/

def fresh (done : List Id) (k : Id) : Bool := !done.contains k

/-- a key that may still be popped: not yet done, or queued -/
def live (done wl : List Id) (k : Id) : Bool := !done.contains k || wl.contains k

theorem fresh_iff {done : List Id} {k : Id} : fresh done k = true ↔ k ∉ done := by simp [fresh]

theorem live_iff {done wl : List Id} {k : Id} : live done wl k = true ↔ k ∉ done ∨ k ∈ wl := by simp [live]

/-- the termination measure of the loop: the number of pops that are still possible -/
def vMeasure (keys done wl : List Id) : Nat := keys.countP (fresh done) + keys.countP (live done wl)

theorem vMeasure_step {keys : List Id} {cur : Id} {rest done new : List Id}
    (hkey : cur ∈ keys) (hn : cur ∉ rest) (hnew : ∀ x ∈ new, x ∉ done) :
    vMeasure keys (setAdd done cur) (setUnion rest new) + 1 ≤ vMeasure keys done (cur :: rest) := by
  have h1 : ∀ x, fresh (setAdd done cur) x = true → fresh done x = true :=
    fun x h => fresh_iff.2 fun hx => fresh_iff.1 h (mem_setAdd.2 (Or.inl hx))
  have h2 : ∀ x, live (setAdd done cur) (setUnion rest new) x = true → live done (cur :: rest) x = true := by
    intro x h
    rw [live_iff] at h ⊢
    rcases h with h | h
    · exact Or.inl fun hx => h (mem_setAdd.2 (Or.inl hx))
    · exact (mem_setUnion.1 h).elim (fun h => Or.inr (List.mem_cons_of_mem _ h)) fun h => Or.inl (hnew x h)
  have m1 := List.countP_mono_left (l := keys) fun x _ => h1 x
  have m2 := List.countP_mono_left (l := keys) fun x _ => h2 x
  have hcur : cur ∈ setAdd done cur := mem_setAdd.2 (Or.inr rfl)
  unfold vMeasure
  rcases Classical.em (cur ∈ done) with hd | hd
  · -- `cur` is done already: it counts as live only through the worklist, which it has left
    have := countP_succ_le h2 hkey (live_iff.2 (Or.inr List.mem_cons_self)) fun h =>
      (live_iff.1 h).elim (· hcur) fun h => (mem_setUnion.1 h).elim hn fun h => hnew cur h hd
    omega
  · have := countP_succ_le h1 hkey (fresh_iff.2 hd) fun h => fresh_iff.1 h hcur
    omega

theorem validateLoop_fuel {refs : List (Id × Artifact)} (fuel : Nat) (wl done : List Id) (hn : wl.Nodup)
    (hm : vMeasure (refKeys refs) done wl < fuel) : validateLoop refs fuel wl done ≠ .outOfFuel := by
  fun_induction validateLoop refs fuel wl done with
  | case1 => nofun
  | case2 => omega
  | case3 => nofun
  | case4 fuel cur rest done c hl ih =>
    have ⟨hcur, hrest⟩ := List.nodup_cons.1 hn
    have := vMeasure_step (done := done) (new := c.getReferences.filter fun d => !done.contains d)
      (mem_refKeys_of_lookupRef hl) hcur fun x hx => fresh_iff.1 (List.mem_filter.1 hx).2
    exact ih (nodup_setUnion hrest) (by omega)

theorem validate_ne_outOfFuel (a : Audit) : validate a ≠ .outOfFuel := by
  apply validateLoop_fuel _ _ _ (Artifact.nodup_getReferences _)
  have h1 := List.countP_le_length (p := fresh []) (l := refKeys a.references)
  have h2 := List.countP_le_length (p := live [] a.artifact.getReferences) (l := refKeys a.references)
  have hlen : (refKeys a.references).length = a.references.length := List.length_map _
  unfold vMeasure
  omega

/-- invariant of the loop: everything in `done` resolves and its references are in `done` or queued -/
def VInv (refs : List (Id × Artifact)) (wl done : List Id) : Prop :=
  ∀ d ∈ done, ∃ c, lookupRef refs d = some c ∧ ∀ r ∈ c.getReferences, r ∈ done ∨ r ∈ wl

theorem validateLoop_ok {refs : List (Id × Artifact)} (fuel : Nat) (wl done : List Id) (hinv : VInv refs wl done)
    (h : validateLoop refs fuel wl done = .ok) :
    ∃ S : List Id, (∀ x ∈ wl, x ∈ S) ∧ (∀ x ∈ done, x ∈ S) ∧ VInv refs [] S := by
  fun_induction validateLoop refs fuel wl done with
  | case1 _ done => exact ⟨done, fun _ h => (by cases h), fun _ h => h, hinv⟩
  | case2 => cases h
  | case3 => cases h
  | case4 fuel cur rest done c hl ih =>
    have hinv' : VInv refs (setUnion rest (c.getReferences.filter fun d => !done.contains d)) (setAdd done cur) := by
      intro d hd
      rcases mem_setAdd.1 hd with hd | rfl
      · obtain ⟨c', hc', hr⟩ := hinv d hd
        refine ⟨c', hc', fun r hr' => ?_⟩
        rw [mem_setAdd, mem_setUnion]
        rcases hr r hr' with h1 | h1
        · exact Or.inl (Or.inl h1)
        · exact (List.mem_cons.1 h1).imp Or.inr Or.inl
      · refine ⟨c, hl, fun r hr' => ?_⟩
        rcases Classical.em (r ∈ done) with hrd | hrd
        · exact Or.inl (mem_setAdd.2 (Or.inl hrd))
        · exact Or.inr (mem_setUnion.2 (Or.inr (List.mem_filter.2 ⟨hr', fresh_iff.2 hrd⟩)))
    obtain ⟨S, h1, h2, h3⟩ := ih hinv' h
    refine ⟨S, fun x hx => ?_, fun x hx => h2 x (mem_setAdd.2 (Or.inl hx)), h3⟩
    rcases List.mem_cons.1 hx with hx | hx
    · exact h2 x (mem_setAdd.2 (Or.inr hx))
    · exact h1 x (mem_setUnion.2 (Or.inl hx))

theorem validateLoop_missing {a : Audit} (fuel : Nat) (wl done : List Id) (i : Id) (hr : ∀ x ∈ wl, Reach a x)
    (h : validateLoop a.references fuel wl done = .missing i) : Reach a i ∧ lookupRef a.references i = none := by
  fun_induction validateLoop a.references fuel wl done with
  | case1 => cases h
  | case2 => cases h
  | case3 _ cur _ _ hl =>
    cases h
    exact ⟨hr _ List.mem_cons_self, hl⟩
  | case4 _ cur rest _ c hl ih =>
    refine ih (fun x hx => ?_) h
    rcases mem_setUnion.1 hx with hx | hx
    · exact hr x (List.mem_cons_of_mem _ hx)
    · exact Reach.step (hr cur List.mem_cons_self) hl (List.mem_filter.1 hx).1

theorem validate_ok_closed {a : Audit} (h : validate a = .ok) : Closed a := by
  obtain ⟨S, h1, _, h3⟩ := validateLoop_ok _ _ _ (fun _ hd => by cases hd) h
  intro i hi
  have hS : i ∈ S := by
    induction hi with
    | base hb => exact h1 _ hb
    | step _ hl hm ih =>
      obtain ⟨c', hc', hr⟩ := h3 _ ih
      cases hl.symm.trans hc'
      exact (hr _ hm).resolve_right List.not_mem_nil
  obtain ⟨c, hc, _⟩ := h3 i hS
  exact mem_refKeys_of_lookupRef hc

theorem closed_validate_ok {a : Audit} (h : Closed a) : validate a = .ok := by
  cases hv : validate a with
  | ok => rfl
  | outOfFuel => exact absurd hv (validate_ne_outOfFuel a)
  | missing i =>
    obtain ⟨hr, hn⟩ := validateLoop_missing _ _ _ i (fun x hx => Reach.base hx) hv
    exact absurd (h i hr) (lookupRef_eq_none_iff.1 hn)

/-- the strong closure that the add operations maintain implies the reachability closure -/
theorem closedAll_closed {a : Audit} (h : ClosedAll a) : Closed a := by
  intro i hi
  induction hi with
  | base hb => exact h.1 _ hb
  | step _ hl hm _ => exact h.2 _ (lookupRef_mem hl) _ hm

theorem path_trans {refs : List (Id × Artifact)} {i j k : Id} (h1 : Path refs i j) (h2 : Path refs j k) : Path refs i k := by
  induction h2 with
  | refl => exact h1
  | step _ hl hn hm ih => exact Path.step ih hl hn hm

theorem path_cons {refs : List (Id × Artifact)} {i r k : Id} {c : Artifact} (hl : lookupRef refs i = some c) (hn : NonStop c)
    (hr : r ∈ c.getReferences) (hp : Path refs r k) : Path refs i k :=
  path_trans (Path.step (Path.refl _) hl hn hr) hp

/-- `Path` grows at its end, the loops consume it from its start -/
theorem path_head {refs : List (Id × Artifact)} {i k : Id} (h : Path refs i k) :
    k = i ∨ ∃ c, lookupRef refs i = some c ∧ NonStop c ∧ ∃ r ∈ c.getReferences, Path refs r k := by
  induction h with
  | refl => exact Or.inl rfl
  | step hp hl hn hm ih =>
    rcases ih with rfl | ⟨c', hc', hn', r, hr, hp'⟩
    · exact Or.inr ⟨_, hl, hn, _, hm, Path.refl _⟩
    · exact Or.inr ⟨c', hc', hn', r, hr, Path.step hp' hl hn hm⟩

theorem not_nonStop {c : Artifact} (hs : c.step = some stopLabel.toList) : ¬ NonStop c :=
  fun ⟨_, hst, hne⟩ => hne (Option.some.inj (hst.symm.trans hs))

theorem hit_nil {refs : List (Id × Artifact)} {b : Id} : ¬ Hit refs [] b :=
  fun ⟨_, hs, _⟩ => List.not_mem_nil hs

theorem hit_union {refs : List (Id × Artifact)} {S T U : List Id} {b : Id} (h : ∀ x, x ∈ S ↔ x ∈ T ∨ x ∈ U) :
    Hit refs S b ↔ Hit refs T b ∨ Hit refs U b := by
  simp only [Hit, h, or_and_right, exists_or]

theorem hit_cons {refs : List (Id × Artifact)} {cur : Id} {rest : List Id} {b : Id} :
    Hit refs (cur :: rest) b ↔ Hit refs [cur] b ∨ Hit refs rest b :=
  hit_union fun _ => List.mem_cons.trans (or_congr_left List.mem_singleton.symm)

theorem hit_setUnion {refs : List (Id × Artifact)} {s t : List Id} {b : Id} :
    Hit refs (setUnion s t) b ↔ Hit refs s b ∨ Hit refs t b :=
  hit_union fun _ => mem_setUnion

theorem hit_stop {refs : List (Id × Artifact)} {cur : Id} {c : Artifact} {b b' : Id}
    (hl : lookupRef refs cur = some c) (hs : c.step = some stopLabel.toList) (hb : c.buildId = some b') :
    Hit refs [cur] b ↔ b = b' := by
  constructor
  · rintro ⟨s, hs', j, c', hp, hl', _, hb'⟩
    cases List.mem_singleton.1 hs'
    rcases path_head hp with rfl | ⟨c'', hc'', hn, _⟩
    · cases hl.symm.trans hl'
      exact Option.some.inj (hb'.symm.trans hb)
    · cases hl.symm.trans hc''
      exact absurd hn (not_nonStop hs)
  · rintro rfl
    exact ⟨cur, List.mem_cons_self, cur, c, Path.refl _, hl, hs, hb⟩

theorem hit_nonstop {refs : List (Id × Artifact)} {cur : Id} {c : Artifact} {b : Id}
    (hl : lookupRef refs cur = some c) (hn : NonStop c) :
    Hit refs [cur] b ↔ Hit refs c.getReferences b := by
  constructor
  · rintro ⟨s, hs', j, c', hp, hl', hst, hb⟩
    cases List.mem_singleton.1 hs'
    rcases path_head hp with rfl | ⟨c'', hc'', _, r, hr, hp'⟩
    · cases hl.symm.trans hl'
      exact absurd hn (not_nonStop hst)
    · cases hl.symm.trans hc''
      exact ⟨r, hr, j, c', hp', hl', hst, hb⟩
  · rintro ⟨r, hr, j, c', hp, h⟩
    exact ⟨cur, List.mem_cons_self, j, c', path_cons hl hn hr hp, h⟩

theorem rbiLoop_ok {refs : List (Id × Artifact)} (fuel : Nat) (wl acc res : List Id)
    (h : rbiLoop refs fuel wl acc = .ok res) (b : Id) : b ∈ res ↔ b ∈ acc ∨ Hit refs wl b := by
  fun_induction rbiLoop refs fuel wl acc with
  | case1 =>
    cases h
    exact (or_iff_left hit_nil).symm
  | case2 | case3 | case4 | case5 => cases h
  | case6 _ _ _ _ c hl b' hb hs ih =>
    rw [ih h, mem_setAdd, hit_cons, hit_stop hl hs hb, or_assoc]
  | case7 _ _ _ _ c hl s hs hne ih =>
    rw [ih h, hit_setUnion, hit_cons, hit_nonstop hl ⟨s, hs, hne⟩]
    exact or_congr_right or_comm

theorem broken_mono {refs : List (Id × Artifact)} {S T : List Id} (h : ∀ x ∈ S, x ∈ T) (hb : Broken refs S) : Broken refs T := by
  obtain ⟨s, hs, r⟩ := hb
  exact ⟨s, h s hs, r⟩

theorem rbiLoop_keyError {refs : List (Id × Artifact)} (fuel : Nat) (wl acc : List Id)
    (h : rbiLoop refs fuel wl acc = .keyError) : Broken refs wl := by
  fun_induction rbiLoop refs fuel wl acc with
  | case1 | case2 => cases h
  | case3 _ cur _ _ hl => exact ⟨cur, List.mem_cons_self, cur, Path.refl _, Or.inl hl⟩
  | case4 _ cur _ _ c hl hs => exact ⟨cur, List.mem_cons_self, cur, Path.refl _, Or.inr ⟨c, hl, Or.inl hs⟩⟩
  | case5 _ cur _ _ c hl hb hs =>
    exact ⟨cur, List.mem_cons_self, cur, Path.refl _, Or.inr ⟨c, hl, Or.inr ⟨hs, hb⟩⟩⟩
  | case6 _ _ _ _ _ _ _ _ _ ih => exact broken_mono (fun x hx => List.mem_cons_of_mem _ hx) (ih h)
  | case7 _ cur _ _ c hl s hs hne ih =>
    obtain ⟨x, hx, j, hp, hbr⟩ := ih h
    rcases mem_setUnion.1 hx with hx | hx
    · exact ⟨x, List.mem_cons_of_mem _ hx, j, hp, hbr⟩
    · exact ⟨cur, List.mem_cons_self, j, path_cons hl ⟨s, hs, hne⟩ hx hp, hbr⟩

end Audit

end Audit
