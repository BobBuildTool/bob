import BobModel.Proofs.C06OrderStep
import BobModel.Proofs.C06Lock
import BobModel.Proofs.C06WasRun
/-
**once**.  Per workspace the script starts and ends of the history alternate, and a workspace is started again
only after a failed execution.

Invariant (`OnceInv`), per workspace `p` with `status` = what the history says about `p`:
* status = running  iff  some task is suspended in `runWait` of a step of `p` (it holds the lock of `p`);
* status = ok       =>   the `wasRun` table says "run, not skipped" for `p`, or the task that ran the script is
                         about to record it (`setRun _ false` at its head, still inside the lock);
* a task that is going to run a script in `p` (`run` in its continuation) or to record a skipped run has
  checked under the lock that the table does not say "run" for `p`, and nobody else can change that entry
  while the lock is held (`LockInv`).
Beside these: every operation that names a step names a valid one (`valid`) and the table has entries of valid steps
only (`wv`), which is what `wasAlreadyRun_spec` needs; lock-section operations stand in the order `secShape` (`shape`).

`OnceInv.stepAt` is the frame of a step that touches the workspaces `Q` only; that every rule of `Step` is an instance
of it is shown together with **deps_first** (`ord_ofStep`).
-/
namespace Sched
open JobSem

def statusOf (P : Project) (p : Nat) : WsStatus → List Ev → WsStatus
  | s, [] => s
  | s, .start _ x :: r => if (P.info x).path == p then statusOf P p .running r else statusOf P p s r
  | s, .fin _ x ok :: r =>
    if (P.info x).path == p then statusOf P p (if ok then .ok else .failed) r else statusOf P p s r
  | s, _ :: r => statusOf P p s r

theorem legalFrom_append (P : Project) (p : Nat) (a b : List Ev) (s : WsStatus) :
    legalFrom P p s (a ++ b) = (legalFrom P p s a && legalFrom P p (statusOf P p s a) b) := by
  induction a generalizing s with
  | nil => simp [legalFrom, statusOf]
  | cons e r ih =>
    cases e <;> simp only [List.cons_append, legalFrom, statusOf, ih] <;> (try split) <;> simp [Bool.and_assoc]

theorem statusOf_append (P : Project) (p : Nat) (a b : List Ev) (s : WsStatus) :
    statusOf P p s (a ++ b) = statusOf P p (statusOf P p s a) b := by
  induction a generalizing s with
  | nil => simp [statusOf]
  | cons e r ih =>
    cases e <;> simp only [List.cons_append, statusOf, ih] <;> (try split) <;> rfl

theorem quiet_status (P : Project) (p : Nat) (evs : List Ev) (s : WsStatus) (h : ∀ e ∈ evs, e.quiet = true) :
    legalFrom P p s evs = true ∧ statusOf P p s evs = s := by
  induction evs with
  | nil => exact ⟨rfl, rfl⟩
  | cons e r ih =>
    have he := h e (List.mem_cons_self ..)
    have ih := ih (fun e' he' => h e' (List.mem_cons_of_mem _ he'))
    cases e
    case start | fin => cases he
    all_goals exact ih

/-- "run, not skipped" is recorded for workspace `p` -/
def RanAt (wr : WasRun) (p : Nat) : Prop := ∃ v, lookup p wr = some (v, false)

theorem RanAt_WasOk {P : Project} {wr : WasRun} (hpv : PathVid P) (hv : WrValid P wr) {s : Nat} (co : Bool)
    (h : RanAt wr (P.info s).path) : WasOk P wr s co := by
  obtain ⟨v, hl⟩ := h
  obtain ⟨s0, h1, h2, h3⟩ := hv _ _ _ hl
  refine ⟨false, ?_, Or.inr rfl⟩
  rw [hl, ← h3, hpv s0 s h1 h2]

/-- the order inside a lock section: `underLock` and `setRun` stand directly in front of the `unlock` of their
workspace, `run` and `runWait` in front of `setRun _ false` and that `unlock` -/
def secShape (P : Project) : List Op → Bool
  | [] => true
  | o :: r =>
    (match o with
     | .underLock s _ => r.head? == some (.unlock (P.info s).path)
     | .setRun s _ => r.head? == some (.unlock (P.info s).path)
     | .run s => r.take 2 == [.setRun s false, .unlock (P.info s).path]
     | .runWait s _ => r.take 2 == [.setRun s false, .unlock (P.info s).path]
     | _ => true) && secShape P r

theorem secShape_tail {P : Project} {o : Op} {r : List Op} (h : secShape P (o :: r) = true) : secShape P r = true := by
  simp only [secShape, Bool.and_eq_true] at h; exact h.2

theorem secShape_cons_nosec {P : Project} {o : Op} {r : List Op} (ho : o.sec = false) :
    secShape P (o :: r) = secShape P r := by
  cases o <;> simp_all [secShape, Op.sec]

theorem secShape_append_nosec {P : Project} {body rest : List Op} (hb : ∀ o ∈ body, o.sec = false)
    (h : secShape P rest = true) : secShape P (body ++ rest) = true := by
  induction body with
  | nil => exact h
  | cons o b ih =>
    rw [List.cons_append, secShape_cons_nosec (hb o (by simp))]
    exact ih (fun o' ho' => hb o' (by simp [ho']))

theorem isFin_nosec {o : Op} (h : o.isFin = true) : o.sec = false := by
  cases o <;> simp_all [Op.isFin, Op.sec]

theorem secShape_filter (P : Project) (r : List Op) : secShape P (r.filter Op.isFin) = true := by
  have := secShape_append_nosec (P := P) (body := r.filter Op.isFin) (rest := [])
    (fun o ho => isFin_nosec (List.mem_filter.mp ho).2) rfl
  simpa using this

structure OnceInv (P : Project) (st : St) : Prop where
  valid : ∀ i, ∀ o ∈ (st.task i).ops, ∀ s, o.relStep = some s → (P.info s).valid = true
  wv : WrValid P st.wasRun
  shape : ∀ i, secShape P (st.task i).ops = true
  legal : ∀ p, legalFrom P p .idle st.trace = true
  rwRunning : ∀ i s r rest, (st.task i).ops = .runWait s r :: rest →
    statusOf P (P.info s).path .idle st.trace = .running
  runningRw : ∀ p, statusOf P p .idle st.trace = .running →
    ∃ i s r rest, (st.task i).ops = .runWait s r :: rest ∧ (P.info s).path = p
  okRan : ∀ p, statusOf P p .idle st.trace = .ok →
    RanAt st.wasRun p ∨ ∃ i s rest, (st.task i).ops = .setRun s false :: rest ∧ (P.info s).path = p
  fresh : ∀ i s, (.run s ∈ (st.task i).ops ∨ .setRun s true ∈ (st.task i).ops) → ¬ RanAt st.wasRun (P.info s).path

theorem Initial.ops_mem {y : Task} (h : Initial y) : ∀ o ∈ y.ops, o = .start ∨ o = .wrapEnd ∨ ∃ a, o = .fence a := by
  intro o ho
  rcases h.2 with e | ⟨a, e⟩ <;> rw [e] at ho <;> simp at ho
  · rcases ho with h | h <;> simp [h]
  · rcases ho with h | h | h <;> simp [h]

theorem Initial.head {y : Task} (h : Initial y) {o : Op} {r : List Op} (ho : y.ops = o :: r) :
    o = .start ∨ ∃ a, o = .fence a := by
  rcases h.2 with e | ⟨a, e⟩ <;> rw [e] at ho <;> cases ho <;> simp

theorem Initial.shape {P : Project} {y : Task} (h : Initial y) : secShape P y.ops = true := by
  rcases h.2 with e | ⟨a, e⟩ <;> simp [e, secShape]

/-- general form of a step of task `t`: the obligations of the new continuation `x'` and of the new history -/
theorem OnceInv.update {P : Project} {st g : St} {new : List Task} {t : Nat} (hi : OnceInv P st)
    (hg : GrowT st g new) (ht : t < st.tasks.length) (x' : Task)
    (hV : ∀ o ∈ x'.ops, ∀ s, o.relStep = some s → (P.info s).valid = true)
    (hS : secShape P x'.ops = true)
    (hwv : WrValid P g.wasRun)
    (hfrT : ∀ s, (.run s ∈ x'.ops ∨ .setRun s true ∈ x'.ops) → ¬ RanAt g.wasRun (P.info s).path)
    (hfrO : ∀ i, i ≠ t → ∀ s, (.run s ∈ (st.task i).ops ∨ .setRun s true ∈ (st.task i).ops) →
      ¬ RanAt g.wasRun (P.info s).path)
    (hlegal : ∀ p, legalFrom P p .idle g.trace = true)
    (hrwO : ∀ i s r rest, i ≠ t → (st.task i).ops = .runWait s r :: rest →
      statusOf P (P.info s).path .idle g.trace = .running)
    (hrwT : ∀ s r rest, x'.ops = .runWait s r :: rest → statusOf P (P.info s).path .idle g.trace = .running)
    (hrun : ∀ p, statusOf P p .idle g.trace = .running →
      (∃ i s r rest, i ≠ t ∧ (st.task i).ops = .runWait s r :: rest ∧ (P.info s).path = p) ∨
      (∃ s r rest, x'.ops = .runWait s r :: rest ∧ (P.info s).path = p))
    (hok : ∀ p, statusOf P p .idle g.trace = .ok → RanAt g.wasRun p ∨
      (∃ i s rest, i ≠ t ∧ (st.task i).ops = .setRun s false :: rest ∧ (P.info s).path = p) ∨
      (∃ s rest, x'.ops = .setRun s false :: rest ∧ (P.info s).path = p)) :
    OnceInv P (g.setTask t x') := by
  have hother : ∀ i, i ≠ t → i < st.tasks.length → (g.setTask t x').task i = st.task i := by
    intro i hne hl
    rcases task_cases x' hg ht i with h | h | h | h
    · exact absurd h.1 hne
    · exact h.2.2
    · omega
    · omega
  have hself : (g.setTask t x').task t = x' := by
    rcases task_cases x' hg ht t with h | h | h | h
    · exact h.2
    · exact absurd rfl h.1
    · exact absurd rfl h.1
    · exact absurd rfl h.1
  refine ⟨?_, hwv, ?_, hlegal, ?_, ?_, ?_, ?_⟩
  · intro i o ho s hs
    rcases task_cases x' hg ht i with h | h | h | h
    · rw [h.2] at ho; exact hV o ho s hs
    · rw [h.2.2] at ho; exact hi.valid i o ho s hs
    · rcases h.2.2.ops_mem o ho with e | e | ⟨a, e⟩ <;> subst e <;> simp [Op.relStep] at hs
    · rw [h.2.2] at ho; cases ho
  · intro i
    rcases task_cases x' hg ht i with h | h | h | h
    · rw [h.2]; exact hS
    · rw [h.2.2]; exact hi.shape i
    · exact h.2.2.shape
    · rw [h.2.2]; rfl
  · intro i s r rest hops
    rcases task_cases x' hg ht i with h | h | h | h
    · rw [h.2] at hops; exact hrwT s r rest hops
    · rw [h.2.2] at hops; exact hrwO i s r rest h.1 hops
    · rcases h.2.2.head hops with e | ⟨a, e⟩ <;> cases e
    · rw [h.2.2] at hops; cases hops
  · intro p hp
    rcases hrun p hp with ⟨i, s, r, rest, hne, hops, hpp⟩ | ⟨s, r, rest, hops, hpp⟩
    · exact ⟨i, s, r, rest, by rw [hother i hne (task_lt hops)]; exact hops, hpp⟩
    · exact ⟨t, s, r, rest, by rw [hself]; exact hops, hpp⟩
  · intro p hp
    rcases hok p hp with h | ⟨i, s, rest, hne, hops, hpp⟩ | ⟨s, rest, hops, hpp⟩
    · exact Or.inl h
    · exact Or.inr ⟨i, s, rest, by rw [hother i hne (task_lt hops)]; exact hops, hpp⟩
    · exact Or.inr ⟨t, s, rest, by rw [hself]; exact hops, hpp⟩
  · intro i s hm
    rcases task_cases x' hg ht i with h | h | h | h
    · rw [h.2] at hm; exact hfrT s hm
    · rw [h.2.2] at hm; exact hfrO i h.1 s hm
    · exfalso
      rcases hm with hm | hm <;> rcases h.2.2.ops_mem _ hm with e | e | ⟨a, e⟩ <;> cases e
    · rw [h.2.2] at hm; rcases hm with hm | hm <;> cases hm

theorem OnceInv.head {P : Project} {st : St} {t : Nat} {op : Op} {rest : List Op} (hi : OnceInv P st)
    (hops : (st.task t).ops = op :: rest) :
    secShape P (op :: rest) = true ∧ ∀ s, op.relStep = some s → (P.info s).valid = true :=
  ⟨hops ▸ hi.shape t, hi.valid t op (by rw [hops]; simp)⟩

theorem rest_no_runWait {P : Project} {st : St} (hl : LockInv P st) {t : Nat} {op : Op} {rest : List Op}
    (hops : (st.task t).ops = op :: rest) (s : Nat) (r : Option Bool) : Op.runWait s r ∉ rest := by
  have hnw := hl.nowait _ (task_mem (task_lt hops))
  rw [hops] at hnw
  simp only [List.tail_cons] at hnw
  intro hm
  have := (List.all_eq_true.mp hnw) _ hm
  simp [Op.isWait] at this

/-- `o` may stand in the new continuation of a task that executes `op` although it was not behind `op`: its step
is valid, as a `runWait` it continues the `runWait` at the head or belongs to a workspace the step touches (`Q`),
and a script it starts or a skipped run it records is not recorded as run -/
def Pushed (P : Project) (st : St) (Q : Nat → Prop) (op o : Op) : Prop :=
  (∀ s, o.relStep = some s → (P.info s).valid = true) ∧
  (∀ s r, o = .runWait s r → Q (P.info s).path ∨ ∃ r0, op = .runWait s r0) ∧
  (∀ s, (o = .run s ∨ o = .setRun s true) → ¬ RanAt st.wasRun (P.info s).path)

theorem Pushed.of_nosec {P : Project} {st : St} {Q : Nat → Prop} {op o : Op} (h : o.sec = false)
    (hv : ∀ s, o.relStep = some s → (P.info s).valid = true) : Pushed P st Q op o :=
  ⟨hv, fun _ _ e => (by subst e; cases h), fun _ e => by rcases e with e | e <;> subst e <;> cases h⟩

/-- A step of task `t` that touches the workspaces `Q` only, all of them workspaces in whose lock section `op`
is: elsewhere history and `wasRun` table say what they said, and the new continuation consists of operations of
the old rest and of `Pushed` ones.  Since no other task is inside the lock of a touched workspace, what the
invariant says of such a workspace is to be shown of the new continuation `x'` alone. -/
theorem OnceInv.stepAt {P : Project} {st g : St} {new : List Task} {t : Nat} {op : Op} {rest : List Op}
    (hi : OnceInv P st) (hl : LockInv P st) (hops : (st.task t).ops = op :: rest) (hg : GrowT st g new) (x' : Task)
    (Q : Nat → Prop) (hsec : ∀ p, Q p → op.section? P = some p) (hwv : WrValid P g.wasRun)
    (hsame : ∀ p, ¬ Q p → legalFrom P p .idle g.trace = legalFrom P p .idle st.trace ∧
      statusOf P p .idle g.trace = statusOf P p .idle st.trace ∧ (RanAt g.wasRun p ↔ RanAt st.wasRun p))
    (hop1 : ∀ s r, op = .runWait s r → Q (P.info s).path ∨ ∃ r' rest', x'.ops = .runWait s r' :: rest')
    (hop2 : ∀ s, op = .setRun s false → Q (P.info s).path)
    (hsub : ∀ o ∈ x'.ops, o ∈ rest ∨ Pushed P st Q op o) (hS : secShape P x'.ops = true)
    (hlegal : ∀ p, Q p → legalFrom P p .idle g.trace = true)
    (hrwT : ∀ s r rest', x'.ops = .runWait s r :: rest' → Q (P.info s).path →
      statusOf P (P.info s).path .idle g.trace = .running)
    (hrun : ∀ p, Q p → statusOf P p .idle g.trace = .running →
      ∃ s r rest', x'.ops = .runWait s r :: rest' ∧ (P.info s).path = p)
    (hok : ∀ p, Q p → statusOf P p .idle g.trace = .ok →
      RanAt g.wasRun p ∨ ∃ s rest', x'.ops = .setRun s false :: rest' ∧ (P.info s).path = p)
    (hfr : ∀ s, (.run s ∈ x'.ops ∨ .setRun s true ∈ x'.ops) → Q (P.info s).path →
      ¬ RanAt g.wasRun (P.info s).path) :
    OnceInv P (g.setTask t x') := by
  have hmemT : op ∈ (st.task t).ops := by rw [hops]; simp
  have hexcl : ∀ i, i ≠ t → ∀ o ∈ (st.task i).ops, ∀ p, o.section? P = some p → ¬ Q p :=
    fun i hne o ho p hs hq => hl.excl hne ho hs hmemT (hsec p hq)
  have hold : ∀ o ∈ rest, o ∈ (st.task t).ops := fun o h => by rw [hops]; exact List.mem_cons_of_mem _ h
  refine hi.update hg (task_lt hops) x' ?_ hS hwv ?_ ?_ ?_ ?_ ?_ ?_ ?_
  · intro o ho s hs
    rcases hsub o ho with h | h
    · exact hi.valid t o (hold o h) s hs
    · exact h.1 s hs
  · intro s hm
    by_cases hq : Q (P.info s).path
    · exact hfr s hm hq
    · rw [(hsame _ hq).2.2]
      rcases hm with hm | hm <;> rcases hsub _ hm with h | h
      · exact hi.fresh t s (Or.inl (hold _ h))
      · exact h.2.2 s (Or.inl rfl)
      · exact hi.fresh t s (Or.inr (hold _ h))
      · exact h.2.2 s (Or.inr rfl)
  · intro i hne s hm
    have hq : ¬ Q (P.info s).path := hm.elim (fun h => hexcl i hne _ h _ rfl) (fun h => hexcl i hne _ h _ rfl)
    rw [(hsame _ hq).2.2]; exact hi.fresh i s hm
  · intro p
    by_cases hq : Q p
    · exact hlegal p hq
    · rw [(hsame p hq).1]; exact hi.legal p
  · intro i s r rest' hne ho
    rw [(hsame _ (hexcl i hne (.runWait s r) (by rw [ho]; simp) _ rfl)).2.1]
    exact hi.rwRunning i s r rest' ho
  · intro s r rest' ho
    by_cases hq : Q (P.info s).path
    · exact hrwT s r rest' ho hq
    · rcases hsub (.runWait s r) (by rw [ho]; simp) with h | h
      · exact absurd h (rest_no_runWait hl hops s r)
      · rcases h.2.1 s r rfl with h | ⟨r0, e⟩
        · exact absurd h hq
        · subst e; rw [(hsame _ hq).2.1]; exact hi.rwRunning t s r0 rest hops
  · intro p hp
    by_cases hq : Q p
    · exact Or.inr (hrun p hq hp)
    · rw [(hsame p hq).2.1] at hp
      obtain ⟨i, s, r, rest', ho, hpp⟩ := hi.runningRw p hp
      by_cases hit : i = t
      · subst hit
        rw [hops] at ho; cases ho
        rcases hop1 s r rfl with h | ⟨r', rest'', e⟩
        · exact absurd (hpp ▸ h) hq
        · exact Or.inr ⟨s, r', rest'', e, hpp⟩
      · exact Or.inl ⟨i, s, r, rest', hit, ho, hpp⟩
  · intro p hp
    by_cases hq : Q p
    · exact (hok p hq hp).imp id Or.inr
    · rw [(hsame p hq).2.1] at hp
      rcases hi.okRan p hp with h | ⟨i, s, rest', ho, hpp⟩
      · exact Or.inl ((hsame p hq).2.2.mpr h)
      · refine Or.inr (Or.inl ⟨i, s, rest', ?_, ho, hpp⟩)
        intro e; subst e
        rw [hops] at ho; cases ho
        exact hq (hpp ▸ hop2 s rfl)

/-- a step that touches no workspace: it logs no start, end or record of a run and keeps the `wasRun` table; a
`runWait` stays at the head (the script has ended, the task has not noticed yet) -/
theorem OnceInv.quietStep {P : Project} {st g : St} {new : List Task} {t : Nat} {op : Op} {rest : List Op}
    (hi : OnceInv P st) (hl : LockInv P st)
    (hops : (st.task t).ops = op :: rest) (hg : GrowT st g new) (x' : Task)
    (hwr : g.wasRun = st.wasRun) (htr : ∃ evs, g.trace = st.trace ++ evs ∧ ∀ e ∈ evs, e.quiet = true)
    (hop1 : ∀ s r, op = .runWait s r → ∃ r' rest', x'.ops = .runWait s r' :: rest') (hop2 : ∀ s, op ≠ .setRun s false)
    (hsub : ∀ o ∈ x'.ops, o ∈ rest ∨ Pushed P st (fun _ => False) op o) (hS : secShape P x'.ops = true) :
    OnceInv P (g.setTask t x') := by
  obtain ⟨evs, he, hq⟩ := htr
  refine hi.stepAt hl hops hg x' (fun _ => False) nofun (by rw [hwr]; exact hi.wv) (fun p _ => ?_)
    (fun s r e => Or.inr (hop1 s r e)) hop2 hsub hS nofun nofun nofun nofun nofun
  rw [he, legalFrom_append, statusOf_append, (quiet_status P p evs _ hq).1, (quiet_status P p evs _ hq).2, hwr]
  exact ⟨Bool.and_true _, rfl, Iff.rfl⟩

section status
variable (P : Project) (p : Nat) (tr : List Ev) (t s : Nat)

theorem status_start_eq (hp : (P.info s).path = p) : statusOf P p .idle (tr ++ [Ev.start t s]) = .running := by
  simp [statusOf_append, statusOf, hp]
theorem status_start_ne (hp : (P.info s).path ≠ p) :
    statusOf P p .idle (tr ++ [Ev.start t s]) = statusOf P p .idle tr := by
  simp [statusOf_append, statusOf, hp]
theorem legal_start_eq (hp : (P.info s).path = p) :
    legalFrom P p .idle (tr ++ [Ev.start t s]) =
      (legalFrom P p .idle tr && (statusOf P p .idle tr == .idle || statusOf P p .idle tr == .failed)) := by
  simp [legalFrom_append, legalFrom, hp]
theorem legal_start_ne (hp : (P.info s).path ≠ p) :
    legalFrom P p .idle (tr ++ [Ev.start t s]) = legalFrom P p .idle tr := by
  simp [legalFrom_append, legalFrom, hp]
theorem status_fin_eq (ok : Bool) (hp : (P.info s).path = p) :
    statusOf P p .idle (tr ++ [Ev.fin t s ok]) = if ok then .ok else .failed := by
  simp [statusOf_append, statusOf, hp]
theorem status_fin_ne (ok : Bool) (hp : (P.info s).path ≠ p) :
    statusOf P p .idle (tr ++ [Ev.fin t s ok]) = statusOf P p .idle tr := by
  simp [statusOf_append, statusOf, hp]
theorem legal_fin_eq (ok : Bool) (hp : (P.info s).path = p) :
    legalFrom P p .idle (tr ++ [Ev.fin t s ok]) = (legalFrom P p .idle tr && (statusOf P p .idle tr == .running)) := by
  simp [legalFrom_append, legalFrom, hp]
theorem legal_fin_ne (ok : Bool) (hp : (P.info s).path ≠ p) :
    legalFrom P p .idle (tr ++ [Ev.fin t s ok]) = legalFrom P p .idle tr := by
  simp [legalFrom_append, legalFrom, hp]
end status

theorem RanAt_insert_ne {wr : WasRun} {p q : Nat} (v : Nat × Bool) (h : q ≠ p) :
    RanAt (Sched.insert p v wr) q ↔ RanAt wr q := by
  unfold RanAt
  rw [lookup_insert_ne _ _ _ _ h]

theorem secShape_unlock {P : Project} {o : Op} {s : Nat} {rest : List Op}
    (ho : (∃ co, o = .underLock s co) ∨ ∃ sk, o = .setRun s sk) (h : secShape P (o :: rest) = true) :
    ∃ r', rest = .unlock (P.info s).path :: r' := by
  cases rest with
  | nil => rcases ho with ⟨_, e⟩ | ⟨_, e⟩ <;> subst e <;> simp [secShape] at h
  | cons a r' =>
    refine ⟨r', ?_⟩
    rcases ho with ⟨_, e⟩ | ⟨_, e⟩ <;> subst e <;>
      simp only [secShape, List.head?_cons, Bool.and_eq_true, beq_iff_eq, Option.some.injEq] at h <;> rw [h.1]

theorem OnceInv.runStep {P : Project} {st : St} {t s : Nat} {rest : List Op}
    (hi : OnceInv P st) (hl : LockInv P st) (hops : (st.task t).ops = .run s :: rest) :
    OnceInv P ((st.emit (.start t s)).setTask t
      { kind := (st.task t).kind, ops := .runWait s none :: rest, err := (st.task t).err }) := by
  obtain ⟨hshape, hv⟩ := hi.head hops
  have hmemT : Op.run s ∈ (st.task t).ops := by rw [hops]; simp
  have hfresh := hi.fresh t s (Or.inl hmemT)
  -- the workspace is neither running nor successfully built
  have hnr : statusOf P (P.info s).path .idle st.trace ≠ .running := by
    intro hc
    obtain ⟨i, s', r, rest', ho, hp⟩ := hi.runningRw _ hc
    have hne : i ≠ t := by intro e; subst e; rw [hops] at ho; cases ho
    exact hl.excl hne (o := .runWait s' r) (by rw [ho]; simp) (by simp [Op.section?, hp]) hmemT rfl
  have hno : statusOf P (P.info s).path .idle st.trace ≠ .ok := by
    intro hc
    rcases hi.okRan _ hc with hr | ⟨i, s', rest', ho, hp⟩
    · exact hfresh hr
    · have hne : i ≠ t := by intro e; subst e; rw [hops] at ho; cases ho
      exact hl.excl hne (o := .setRun s' false) (by rw [ho]; simp) (by simp [Op.section?, hp]) hmemT rfl
  refine hi.stepAt hl hops (g := st.emit (.start t s)) (GrowT.same rfl) _ (fun p => (P.info s).path = p)
    (fun p hp => by subst hp; rfl) hi.wv
    (fun p hp => ⟨legal_start_ne P p _ t s hp, status_start_ne P p _ t s hp, Iff.rfl⟩) nofun nofun ?_
    (by simpa [secShape] using hshape) ?_ (fun _ _ _ _ hq => status_start_eq P _ _ t s hq)
    (fun p hp _ => ⟨s, none, rest, rfl, hp⟩) ?_ (fun s' _ hq => hq ▸ hfresh)
  · intro o ho
    rcases List.mem_cons.mp ho with e | e
    · subst e
      exact Or.inr ⟨hv, fun _ _ e => Or.inl (by cases e; rfl), fun _ e => by rcases e with e | e <;> cases e⟩
    · exact Or.inl e
  · intro p hp
    subst hp
    rw [emit_trace, legal_start_eq P _ _ t s rfl, hi.legal]
    cases e : statusOf P (P.info s).path .idle st.trace with
    | idle | failed => rfl
    | running => exact absurd e hnr
    | ok => exact absurd e hno
  · intro p hp hc
    rw [emit_trace, status_start_eq P p _ t s hp] at hc
    cases hc

theorem OnceInv.finStep {P : Project} {st g : St} {t s : Nat} {r : Option Bool} {rest : List Op} (ok : Bool)
    (hi : OnceInv P st) (hl : LockInv P st) (hops : (st.task t).ops = .runWait s r :: rest)
    (hg : g.tasks = st.tasks) (hwr : g.wasRun = st.wasRun) (htr : g.trace = st.trace ++ [.fin t s ok])
    (x' : Task) (hsub : ∀ o ∈ x'.ops, o ∈ rest) (hS : secShape P x'.ops = true)
    (hhead : ok = true → x'.ops = rest) : OnceInv P (g.setTask t x') := by
  have hshape := (hi.head hops).1
  have hrun := hi.rwRunning t s r rest hops
  refine hi.stepAt hl hops (GrowT.same hg) x' (fun p => (P.info s).path = p) (fun p hp => by subst hp; rfl)
    (by rw [hwr]; exact hi.wv)
    (fun p hp => ⟨by rw [htr, legal_fin_ne P p _ t s ok hp], by rw [htr, status_fin_ne P p _ t s ok hp], by rw [hwr]⟩)
    (fun _ _ e => Or.inl (by cases e; rfl)) nofun (fun o ho => Or.inl (hsub o ho)) hS ?_ ?_ ?_ ?_ ?_
  · intro p hp
    subst hp
    rw [htr, legal_fin_eq P _ _ t s ok rfl, hi.legal, hrun]; rfl
  · intro s' r' rest' ho _
    exact absurd (hsub _ (by rw [ho]; simp)) (rest_no_runWait hl hops s' r')
  · intro p hp hc
    rw [htr, status_fin_eq P p _ t s ok hp] at hc
    cases ok <;> simp at hc
  · intro p hp hc
    rw [htr, status_fin_eq P p _ t s ok hp] at hc
    cases ok with
    | false => simp at hc
    | true =>
      -- behind the `runWait` stands the `setRun` that records the run
      right
      cases hr : rest with
      | nil => rw [hr] at hshape; simp [secShape] at hshape
      | cons a r1 =>
        cases r1 with
        | nil => rw [hr] at hshape; simp [secShape] at hshape
        | cons b r2 =>
          rw [hr] at hshape
          simp only [secShape, List.take_succ_cons, List.take_zero, Bool.and_eq_true, beq_iff_eq, List.cons.injEq,
            and_true] at hshape
          exact ⟨s, b :: r2, by rw [hhead rfl, hr, hshape.1.1], hp⟩
  · intro s' hm _
    rw [hwr]
    exact hi.fresh t s' (hm.imp (fun h => by rw [hops]; exact List.mem_cons_of_mem _ (hsub _ h))
      (fun h => by rw [hops]; exact List.mem_cons_of_mem _ (hsub _ h)))

theorem OnceInv.setRunStep {P : Project} {st : St} {t s : Nat} {sk : Bool} {rest : List Op}
    (hi : OnceInv P st) (hl : LockInv P st) (hops : (st.task t).ops = .setRun s sk :: rest) :
    OnceInv P ((({ st with wasRun := insert (P.info s).path ((P.info s).vid, sk) st.wasRun } : St).emit
      (.setRun t s sk)).setTask t { kind := (st.task t).kind, ops := rest, err := (st.task t).err }) := by
  obtain ⟨hshape, hv⟩ := hi.head hops
  have hmemT : Op.setRun s sk ∈ (st.task t).ops := by rw [hops]; simp
  obtain ⟨r', rfl⟩ := secShape_unlock (Or.inr ⟨sk, rfl⟩) hshape
  have hst : ∀ p, statusOf P p .idle (st.trace ++ [Ev.setRun t s sk]) = statusOf P p .idle st.trace := by
    intro p; rw [statusOf_append]; rfl
  have hlg : ∀ p, legalFrom P p .idle (st.trace ++ [Ev.setRun t s sk]) = legalFrom P p .idle st.trace := by
    intro p; rw [legalFrom_append]; simp [legalFrom]
  -- no other task is inside the lock of the workspace
  have hother : ∀ i, ∀ o ∈ (st.task i).ops, o.section? P = some (P.info s).path → i = t :=
    fun i o ho hs => Classical.byContradiction fun hne => hl.excl hne ho hs hmemT rfl
  refine hi.stepAt hl hops
    (g := ({ st with wasRun := insert (P.info s).path ((P.info s).vid, sk) st.wasRun } : St).emit (.setRun t s sk))
    (GrowT.same rfl) _ (fun p => (P.info s).path = p) (fun p hp => by subst hp; rfl) (hi.wv.insert s sk (hv s rfl))
    (fun p hp => ⟨hlg p, hst p, RanAt_insert_ne _ (Ne.symm hp)⟩) nofun (fun s' e => by cases e; rfl)
    (fun o ho => Or.inl ho) (secShape_tail hshape) (fun p _ => (hlg p).trans (hi.legal p)) ?_ ?_ ?_ ?_
  · intro s' r rest' ho
    cases (show Op.unlock (P.info s).path :: r' = .runWait s' r :: rest' from ho)
  · -- nobody waits for a script in this workspace
    intro p hp hc
    obtain ⟨i, s', r, rest', ho, hq⟩ := hi.runningRw p ((hst p).symm.trans hc)
    have := hother i (.runWait s' r) (by rw [ho]; simp) (by simp [Op.section?, hq, hp])
    subst this
    rw [hops] at ho; cases ho
  · intro p hp hc
    subst hp
    left
    cases sk with
    | false => exact ⟨_, lookup_insert_self _ _ _⟩
    | true =>
      exfalso
      rcases hi.okRan _ ((hst _).symm.trans hc) with hr | ⟨i, s', rest', ho, hq⟩
      · exact hi.fresh t s (Or.inr hmemT) hr
      · have := hother i (.setRun s' false) (by rw [ho]; simp) (by simp [Op.section?, hq])
        subst this
        rw [hops] at ho; cases ho
  · -- behind the `unlock` there is no lock-section operation of this workspace
    intro s' hm hq
    exfalso
    have hsingle : ∀ o' ∈ Op.unlock (P.info s).path :: r', o'.section? P = some (P.info s).path → False := by
      intro o' ho' hs'
      rcases List.mem_cons.mp ho' with e | e
      · subst e; simp [Op.section?] at hs'
      · exact hl.single hops e hs'
    rcases hm with hm | hm <;> exact hsingle _ hm (by simp [Op.section?, hq])

theorem default_task_ops : (default : Task).ops = [] := rfl

/-- the initial configuration has the dispatcher only -/
theorem init_ops (cfg : Cfg) (r0 : Runners) :
    ∀ i, ∀ o ∈ ((Sched.init cfg r0).task i).ops, o = .spawnTop cfg.targets ∨ o = .wrapEnd := by
  intro i o ho
  cases i with
  | zero => simpa [St.task, Sched.init] using ho
  | succ k => simp [St.task, Sched.init, default_task_ops] at ho

theorem OnceInv.init (P : Project) (cfg : Cfg) (r0 : Runners) : OnceInv P (init cfg r0) := by
  have hops := init_ops cfg r0
  have hhead : ∀ i o r, ((Sched.init cfg r0).task i).ops = o :: r → o = .spawnTop cfg.targets := by
    intro i o r ho
    cases i with
    | zero => simp [St.task, Sched.init] at ho; exact ho.1.symm
    | succ k => simp [St.task, Sched.init, default_task_ops] at ho
  refine ⟨?_, ?_, ?_, ?_, ?_, ?_, ?_, ?_⟩
  · intro i o ho s hs
    rcases hops i o ho with e | e <;> subst e <;> simp [Op.relStep] at hs
  · intro p v sk hl
    simp [Sched.init, lookup] at hl
  · intro i
    cases i with
    | zero => simp [St.task, Sched.init, secShape]
    | succ k => simp [St.task, Sched.init, secShape, default_task_ops]
  · intro p; simp [Sched.init, legalFrom]
  · intro i s r rest ho
    have := hhead i _ _ ho; cases this
  · intro p hp
    simp [Sched.init, statusOf] at hp
  · intro p hp
    simp [Sched.init, statusOf] at hp
  · intro i s hm
    rcases hm with hm | hm <;> rcases hops i _ hm with e | e <;> cases e

end Sched
