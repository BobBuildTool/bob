import BobModel.Proofs.C06Base
/-
Facts about the `wasRun` table used by the ordering theorems: under `PathVid` (a valid step's workspace is
not shared with another variant) `_wasAlreadyRun` never prunes an entry, the filter at the top of `_cook`
leaves exactly the steps that have not been run, and "was run" is stable.
-/
namespace Sched
open JobSem

/-- a workspace belongs to one variant (C16).  `s'` ranges over all numbers: beyond `P.steps` its `info` is the default
step (invalid, workspace 0, variant id 0), so a valid step in workspace 0 must have variant id 0. -/
def PathVid (P : Project) : Prop :=
  ∀ s s', (P.info s).valid = true → (P.info s).path = (P.info s').path → (P.info s').vid = (P.info s).vid

abbrev WasRun := List (Nat × Nat × Bool)

/-- the step was run in this invocation (`_wasAlreadyRun(step, skippedOk)` would say yes) -/
def WasOk (P : Project) (wr : WasRun) (s : Nat) (co : Bool) : Prop :=
  ∃ sk, lookup (P.info s).path wr = some ((P.info s).vid, sk) ∧ (co = true ∨ sk = false)

/-- every entry of the table was made for a valid step -/
def WrValid (P : Project) (wr : WasRun) : Prop :=
  ∀ p v sk, lookup p wr = some (v, sk) → ∃ s, (P.info s).valid = true ∧ (P.info s).path = p ∧ (P.info s).vid = v

theorem wasAlreadyRun_spec {P : Project} {wr : WasRun} (hpv : PathVid P) (hv : WrValid P wr) (s : Nat) (co : Bool) :
    (wasAlreadyRun P wr s co).2 = wr ∧ ((wasAlreadyRun P wr s co).1 = true ↔ WasOk P wr s co) := by
  unfold wasAlreadyRun WasOk
  simp only
  cases hl : lookup (P.info s).path wr with
  | none => simp
  | some e =>
    obtain ⟨v, sk⟩ := e
    obtain ⟨s0, h1, h2, h3⟩ := hv _ _ _ hl
    have hvid : (P.info s).vid = v := by rw [← h3]; exact hpv s0 s h1 h2
    simp only [hvid, ne_eq, not_true_eq_false, ↓reduceIte]
    cases co <;> cases sk <;> simp

theorem filterTodo_spec {P : Project} {wr : WasRun} (hpv : PathVid P) (hv : WrValid P wr) (co : Bool) (steps : List Nat) :
    (filterTodo P co steps wr).2 = wr ∧
    (∀ d ∈ steps, (P.info d).valid = true → WasOk P wr d co ∨ d ∈ (filterTodo P co steps wr).1) ∧
    (∀ d ∈ (filterTodo P co steps wr).1, d ∈ steps ∧ (P.info d).valid = true) := by
  induction steps with
  | nil => simp [filterTodo]
  | cons s r ih =>
    obtain ⟨i1, i2, i3⟩ := ih
    unfold filterTodo
    by_cases hval : (P.info s).valid = true
    · simp only [hval, ↓reduceIte]
      obtain ⟨w1, w2⟩ := wasAlreadyRun_spec hpv hv s co
      rw [w1]
      refine ⟨i1, ?_, ?_⟩
      · intro d hd hdv
        rcases List.mem_cons.mp hd with e | e
        · subst e
          by_cases hr : (wasAlreadyRun P wr d co).1 = true
          · exact Or.inl (w2.mp hr)
          · right; simp [hr]
        · rcases i2 d e hdv with h | h
          · exact Or.inl h
          · right
            by_cases hr : (wasAlreadyRun P wr s co).1 = true <;> simp [hr, h]
      · intro d hd
        by_cases hr : (wasAlreadyRun P wr s co).1 = true
        · simp only [hr, ↓reduceIte] at hd
          exact ⟨List.mem_cons_of_mem _ (i3 d hd).1, (i3 d hd).2⟩
        · simp only [hr, Bool.false_eq_true, ↓reduceIte, List.mem_cons] at hd
          rcases hd with e | e
          · subst e; exact ⟨by simp, hval⟩
          · exact ⟨List.mem_cons_of_mem _ (i3 d e).1, (i3 d e).2⟩
    · simp only [hval, Bool.false_eq_true, ↓reduceIte]
      refine ⟨i1, ?_, ?_⟩
      · intro d hd hdv
        rcases List.mem_cons.mp hd with e | e
        · subst e; exact absurd hdv hval
        · exact i2 d e hdv
      · intro d hd
        exact ⟨List.mem_cons_of_mem _ (i3 d hd).1, (i3 d hd).2⟩

theorem WrValid.insert {P : Project} {wr : WasRun} (hv : WrValid P wr) (s : Nat) (sk : Bool)
    (hs : (P.info s).valid = true) : WrValid P (Sched.insert (P.info s).path ((P.info s).vid, sk) wr) := by
  intro p v sk' hl
  by_cases hp : p = (P.info s).path
  · subst hp
    rw [lookup_insert_self] at hl
    cases hl
    exact ⟨s, hs, rfl, rfl⟩
  · rw [lookup_insert_ne _ _ _ _ hp] at hl
    exact hv p v sk' hl

/-- recording a run (not skipped) keeps every "was run" fact -/
theorem WasOk.insert {P : Project} {wr : WasRun} (hpv : PathVid P) {d : Nat} {co : Bool} (h : WasOk P wr d co) (s : Nat)
    (hs : (P.info s).valid = true) : WasOk P (Sched.insert (P.info s).path ((P.info s).vid, false) wr) d co := by
  obtain ⟨sk, h1, h2⟩ := h
  by_cases hp : (P.info d).path = (P.info s).path
  · refine ⟨false, ?_, Or.inr rfl⟩
    rw [hp, lookup_insert_self, hpv s d hs hp.symm]
  · exact ⟨sk, by rw [lookup_insert_ne _ _ _ _ hp]; exact h1, h2⟩

theorem WasOk.self {P : Project} (wr : WasRun) (s : Nat) (co : Bool) :
    WasOk P (Sched.insert (P.info s).path ((P.info s).vid, false) wr) s co :=
  ⟨false, lookup_insert_self _ _ _, Or.inr rfl⟩

end Sched
