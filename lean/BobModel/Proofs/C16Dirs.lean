import BobModel.Model.Dirs
import BobModel.Proofs.CommonSort
/-
Directory assignment: path arithmetic, the collection pass and the numbering pass of
`DevelopDirOracle`, the by-name counters of the release mode.
-/
namespace BobDirs

/-- what `os.path.join(base, x)` puts in front of a relative `x` -/
def dirPrefix (a : Str) : Str :=
  if a = [] ∨ a.getLast? = some '/' then a else a ++ ['/']

theorem natStr_inj {n m : Nat} (h : natStr n = natStr m) : n = m := by
  have := congrArg (fun l => Nat.ofDigitChars 10 l 0) h
  simpa [natStr] using this

theorem slash_not_mem_natStr (n : Nat) : '/' ∉ natStr n := fun h =>
  absurd (Nat.isDigit_of_mem_toDigits (by decide) (by decide) h) (by decide)

theorem natStr_ne_nil (n : Nat) : natStr n ≠ [] := by
  simp [natStr]

theorem numDir_eq (b : Str) (n : Nat) : numDir b n = dirPrefix b ++ natStr n := by
  have hd : (natStr n).head? ≠ some '/' := fun h => slash_not_mem_natStr n (List.mem_of_mem_head? h)
  unfold numDir pjoin dirPrefix
  rw [if_neg hd]
  split <;> simp

theorem dirPrefix_ends (b : Str) : dirPrefix b = [] ∨ (dirPrefix b).getLast? = some '/' := by
  unfold dirPrefix
  split
  · assumption
  · simp

theorem numDir_inj_num {b : Str} {n m : Nat} (h : numDir b n = numDir b m) : n = m := by
  rw [numDir_eq, numDir_eq] at h
  exact natStr_inj (List.append_cancel_left h)

theorem getLast?_append_of_ne_nil {α : Type} (l : List α) {l' : List α} (h : l' ≠ []) :
    (l ++ l').getLast? = l'.getLast? := by
  rw [List.getLast?_append]
  cases hl : l'.getLast? with
  | none => exact absurd (List.getLast?_eq_none_iff.mp hl) h
  | some a => rfl

theorem nil_of_ends_slash {P a : Str} (h : P ++ a = [] ∨ (P ++ a).getLast? = some '/') (ha : '/' ∉ a) :
    a = [] := by
  cases a with
  | nil => rfl
  | cons x xs =>
    rcases h with h | h
    · simp at h
    · rw [getLast?_append_of_ne_nil _ (List.cons_ne_nil x xs)] at h
      exact absurd (List.mem_of_getLast? h) ha

theorem prefix_split {P P' s s' : Str}
    (hP : P = [] ∨ P.getLast? = some '/') (hP' : P' = [] ∨ P'.getLast? = some '/')
    (hs : '/' ∉ s) (hs' : '/' ∉ s') (h : P ++ s = P' ++ s') : P = P' := by
  rcases List.append_eq_append_iff.mp h with ⟨a, rfl, rfl⟩ | ⟨a, rfl, rfl⟩
  · rw [nil_of_ends_slash hP' fun m => hs (List.mem_append_left _ m), List.append_nil]
  · rw [nil_of_ends_slash hP fun m => hs' (List.mem_append_left _ m), List.append_nil]

theorem numDir_inj_prefix {b b' : Str} {n m : Nat} (h : numDir b n = numDir b' m) :
    dirPrefix b = dirPrefix b' := by
  rw [numDir_eq, numDir_eq] at h
  exact prefix_split (dirPrefix_ends b) (dirPrefix_ends b') (slash_not_mem_natStr n)
    (slash_not_mem_natStr m) h

/-- no two base directories of one refresh differ only by a trailing slash -/
def NoTwin (bases : List Str) : Prop :=
  ∀ b ∈ bases, ∀ b' ∈ bases, dirPrefix b = dirPrefix b' → b = b'

theorem noTwin_sub {A B : List Str} (h : NoTwin B) (hs : ∀ x ∈ A, x ∈ B) : NoTwin A :=
  fun b hb b' hb' e => h b (hs b hb) b' (hs b' hb') e

theorem numDir_inj {bases : List Str} (ht : NoTwin bases) {b b' : Str} (hb : b ∈ bases) (hb' : b' ∈ bases)
    {n m : Nat} (h : numDir b n = numDir b' m) : b = b' ∧ n = m := by
  have := ht b hb b' hb' (numDir_inj_prefix h)
  subst this
  exact ⟨rfl, numDir_inj_num h⟩

theorem numDir_last (b : Str) (n : Nat) : numDir b n ≠ [] ∧ (numDir b n).getLast? ≠ some '/' := by
  rw [numDir_eq]
  have hne := natStr_ne_nil n
  refine ⟨by simp [hne], ?_⟩
  rw [getLast?_append_of_ne_nil _ hne]
  exact fun h => slash_not_mem_natStr n (List.mem_of_getLast? h)

/-- `makeRunnable` (`os.path.join(dir, "workspace")`) does not identify two stored directories -/
theorem workspace_inj {b b' : Str} {n n' : Nat}
    (h : pjoin (numDir b n) Consts.C16.workspaceName = pjoin (numDir b' n') Consts.C16.workspaceName) :
    numDir b n = numDir b' n' := by
  have h1 := numDir_last b n
  have h2 := numDir_last b' n'
  unfold pjoin at h
  simp only [show (Consts.C16.workspaceName).head? ≠ some '/' by decide, if_false, h1.1, h1.2, h2.1, h2.2,
    false_or] at h
  exact List.append_cancel_right h

theorem lookup_some_mem {β} {t : List (Str × β)} {k : Str} {v : β} (h : lookup t k = some v) : (k, v) ∈ t := by
  fun_induction lookup t k with
  | case1 => cases h
  | case2 v' rest => cases h; exact List.mem_cons_self
  | case3 k' v' rest hk ih => exact List.mem_cons_of_mem _ (ih h)

theorem lookup_none_iff {β} {t : List (Str × β)} {k : Str} : lookup t k = none ↔ k ∉ t.map (·.1) := by
  fun_induction lookup t k with
  | case1 => simp
  | case2 v' rest => simp
  | case3 k' v' rest hk ih =>
    rw [ih, List.map_cons, List.mem_cons, not_or]
    exact ⟨fun h => ⟨Ne.symm hk, h⟩, fun h => h.2⟩

theorem lookup_of_mem_nodup {β} {t : List (Str × β)} {k : Str} {v : β} (hn : (t.map (·.1)).Nodup)
    (h : (k, v) ∈ t) : lookup t k = some v := by
  fun_induction lookup t k with
  | case1 => cases h
  | case2 v' rest =>
    rcases List.mem_cons.mp h with heq | hmem
    · cases heq; rfl
    · exact absurd (List.mem_map_of_mem (f := (·.1)) hmem) (List.nodup_cons.mp hn).1
  | case3 k' v' rest hk ih =>
    rcases List.mem_cons.mp h with heq | hmem
    · cases heq; exact absurd rfl hk
    · exact ih (List.nodup_cons.mp hn).2 hmem

theorem lookup_isSome_of_mem {β} {t : List (Str × β)} {k : Str} (h : k ∈ t.map (·.1)) : (lookup t k).isSome := by
  cases hl : lookup t k with
  | some v => rfl
  | none => exact absurd h (lookup_none_iff.mp hl)

def allKeys (ds : List (Str × List Key)) : List Key := ds.flatMap (·.2)

theorem addDir_keys_perm (ds : List (Str × List Key)) (b : Str) (k : Key) :
    (allKeys (addDir ds b k)).Perm (k :: allKeys ds) := by
  fun_induction addDir ds b k with
  | case1 => simp [allKeys]
  | case2 ks rest b k =>
    simp only [allKeys, List.flatMap_cons, List.append_assoc, List.singleton_append]
    exact List.perm_middle
  | case3 b' ks rest b k h ih =>
    simp only [allKeys, List.flatMap_cons] at ih ⊢
    exact (List.Perm.append_left ks ih).trans List.perm_middle

/-- `setdefault`: a new base directory goes to the end, a known one keeps its place -/
theorem addDir_bases (ds : List (Str × List Key)) (b : Str) (k : Key) :
    (addDir ds b k).map (·.1) = if b ∈ ds.map (·.1) then ds.map (·.1) else ds.map (·.1) ++ [b] := by
  fun_induction addDir ds b k with
  | case1 => rfl
  | case2 ks rest b k => simp
  | case3 b' ks rest b k h ih =>
    simp only [List.map_cons, ih, List.mem_cons, Ne.symm h, false_or]
    split <;> rfl

theorem mem_addDir_bases {ds : List (Str × List Key)} {b : Str} {k : Key} {x : Str} :
    x ∈ (addDir ds b k).map (·.1) ↔ x = b ∨ x ∈ ds.map (·.1) := by
  rw [addDir_bases]
  split
  · rename_i hb; exact ⟨Or.inr, fun h => h.elim (· ▸ hb) id⟩
  · rw [List.mem_append, List.mem_singleton, or_comm]

theorem addDir_bases_nodup {ds : List (Str × List Key)} (b : Str) (k : Key)
    (h : (ds.map (·.1)).Nodup) : ((addDir ds b k).map (·.1)).Nodup := by
  rw [addDir_bases]
  split
  · exact h
  · rename_i hb
    exact List.nodup_append.mpr ⟨h, List.pairwise_singleton _ _, fun a ha c hc e => hb (List.mem_singleton.mp hc ▸ e ▸ ha)⟩

theorem addDir_mem (ds : List (Str × List Key)) (b : Str) (k : Key) :
    ∃ ks, (b, ks) ∈ addDir ds b k ∧ k ∈ ks := by
  fun_induction addDir ds b k with
  | case1 b k => exact ⟨[k], by simp⟩
  | case2 ks rest b k => exact ⟨ks ++ [k], by simp⟩
  | case3 b' ks rest b k h ih =>
    obtain ⟨ks', h1, h2⟩ := ih
    exact ⟨ks', List.mem_cons_of_mem _ h1, h2⟩

theorem addDir_mono (ds : List (Str × List Key)) (b : Str) (k : Key) {b0 : Str} {ks0 : List Key} {k0 : Key}
    (h : (b0, ks0) ∈ ds) (hk : k0 ∈ ks0) : ∃ ks, (b0, ks) ∈ addDir ds b k ∧ k0 ∈ ks := by
  fun_induction addDir ds b k with
  | case1 => cases h
  | case2 ks' rest b k =>
    rcases List.mem_cons.mp h with heq | hmem
    · cases heq; exact ⟨ks0 ++ [k], List.mem_cons_self, List.mem_append_left _ hk⟩
    · exact ⟨ks0, List.mem_cons_of_mem _ hmem, hk⟩
  | case3 b' ks' rest b k hb ih =>
    rcases List.mem_cons.mp h with heq | hmem
    · cases heq; exact ⟨ks0, List.mem_cons_self, hk⟩
    · obtain ⟨ks, h1, h2⟩ := ih hmem
      exact ⟨ks, List.mem_cons_of_mem _ h1, h2⟩

theorem fmtCollect_of_mem {old : Table} {c : Coll} {key : Key} (base : Str) (h : key ∈ c.visited) :
    fmtCollect old c key base = c := by
  simp [fmtCollect, h]

theorem fmtCollect_kept {old : Table} {c : Coll} {key : Key} {base path : Str} (h : key ∉ c.visited)
    (hl : lookup old key = some path) (hp : base.isPrefixOf path = true) :
    fmtCollect old c key base = { c with visited := key :: c.visited, known := c.known ++ [(key, path)] } := by
  simp [fmtCollect, h, hl, hp]

theorem fmtCollect_of_not_mem (old : Table) {c : Coll} {key : Key} (base : Str) (h : key ∉ c.visited) :
    (∃ path, lookup old key = some path ∧
      fmtCollect old c key base = { c with visited := key :: c.visited, known := c.known ++ [(key, path)] }) ∨
    fmtCollect old c key base = { c with visited := key :: c.visited, dirs := addDir c.dirs base key } := by
  unfold fmtCollect
  rw [if_neg (by simpa using h)]
  split
  · rename_i path hl
    split
    · exact Or.inl ⟨path, hl, rfl⟩
    · exact Or.inr rfl
  · exact Or.inr rfl

theorem mem_visited_fmtCollect {old : Table} {c : Coll} {key : Key} {base : Str} {k : Key} :
    k ∈ (fmtCollect old c key base).visited ↔ k = key ∨ k ∈ c.visited := by
  by_cases hv : key ∈ c.visited
  · rw [fmtCollect_of_mem base hv]; exact ⟨Or.inr, fun h => h.elim (· ▸ hv) id⟩
  · rcases fmtCollect_of_not_mem old base hv with ⟨_, _, e⟩ | e <;> rw [e] <;> exact List.mem_cons

theorem known_fmtCollect (old : Table) {c : Coll} (key : Key) (base : Str) {x : Key × Str} (hx : x ∈ c.known) :
    x ∈ (fmtCollect old c key base).known := by
  by_cases hv : key ∈ c.visited
  · rw [fmtCollect_of_mem base hv]; exact hx
  · rcases fmtCollect_of_not_mem old base hv with ⟨_, _, e⟩ | e <;> rw [e]
    · exact List.mem_append_left _ hx
    · exact hx

/-- invariant of the collection pass: kept entries come from the old table, every visited key is
either kept or filed under exactly one base directory, the base directories are among `B` -/
structure CollInv (old : Table) (B : List Str) (c : Coll) : Prop where
  knownOld : ∀ x ∈ c.known, lookup old x.1 = some x.2
  keys : (c.known.map (·.1) ++ allKeys c.dirs).Perm c.visited
  visitedNodup : c.visited.Nodup
  basesNodup : (c.dirs.map (·.1)).Nodup
  basesSub : ∀ b ∈ c.dirs.map (·.1), b ∈ B

theorem CollInv.keysNodup {old : Table} {B : List Str} {c : Coll} (h : CollInv old B c) :
    (c.known.map (·.1) ++ allKeys c.dirs).Nodup :=
  h.keys.nodup_iff.mpr h.visitedNodup

theorem collInv_step {old : Table} {B : List Str} {c : Coll} (h : CollInv old B c) (key : Key) (base : Str)
    (hb : base ∈ B) : CollInv old B (fmtCollect old c key base) := by
  by_cases hv : key ∈ c.visited
  · rw [fmtCollect_of_mem base hv]; exact h
  · have hnd := List.nodup_cons.mpr ⟨hv, h.visitedNodup⟩
    have hperm := List.perm_middle.trans (h.keys.cons key)
    rcases fmtCollect_of_not_mem old base hv with ⟨path, hl, e⟩ | e <;> rw [e]
    · refine ⟨fun x hx => ?_, ?_, hnd, h.basesNodup, h.basesSub⟩
      · rcases List.mem_append.mp hx with hx | hx
        · exact h.knownOld x hx
        · rw [List.mem_singleton.mp hx]; exact hl
      · rw [List.map_append, List.append_assoc]; exact hperm
    · refine ⟨h.knownOld, ?_, hnd, addDir_bases_nodup base key h.basesNodup, fun b hb' => ?_⟩
      · exact ((addDir_keys_perm c.dirs base key).append_left _).trans hperm
      · exact (mem_addDir_bases.mp hb').elim (· ▸ hb) (h.basesSub b)

theorem collInv_collect (old : Table) (visits : List (Key × Str)) :
    CollInv old (visits.map (·.2)) (collect old visits) :=
  List.foldlRecOn visits _ ⟨by simp [Coll.empty], by simp [Coll.empty, allKeys], List.nodup_nil, List.nodup_nil,
    by simp [Coll.empty]⟩ fun _ hc v hv => collInv_step hc v.1 v.2 (List.mem_map_of_mem hv)

theorem mem_visited_foldl (old : Table) (visits : List (Key × Str)) (c : Coll) (k : Key) :
    k ∈ (visits.foldl (fun c v => fmtCollect old c v.1 v.2) c).visited ↔ k ∈ c.visited ∨ k ∈ visits.map (·.1) := by
  induction visits generalizing c with
  | nil => simp
  | cons v rest ih =>
    rw [List.foldl_cons, ih, mem_visited_fmtCollect, List.map_cons, List.mem_cons, or_comm (a := k = v.1), or_assoc]

/-- the first visit of a key decides: with a stored path that starts with the base directory the
entry is kept -/
theorem collect_keeps {old : Table} {k : Key} {p : Str} (hl : lookup old k = some p) {visits : List (Key × Str)}
    {v : Key × Str} (hf : visits.find? (fun v => v.1 == k) = some v)
    (hp : v.2.isPrefixOf p = true) : (k, p) ∈ (collect old visits).known := by
  obtain ⟨hvk, pre, post, rfl, hpre⟩ := List.find?_eq_some_iff_append.mp hf
  have hk : k ∉ (collect old pre).visited := fun hm => by
    obtain ⟨u, hu, rfl⟩ := List.mem_map.mp (((mem_visited_foldl old pre _ k).mp hm).resolve_left List.not_mem_nil)
    simpa using hpre u hu
  rw [collect] at hk ⊢
  rw [List.foldl_append, List.foldl_cons]
  -- kept at the visit `v`, and later visits only add entries
  refine List.foldlRecOn (motive := fun c : Coll => (k, p) ∈ c.known) post _ ?_
    fun _ hc u _ => known_fmtCollect old u.1 u.2 hc
  rw [beq_iff_eq.mp hvk, fmtCollect_kept hk hl hp]
  exact List.mem_append_right _ List.mem_cons_self

theorem nextFree_spec {kd : List Str} {b : Str} {fuel num n : Nat} (h : nextFree kd b fuel num = some n) :
    num ≤ n ∧ numDir b n ∉ kd := by
  induction fuel generalizing num with
  | zero => simp [nextFree] at h
  | succ f ih =>
    simp only [nextFree] at h
    split at h
    · have := ih h; exact ⟨by omega, this.2⟩
    · rename_i hc; cases h; exact ⟨Nat.le_refl _, by simpa using hc⟩

theorem nextFree_congr {kd kd' : List Str} {b : Str} (fuel num : Nat)
    (h : ∀ k, num ≤ k → (numDir b k ∈ kd ↔ numDir b k ∈ kd')) :
    nextFree kd b fuel num = nextFree kd' b fuel num := by
  induction fuel generalizing num with
  | zero => rfl
  | succ f ih =>
    simp only [nextFree, List.contains_eq_mem, h num (Nat.le_refl _)]
    rw [ih (num + 1) fun k hk => h k (by omega)]

/-- the fuel `knownDirs.length + 1` is always enough: the `while True` loop terminates.  Every
occupied number passed is one entry of `kd` that no later number can hit again. -/
theorem nextFree_isSome (b : Str) (fuel : Nat) (kd : List Str) (num : Nat) (h : kd.length < fuel) :
    ∃ n, nextFree kd b fuel num = some n ∧ num ≤ n ∧ numDir b n ∉ kd := by
  suffices h' : ∃ n, nextFree kd b fuel num = some n from h'.elim fun n hn => ⟨n, hn, nextFree_spec hn⟩
  induction fuel generalizing kd num with
  | zero => omega
  | succ f ih =>
    simp only [nextFree, List.contains_eq_mem]
    by_cases hm : numDir b num ∈ kd
    · have hlt : (kd.filter (fun p => p != numDir b num)).length < kd.length :=
        List.length_filter_lt_length_iff_exists.mpr ⟨numDir b num, hm, by simp⟩
      have hiff : ∀ k, num + 1 ≤ k →
          (numDir b k ∈ kd ↔ numDir b k ∈ kd.filter (fun p => p != numDir b num)) := by
        intro k hk
        simp only [List.mem_filter, bne_iff_ne, ne_eq]
        exact ⟨fun hk' => ⟨hk', fun e => by have := numDir_inj_num e; omega⟩, fun hk' => hk'.1⟩
      rw [if_pos (by simpa using hm), nextFree_congr f (num + 1) hiff]
      exact ih (kd.filter fun p => p != numDir b num) (num + 1) (by omega)
    · exact ⟨num, by simp [hm]⟩

theorem numberKeys_spec (kd : List Str) (b : Str) (ks : List Key) (num : Nat) :
    ∃ r, numberKeys kd b ks num = some r ∧ r.map (·.1) = ks ∧
      (∀ x ∈ r, ∃ m, num ≤ m ∧ x.2 = numDir b m ∧ x.2 ∉ kd) ∧ (r.map (·.2)).Nodup := by
  induction ks generalizing num with
  | nil => exact ⟨[], rfl, rfl, nofun, List.nodup_nil⟩
  | cons k ks ih =>
    obtain ⟨n, hn, hle, hfree⟩ := nextFree_isSome b _ kd num (Nat.lt_succ_self _)
    obtain ⟨r, hr, h1, h2, h3⟩ := ih (n + 1)
    refine ⟨(k, numDir b n) :: r, by simp only [numberKeys, hn, hr], by rw [List.map_cons, h1],
      fun x hx => ?_, ?_⟩
    · rcases List.mem_cons.mp hx with rfl | hmem
      · exact ⟨n, hle, rfl, hfree⟩
      · obtain ⟨m, hm1, hm2⟩ := h2 x hmem
        exact ⟨m, by omega, hm2⟩
    · -- the later keys get numbers above `n`
      rw [List.map_cons, List.nodup_cons]
      refine ⟨fun hmem => ?_, h3⟩
      obtain ⟨x, hx, hxe⟩ := List.mem_map.mp hmem
      obtain ⟨m, hm1, hm2, _⟩ := h2 x hx
      have := numDir_inj_num (hm2.symm.trans hxe)
      omega

/-- the new entries `r` for the filed keys `ds`, next to the kept directories `kd` -/
structure Numbered (kd : List Str) (ds : List (Str × List Key)) (r : List (Key × Str)) : Prop where
  keys : r.map (·.1) = allKeys ds
  dirs : ∀ x ∈ r, ∃ b ∈ ds.map (·.1), ∃ m, x.2 = numDir b m ∧ x.2 ∉ kd
  nodup : NoTwin (ds.map (·.1)) → (ds.map (·.1)).Nodup → (r.map (·.2)).Nodup

/-- `numberAll` succeeds.  No directory is handed out twice: within one base directory the numbers
increase, two base directories never produce the same path. -/
theorem numberAll_spec (kd : List Str) (ds : List (Str × List Key)) :
    ∃ r, numberAll kd ds = some r ∧ Numbered kd ds r := by
  induction ds with
  | nil => exact ⟨[], rfl, rfl, nofun, fun _ _ => List.nodup_nil⟩
  | cons d rest ih =>
    obtain ⟨b, ks⟩ := d
    obtain ⟨r1, hr1, k1, k2, k3⟩ := numberKeys_spec kd b ks 1
    obtain ⟨r2, hr2, i1, i2, i3⟩ := ih
    refine ⟨r1 ++ r2, by simp only [numberAll, hr1, hr2], by rw [List.map_append, k1, i1]; rfl,
      fun x hx => ?_, fun ht hn => ?_⟩
    · rcases List.mem_append.mp hx with hx | hx
      · obtain ⟨m, _, hm⟩ := k2 x hx
        exact ⟨b, List.mem_cons_self, m, hm⟩
      · obtain ⟨b', hb', hm⟩ := i2 x hx
        exact ⟨b', List.mem_cons_of_mem _ hb', hm⟩
    · simp only [List.map_cons, List.nodup_cons] at hn
      rw [List.map_append]
      refine List.nodup_append.mpr ⟨k3, i3 (noTwin_sub ht fun x hx => List.mem_cons_of_mem _ hx) hn.2,
        fun p hp1 _ hp2 hye => ?_⟩
      obtain ⟨x, hx, rfl⟩ := List.mem_map.mp hp1
      obtain ⟨y, hy, rfl⟩ := List.mem_map.mp hp2
      obtain ⟨m, _, hm, _⟩ := k2 x hx
      obtain ⟨b', hb', m', hm', _⟩ := i2 y hy
      have e : numDir b m = numDir b' m' := by rw [← hm, ← hm', hye]
      have hbb : b = b' := (numDir_inj ht List.mem_cons_self (List.mem_cons_of_mem _ hb') e).1
      exact hn.1 (hbb ▸ hb')

variable {old : Table} {visits : List (Key × Str)} {t : Table}

theorem refresh_one_total (old : Table) (visits : List (Key × Str)) : ∃ t, refresh old visits = some t := by
  obtain ⟨r, hr, _⟩ := numberAll_spec ((collect old visits).known.map (·.2)) (collect old visits).dirs
  exact ⟨_, by rw [refresh, writeBack, hr]⟩

theorem refresh_spec (h : refresh old visits = some t) :
    ∃ r, t = (collect old visits).known ++ r ∧
      Numbered ((collect old visits).known.map (·.2)) (collect old visits).dirs r := by
  obtain ⟨r, hr, hs⟩ := numberAll_spec ((collect old visits).known.map (·.2)) (collect old visits).dirs
  rw [refresh, writeBack, hr] at h
  cases h
  exact ⟨r, rfl, hs⟩

theorem refresh_keys (h : refresh old visits = some t) :
    (t.map (·.1)).Nodup ∧ ∀ k, k ∈ t.map (·.1) ↔ k ∈ visits.map (·.1) := by
  obtain ⟨r, rfl, hr⟩ := refresh_spec h
  have inv := collInv_collect old visits
  rw [List.map_append, hr.keys]
  refine ⟨inv.keysNodup, fun k => ?_⟩
  rw [inv.keys.mem_iff, collect, mem_visited_foldl]
  exact or_iff_right (List.not_mem_nil)

/-- a stored directory survives a refresh if it starts with the base directory of the first visit
of its key; the old table may be any table -/
theorem refresh_keeps (h : refresh old visits = some t)
    {k : Key} {p : Str} {v : Key × Str} (hl : lookup old k = some p)
    (hf : visits.find? (fun v => v.1 == k) = some v) (hp : v.2.isPrefixOf p = true) : lookup t k = some p := by
  refine lookup_of_mem_nodup (refresh_keys h).1 ?_
  obtain ⟨r, rfl, _⟩ := refresh_spec h
  exact List.mem_append_left _ (collect_keeps hl hf hp)

theorem run_induction {P : Table → Prop} {hist : List (List (Key × Str))}
    (step : ∀ v ∈ hist, ∀ t t', P t → refresh t v = some t' → P t') {t0 t : Table} (h0 : P t0)
    (h : run t0 hist = some t) : P t := by
  fun_induction run t0 hist with
  | case1 => cases h; exact h0
  | case2 => cases h
  | case3 t0 v rest t' ht' ih =>
    exact ih (fun v' hv' => step v' (List.mem_cons_of_mem _ hv')) (step v List.mem_cons_self _ _ h0 ht') h

theorem run_total (t0 : Table) (hist : List (List (Key × Str))) : ∃ t, run t0 hist = some t := by
  induction hist generalizing t0 with
  | nil => exact ⟨t0, rfl⟩
  | cons v rest ih =>
    obtain ⟨t', ht'⟩ := refresh_one_total t0 v
    obtain ⟨t, ht⟩ := ih t'
    exact ⟨t, by simp only [run, ht', ht]⟩

/-- the table is a function (PRIMARY KEY), no directory is assigned twice, and every directory is
`os.path.join(base, str(n))` for some base directory and number -/
structure WF (t : Table) : Prop where
  keys : (t.map (·.1)).Nodup
  dirs : (t.map (·.2)).Nodup
  shaped : ∀ x ∈ t, ∃ b n, x.2 = numDir b n

theorem wf_nil : WF [] := ⟨List.nodup_nil, List.nodup_nil, nofun⟩

/-- kept directories are distinct because they were in the old table, new ones by `Numbered.nodup`,
and a new one is never a kept one (`knownDirs` check of `__writeBack`) -/
theorem refresh_wf (hw : WF old) (ht : NoTwin (visits.map (·.2))) (h : refresh old visits = some t) : WF t := by
  have hkeys := (refresh_keys h).1
  obtain ⟨r, rfl, hr⟩ := refresh_spec h
  have inv := collInv_collect old visits
  refine ⟨hkeys, ?_, fun x hx => ?_⟩
  · have hk : ((collect old visits).known.map (·.2)).Nodup := by
      have hkn : (collect old visits).known.Nodup :=
        (List.pairwise_map.mp (List.nodup_append.mp inv.keysNodup).1).imp fun hne e => hne (congrArg _ e)
      refine List.pairwise_map.mpr (hkn.imp_of_mem fun {x y} hx hy hne hxy => hne ?_)
      exact SortKey.eq_of_nodup_map hw.dirs (lookup_some_mem (inv.knownOld x hx)) (lookup_some_mem (inv.knownOld y hy)) hxy
    rw [List.map_append]
    refine List.nodup_append.mpr ⟨hk, hr.nodup (noTwin_sub ht inv.basesSub) inv.basesNodup, fun p hp1 _ hp2 e => ?_⟩
    obtain ⟨y, hy, rfl⟩ := List.mem_map.mp hp2
    obtain ⟨_, _, _, _, hnot⟩ := hr.dirs y hy
    exact hnot (e ▸ hp1)
  · rcases List.mem_append.mp hx with hx | hx
    · exact hw.shaped (x.1, x.2) (lookup_some_mem (inv.knownOld x hx))
    · obtain ⟨b, _, m, hm, _⟩ := hr.dirs x hx
      exact ⟨b, m, hm⟩

theorem run_wf {t0 : Table} {hist : List (List (Key × Str))} {t : Table} (hw : WF t0)
    (ht : ∀ v ∈ hist, NoTwin (v.map (·.2))) (h : run t0 hist = some t) : WF t :=
  run_induction (fun v hv _ _ hw h => refresh_wf hw (ht v hv) h) hw h

theorem lookup_dset (s : ByName) (k k' : Str) (v : BVal) :
    lookup (dset s k v) k' = if k = k' then some v else lookup s k' := by
  fun_induction dset s k v with
  | case1 => rfl
  | case2 v0 rest k v =>
    by_cases h1 : k = k'
    · simp only [lookup, if_pos h1]
    · simp only [lookup, if_neg h1]
  | case3 k0 v0 rest k v h0 ih =>
    simp only [lookup, ih]
    by_cases h1 : k0 = k'
    · rw [if_pos h1, if_pos h1, if_neg (h1 ▸ Ne.symm h0)]
    · rw [if_neg h1, if_neg h1]

variable {s s' : ByName} {base digest : Str} {isSrc : Bool} {q : Str}

/-- the counter of a base directory; `setdefault(baseDir, 0)` for one that has none yet -/
def counter (s : ByName) (b : Str) : Nat :=
  match lookup s b with
  | some (.num n) => n
  | _ => 0

/-- a successful call either finds the digest or stores it under the next number of its base
directory; the new dictionary is given by its lookups -/
theorem getByName_cases (hc : getByName s base digest isSrc = .ok (s', q)) :
    (s' = s ∧ ∃ f, lookup s digest = some (.dir q f)) ∨
    (lookup s digest = none ∧ q = numDir base (counter s base + 1) ∧
      ∀ k, lookup s' k = if digest = k then some (.dir q isSrc)
        else if base = k then some (.num (counter s base + 1)) else lookup s k) := by
  unfold getByName at hc
  split at hc
  · rename_i p f hl; cases hc; exact Or.inl ⟨rfl, f, hl⟩
  · cases hc
  · rename_i hdig
    split at hc
    · cases hc
    -- a counter `n`, or none (`counter s base = 0`): the same two `dset`s
    all_goals
      rename_i hn
      cases hc
      exact Or.inr ⟨hdig, by rw [counter, hn], fun k => by rw [lookup_dset, lookup_dset, counter, hn]⟩

/-- invariant of `__byNameDirs` for base directories `B` and digests `D`: counters sit under base
directories, a digest owns a directory numbered at most by the counter of its base directory, and
no two digests own the same directory -/
structure BInv (B D : List Str) (s : ByName) : Prop where
  numKey : ∀ k n, lookup s k = some (.num n) → k ∈ B
  dirKey : ∀ k p f, lookup s k = some (.dir p f) → k ∈ D ∧ ∃ b ∈ B, ∃ m, p = numDir b m ∧ m ≤ counter s b
  inj : ∀ k k' p f f', lookup s k = some (.dir p f) → lookup s k' = some (.dir p f') → k = k'

theorem binv_nil (B D : List Str) : BInv B D [] :=
  ⟨fun _ _ h => (nomatch h), fun _ _ _ h => (nomatch h), fun _ _ _ _ _ h => (nomatch h)⟩

/-- one successful call keeps the invariant: the directory of a new digest carries a number above
the counter, so nobody owns it yet -/
theorem binv_step {B D : List Str} (hT : NoTwin B) (hS : ∀ d ∈ D, d ∉ B) (h : BInv B D s)
    (hb : base ∈ B) (hd : digest ∈ D) (hc : getByName s base digest isSrc = .ok (s', q)) : BInv B D s' := by
  rcases getByName_cases hc with ⟨rfl, _⟩ | ⟨_, hq, hL⟩
  · exact h
  have hdb : ∀ b ∈ B, digest ≠ b := fun b hbB e => hS digest hd (e ▸ hbB)
  have hbase : counter s' base = counter s base + 1 := by rw [counter, hL, if_neg (hdb base hb), if_pos rfl]
  have hmono : ∀ b ∈ B, counter s b ≤ counter s' b := fun b hbB => by
    by_cases hbb : base = b
    · subst hbb; omega
    · rw [counter.eq_1 s', hL, if_neg (hdb b hbB), if_neg hbb]; exact Nat.le_refl _
  have hfresh : ∀ k p f, lookup s k = some (.dir p f) → p ≠ q := by
    intro k p f hk e
    obtain ⟨_, b, hbB, m, hp, hm⟩ := h.dirKey k p f hk
    obtain ⟨rfl, rfl⟩ := numDir_inj hT hbB hb (hp.symm.trans (e.trans hq))
    exact Nat.not_succ_le_self _ hm
  have hdir : ∀ k p f, lookup s' k = some (.dir p f) → k = digest ∧ p = q ∨ lookup s k = some (.dir p f) := by
    intro k p f hk
    rw [hL] at hk
    split at hk
    · rename_i e; cases hk; exact Or.inl ⟨e.symm, rfl⟩
    · split at hk
      · cases hk
      · exact Or.inr hk
  refine ⟨fun k n hk => ?_, fun k p f hk => ?_, fun k k' p f f' hk hk' => ?_⟩
  · rw [hL] at hk
    split at hk
    · cases hk
    · split at hk
      · rename_i e; exact e ▸ hb
      · exact h.numKey k n hk
  · rcases hdir k p f hk with ⟨rfl, rfl⟩ | hk
    · exact ⟨hd, base, hb, _, hq, Nat.le_of_eq hbase.symm⟩
    · obtain ⟨hkD, b, hbB, m, hp, hm⟩ := h.dirKey k p f hk
      exact ⟨hkD, b, hbB, m, hp, Nat.le_trans hm (hmono b hbB)⟩
  · rcases hdir k p f hk with ⟨rfl, rfl⟩ | hk <;> rcases hdir k' p f' hk' with ⟨rfl, e⟩ | hk'
    · rfl
    · exact absurd rfl (hfresh k' p f' hk')
    · exact absurd e (hfresh k p f hk)
    · exact h.inj k k' p f f' hk hk'

theorem getByName_ok {B D : List Str} (hS : ∀ d ∈ D, d ∉ B) {s : ByName} (h : BInv B D s)
    {base digest : Str} (isSrc : Bool) (hb : base ∈ B) (hd : digest ∈ D) :
    ∃ r, getByName s base digest isSrc = .ok r := by
  unfold getByName
  split
  · exact ⟨_, rfl⟩
  · rename_i n hl; exact absurd (h.numKey _ _ hl) (hS digest hd)
  · split
    · rename_i p f hl
      exact absurd hb (hS base (h.dirKey _ _ _ hl).1)
    · exact ⟨_, rfl⟩
    · exact ⟨_, rfl⟩

theorem getExisting_eq_some {s : ByName} {d p : Str} :
    getExisting s d = .ok (some p) ↔ ∃ f, lookup s d = some (.dir p f) := by
  unfold getExisting
  split <;> simp_all

theorem getByName_returns (hc : getByName s base digest isSrc = .ok (s', q)) :
    ∃ f, lookup s' digest = some (.dir q f) := by
  rcases getByName_cases hc with ⟨rfl, hf⟩ | ⟨_, _, hL⟩
  · exact hf
  · exact ⟨isSrc, by rw [hL, if_pos rfl]⟩

theorem getByName_stable (hc : getByName s base digest isSrc = .ok (s', q)) {d p : Str} {f : Bool}
    (hl : lookup s d = some (.dir p f)) (hbd : base ≠ d) : lookup s' d = some (.dir p f) := by
  rcases getByName_cases hc with ⟨rfl, _⟩ | ⟨hdig, _, hL⟩
  · exact hl
  · have hdd : digest ≠ d := fun e => by rw [e, hl] at hdig; cases hdig
    rw [hL, if_neg hdd, if_neg hbd, hl]

theorem runCalls_binv {B D : List Str} (hT : NoTwin B) (hS : ∀ d ∈ D, d ∉ B) {calls : List Call}
    (hB : ∀ c ∈ calls, c.base ∈ B) (hD : ∀ c ∈ calls, c.digest ∈ D) {s : ByName} (h : BInv B D s) :
    ∃ s' ps, runCalls s calls = .ok (s', ps) ∧ BInv B D s' := by
  induction calls generalizing s with
  | nil => exact ⟨s, [], rfl, h⟩
  | cons c rest ih =>
    have hb := hB c List.mem_cons_self
    have hd := hD c List.mem_cons_self
    obtain ⟨⟨s1, q⟩, hq⟩ := getByName_ok hS h c.isSrc hb hd
    obtain ⟨s2, ps, hr, h2⟩ := ih (fun c' hc' => hB c' (List.mem_cons_of_mem _ hc'))
      (fun c' hc' => hD c' (List.mem_cons_of_mem _ hc')) (binv_step hT hS h hb hd hq)
    exact ⟨s2, q :: ps, by simp only [runCalls, hq, hr], h2⟩

theorem runCalls_nil {calls : List Call} (hsep : ∀ c ∈ calls, ∀ c' ∈ calls, c.digest ≠ c'.base)
    (htwin : NoTwin (calls.map (·.base))) :
    ∃ s ps, runCalls [] calls = .ok (s, ps) ∧ BInv (calls.map (·.base)) (calls.map (·.digest)) s := by
  refine runCalls_binv htwin (fun d hd hb => ?_) (fun c hc => List.mem_map_of_mem hc)
    (fun c hc => List.mem_map_of_mem hc) (binv_nil _ _)
  obtain ⟨c, hc, rfl⟩ := List.mem_map.mp hd
  obtain ⟨c', hc', e⟩ := List.mem_map.mp hb
  exact hsep c hc c' hc' e.symm

theorem runCalls_stable {calls : List Call} {ps : List Str}
    (hr : runCalls s calls = .ok (s', ps)) {d p : Str} {f : Bool}
    (hl : lookup s d = some (.dir p f)) (hbd : ∀ c ∈ calls, c.base ≠ d) : lookup s' d = some (.dir p f) := by
  fun_induction runCalls s calls generalizing s' ps with
  | case1 s => cases hr; exact hl
  | case2 | case3 => cases hr
  | case4 s c rest s1 q hq s2 ps' hr' ih =>
    cases hr
    exact ih hr' (getByName_stable hq hl (hbd c List.mem_cons_self)) fun c' hc' => hbd c' (List.mem_cons_of_mem _ hc')

end BobDirs
