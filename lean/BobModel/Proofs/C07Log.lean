import BobModel.Proofs.C07Run
/-
C07: the micro-operation *log* of a whole invocation.

`VerifiedLog`: at the moment of every `setInputs p (downloaded b)` the audit trail of `p` is present and records
the hash of what is in the workspace.
-/
namespace Download

/-- the state condition under which a micro-operation may be emitted -/
def okAt (E : Env) (l : Loc) : Op → Prop
  | .setInputs _ (.downloaded _) => ∃ c, l.disk = some c ∧ l.audit = some (E.H c)
  | _ => True

/-- `VerifiedLog` for operations that all address one workspace, in terms of its state alone
(`VerifiedLog_of_VLoc`) -/
def VLoc (E : Env) : Loc → List Op → Prop
  | _, [] => True
  | l, op :: rest => okAt E l op ∧ VLoc E (locOp E l op) rest

/-- every `setInputs p (downloaded b)` of the log happens in a state where the audit trail of `p` exists and
records the hash of the workspace content -/
def VerifiedLog (E : Env) : St × Archive → List Op → Prop
  | _, [] => True
  | sa, op :: rest => okAt E (sa.1.loc op.path) op ∧ VerifiedLog E (applyOp E sa op) rest

def Op.plain : Op → Bool
  | .setInputs _ (.downloaded _) => false
  | _ => true

theorem okAt_plain (E : Env) (l : Loc) (op : Op) (h : op.plain = true) : okAt E l op := by
  cases op with
  | setInputs p i =>
    cases i with
    | downloaded b => simp [Op.plain] at h
    | _ => trivial
  | _ => trivial

theorem VLoc_plain (E : Env) (ops : List Op) : ∀ l, (∀ op ∈ ops, op.plain = true) → VLoc E l ops := by
  induction ops with
  | nil => intro _ _; trivial
  | cons op ops ih =>
    intro l h
    exact ⟨okAt_plain E l op (h op (by simp)), ih _ (fun o ho => h o (by simp [ho]))⟩

theorem VLoc_append (E : Env) (a b : List Op) : ∀ l, VLoc E l (a ++ b) ↔ VLoc E l a ∧ VLoc E (a.foldl (locOp E) l) b := by
  induction a with
  | nil => intro l; simp [VLoc]
  | cons op a ih =>
    intro l
    simp only [List.cons_append, VLoc, List.foldl_cons, ih, and_assoc]

theorem VerifiedLog_append (E : Env) (a b : List Op) : ∀ sa,
    VerifiedLog E sa (a ++ b) ↔ VerifiedLog E sa a ∧ VerifiedLog E (applyOps E sa a) b := by
  induction a with
  | nil => intro sa; simp [VerifiedLog, applyOps]
  | cons op a ih =>
    intro sa
    simp only [List.cons_append, VerifiedLog, applyOps, List.foldl_cons, and_assoc]
    have := ih (applyOp E sa op)
    simp only [applyOps] at this
    rw [this]

theorem VerifiedLog_of_VLoc (E : Env) (p : Path) (ops : List Op) : ∀ sa, (∀ op ∈ ops, op.path = p) →
    VLoc E (sa.1.loc p) ops → VerifiedLog E sa ops := by
  induction ops with
  | nil => intro _ _ _; trivial
  | cons op ops ih =>
    intro sa hp h
    have hop : op.path = p := hp op (by simp)
    refine ⟨by rw [hop]; exact h.1, ?_⟩
    apply ih _ (fun o ho => hp o (by simp [ho]))
    have := loc_applyOp_same E sa op
    rw [hop] at this
    rw [this]
    exact h.2

theorem VerifiedLog_plain (E : Env) (ops : List Op) : ∀ sa, (∀ op ∈ ops, op.plain = true) → VerifiedLog E sa ops := by
  induction ops with
  | nil => intro _ _; trivial
  | cons op ops ih =>
    intro sa h
    exact ⟨okAt_plain E _ op (h op (by simp)), ih _ (fun o ho => h o (by simp [ho]))⟩

theorem prepOps_plain (i : PInfo) (l : Loc) : ∀ op ∈ prepOps i l, op.plain = true :=
  forall_mem_prepOps (fun _ => rfl) rfl

theorem pkgOps_plain (E : Env) (cfg : Cfg) (i : PInfo) (b : BuildId) (depC : List Content) (tok : Nat) (l : Loc) :
    ∀ op ∈ (pkgOps E cfg i b depC tok l).1, op.plain = true :=
  forall_mem_pkgOps rfl rfl (fun _ => rfl) (fun _ => rfl) rfl rfl (fun _ => rfl)

theorem dlFetchOps_verified (E : Env) (cfg : Cfg) (depth : Nat) (i : PInfo) (b : BuildId) (f : Fetch) (l : Loc) :
    VLoc E l (dlFetchOps E cfg depth i b f).1 := by
  rcases f with _ | ⟨c, _ | h⟩ | _
  · exact ⟨trivial, trivial⟩
  · exact ⟨trivial, trivial⟩
  · by_cases hc : h = E.H c
    · subst hc
      rw [dlFetchOps_good]
      exact ⟨trivial, trivial, trivial, ⟨c, rfl, rfl⟩, trivial, trivial, ⟨c, rfl, rfl⟩, trivial⟩
    · rw [dlFetchOps_bad hc]
      exact ⟨trivial, trivial, trivial, trivial⟩
  · exact ⟨trivial, trivial⟩

/-- **`_downloadPackage` records a download only after it is verified** (from every state, for every archive
entry, mode and depth) -/
theorem dlOps_verified (E : Env) (cfg : Cfg) (depth : Nat) (i : PInfo) (b : BuildId) (l : Loc) (x : Option Artifact) :
    VLoc E l (dlOps E cfg depth i b l x).1 := by
  have hmk : ∀ l', VLoc E l' (mkOps i.path l) := fun l' => VLoc_plain E _ l' (forall_mem_mkOps rfl)
  cases ht : tryDownload cfg.dl depth i
  · rw [dlOps_skip ht]; trivial
  cases hp : dlPrune cfg b (dissect l.inp)
  · cases hr : l.res with
    | none =>
      rw [dlOps_fetch ht hp hr, VLoc_append]
      exact ⟨hmk _, dlFetchOps_verified E cfg depth i b _ _⟩
    | some r => rw [dlOps_keep ht hp hr]; exact hmk _
  · rw [dlOps_prune ht hp, VLoc_append, VLoc_append]
    exact ⟨⟨hmk _, trivial, trivial, trivial, trivial, trivial⟩, dlFetchOps_verified E cfg depth i b _ _⟩

/-- the run is what its log says, and the log is verified -/
def RunOK (E : Env) (s0 : St) (a0 : Archive) (r : Run) : Prop :=
  (r.st, r.arch) = applyOps E (s0, a0) r.log ∧ VerifiedLog E (s0, a0) r.log

section
variable {E : Env} {s0 : St} {a0 : Archive}

theorem runok_exec {r : Run} (h : RunOK E s0 a0 r) (ops : List Op) (hv : VerifiedLog E (r.st, r.arch) ops) :
    RunOK E s0 a0 (r.exec E ops) := by
  constructor
  · show (applyOps E (r.st, r.arch) ops) = applyOps E (s0, a0) (r.log ++ ops)
    rw [applyOps_append, ← h.1]
  · show VerifiedLog E (s0, a0) (r.log ++ ops)
    rw [VerifiedLog_append, ← h.1]
    exact ⟨h.2, hv⟩

theorem runok_war {r : Run} (h : RunOK E s0 a0 r) (i : PInfo) : RunOK E s0 a0 (wasAlreadyRun i r).2 := by
  obtain ⟨w, hw⟩ := war_frame i r
  rw [hw]; exact h

theorem runok_preDl {r : Run} (h : RunOK E s0 a0 r) (i : PInfo) (ds : List Pkg) : RunOK E s0 a0 (preDl E i ds r).2 :=
  runok_exec h _ (VerifiedLog_plain E _ _ (prepOps_plain i (r.st.loc i.path)))

theorem runok_dlPhase {r : Run} (h : RunOK E s0 a0 r) (cfg : Cfg) (depth : Nat) (i : PInfo) (b : BuildId) :
    RunOK E s0 a0 (dlPhase E cfg depth i b r).2 :=
  dlPhase_ind h (runok_exec h _ (VerifiedLog_of_VLoc E i.path _ (r.st, r.arch)
    (fun op ho => (dlOps_path E cfg depth i b _ _ op ho).1) (dlOps_verified E cfg depth i b _ (r.arch b)))) (fun _ h1 => h1)

theorem runok_finish {r : Run} (h : RunOK E s0 a0 r) (cfg : Cfg) (depth : Nat) (i : PInfo) (ds : List Pkg) (b : BuildId) :
    RunOK E s0 a0 (finishPkg E cfg depth i ds b r).run :=
  finish_ind (runok_war h i) (fun _ _ _ h0 => runok_exec h0 _ (VerifiedLog_plain E _ _ (pkgOps_plain E cfg i b _ _ _)))
    (fun _ h1 => runok_exec h1 _ ⟨trivial, trivial⟩)

theorem runok_checkSrc {r : Run} (h : RunOK E s0 a0 r) (i : PInfo) : ∀ r5, checkSrc i r = some r5 → RunOK E s0 a0 r5 := by
  intro r5 hc
  rcases checkSrc_cases i r with ⟨_, e⟩ | ⟨_, e⟩ <;> rw [e] at hc <;> cases hc
  exact runok_exec h [.mispredict i.path] ⟨trivial, trivial⟩

theorem runok_rule (cfg : Cfg) (N : List Pkg) : CookRule E cfg N (RunOK E s0 a0) (RunOK E s0 a0) (RunOK E s0 a0) where
  war i _ h := runok_war h i
  pre i ds _ h := runok_preDl h i ds
  dl depth i b _ h := runok_dlPhase h cfg depth i b
  err _ h := h
  sar _ _ h := h
  chk i _ _ r5 _ h hc := runok_checkSrc h i r5 hc
  fin depth i ds b _ h := runok_finish h cfg depth i ds b

theorem rounds_runok (cfg : Cfg) (t : Pkg) : ∀ (n : Nat) (r : Run), RunOK E s0 a0 r → RunOK E s0 a0 (cookRounds E cfg t n r).run := by
  intro n
  induction n with
  | zero => intro r h; exact h
  | succ n ih =>
    intro r h
    have h1 := (runok_rule cfg (nodes t)).cookPkg t (fun _ hu => hu) 0 r h
    simp only [cookRounds]
    cases hc : cookPkg E cfg 0 t r with
    | ok r1 => rw [hc] at h1; exact h1
    | abort r1 => rw [hc] at h1; exact h1
    | restart r1 => rw [hc] at h1; exact ih r1 h1

end

end Download
