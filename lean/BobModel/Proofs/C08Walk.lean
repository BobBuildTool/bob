import BobModel.Model.TarExtract
/-
The path walk of `Model/TarExtract.lean`: association lists and the file system updates; the
equations of `walk` and its induction principle; what the lenient walk (`os.path.realpath`)
depends on (`SameSym`) and how the strict walk (kernel) relates to it; structural facts on
well-formed trees (every entry has a directory as parent): where a kernel walk can end, splitting
off the last component, walking through missing components, and that a canonical path resolves
to itself (`walk_self`).
-/
namespace TarExtract

section Assoc
variable {α β : Type} [DecidableEq α]

theorem aget_filter (m : List (α × β)) (f : α → Bool) (x : α) :
    aget (m.filter (fun kv => f kv.1)) x = if f x then aget m x else none := by
  induction m with
  | nil => simp [aget]
  | cons kv r ih =>
    obtain ⟨k, v⟩ := kv
    by_cases hk : f k = true
    · simp only [List.filter_cons, hk, if_true, aget]
      by_cases hkx : k = x
      · subst hkx; simp [hk]
      · simp only [hkx, if_false]; exact ih
    · have hk' : f k = false := by simpa using hk
      simp only [List.filter_cons, hk', aget]
      by_cases hkx : k = x
      · subst hkx; simp [hk', ih]
      · simp only [hkx, if_false]; simpa using ih

theorem aget_adel (m : List (α × β)) (x y : α) :
    aget (adel m x) y = if y = x then none else aget m y := by
  unfold adel
  have := aget_filter m (fun k => decide (k ≠ x)) y
  rw [this]
  by_cases h : y = x <;> simp [h]

theorem aget_aset (m : List (α × β)) (x y : α) (v : β) :
    aget (aset m x v) y = if y = x then some v else aget m y := by
  unfold aset
  simp only [aget]
  by_cases h : x = y
  · subst h; simp
  · have h' : ¬ y = x := fun e => h e.symm
    simp only [h, h', if_false]
    rw [aget_adel]; simp [h']

theorem aget_mem {m : List (α × β)} {x : α} {v : β} (h : aget m x = some v) :
    (x, v) ∈ m := by
  induction m with
  | nil => simp [aget] at h
  | cons kv r ih =>
    obtain ⟨k, w⟩ := kv
    simp only [aget] at h
    by_cases hk : k = x
    · simp only [hk, if_true, Option.some.injEq] at h; subst h; subst hk; simp
    · simp only [hk, if_false] at h; exact List.mem_cons_of_mem _ (ih h)

end Assoc

theorem eq_nil_or_snoc {α : Type} (l : List α) : l = [] ∨ ∃ p c, l = p ++ [c] := by
  simpa only [List.concat_eq_append] using List.eq_nil_or_concat l

@[simp] theorem look_setName (fs : FS) (p q : Path) (e : Entry) :
    (fs.setName p e).look q = if q = p then some e else fs.look q := by
  simp [FS.setName, FS.look, aget_aset]

@[simp] theorem look_delName (fs : FS) (p q : Path) :
    (fs.delName p).look q = if q = p then none else fs.look q := by
  simp [FS.delName, FS.look, aget_adel]

@[simp] theorem look_setInode (fs : FS) (i : Nat) (o : Inode) (q : Path) :
    (fs.setInode i o).look q = fs.look q := rfl

@[simp] theorem look_alloc (fs : FS) (o : Inode) (q : Path) : (fs.alloc o).look q = fs.look q := rfl

@[simp] theorem inode_setName (fs : FS) (p : Path) (e : Entry) (i : Nat) :
    (fs.setName p e).inode i = fs.inode i := rfl

@[simp] theorem inode_delName (fs : FS) (p : Path) (i : Nat) : (fs.delName p).inode i = fs.inode i := rfl

@[simp] theorem inode_setInode (fs : FS) (i j : Nat) (o : Inode) :
    (fs.setInode i o).inode j = if j = i then some o else fs.inode j := by
  simp [FS.setInode, FS.inode, aget_aset]

@[simp] theorem inode_alloc (fs : FS) (o : Inode) (j : Nat) :
    (fs.alloc o).inode j = if j = fs.next then some o else fs.inode j := by
  simp [FS.alloc, FS.inode, aget_aset]

@[simp] theorem next_setName (fs : FS) (p : Path) (e : Entry) : (fs.setName p e).next = fs.next := rfl
@[simp] theorem next_delName (fs : FS) (p : Path) : (fs.delName p).next = fs.next := rfl
@[simp] theorem next_setInode (fs : FS) (i : Nat) (o : Inode) : (fs.setInode i o).next = fs.next := rfl
@[simp] theorem next_alloc (fs : FS) (o : Inode) : (fs.alloc o).next = fs.next + 1 := rfl

def SameSym (a b : FS) : Prop := ∀ p, symTarget a p = symTarget b p

theorem SameSym.refl (a : FS) : SameSym a a := fun _ => rfl
theorem SameSym.trans {a b c : FS} (h1 : SameSym a b) (h2 : SameSym b c) : SameSym a c :=
  fun p => (h1 p).trans (h2 p)
theorem SameSym.symm {a b : FS} (h : SameSym a b) : SameSym b a := fun p => (h p).symm

section
variable {fs : FS} {strict follow : Bool} {n : Nat} {cur : Path} {c : Name} {rest : List Name}

theorem walk_nil : walk fs strict follow n cur [] = .ok cur := by cases n <;> rfl

theorem walk_dot : walk fs strict follow (n + 1) cur (dot :: rest) = walk fs strict follow n cur rest := by
  rw [walk, if_pos rfl]

theorem walk_dotdot :
    walk fs strict follow (n + 1) cur (dotdot :: rest) = walk fs strict follow n cur.dropLast rest := by
  rw [walk, if_neg (by decide), if_pos rfl]

variable (hd : c ≠ dot) (hdd : c ≠ dotdot)
include hd hdd

theorem walk_link {t : Str} (hs : symTarget fs (cur ++ [c]) = some t) :
    walk fs strict follow (n + 1) cur (c :: rest) =
      if rest = [] ∧ follow = false then .ok (cur ++ [c])
      else walk fs strict follow n (if isAbs t then [] else cur) (comps t ++ rest) := by
  rw [walk, if_neg hd, if_neg hdd, hs]

theorem walk_through {t : Str} (hs : symTarget fs (cur ++ [c]) = some t) (h : rest ≠ [] ∨ follow = true) :
    walk fs strict follow (n + 1) cur (c :: rest) =
      walk fs strict follow n (if isAbs t then [] else cur) (comps t ++ rest) := by
  rw [walk_link hd hdd hs, if_neg]
  intro ⟨h1, h2⟩
  cases h with
  | inl h => exact h h1
  | inr h => rw [h] at h2; cases h2

theorem walk_lenient_plain (hs : symTarget fs (cur ++ [c]) = none) :
    walk fs false follow (n + 1) cur (c :: rest) = walk fs false follow n (cur ++ [c]) rest := by
  rw [walk, if_neg hd, if_neg hdd, hs]; rfl

theorem walk_strict_plain (hs : symTarget fs (cur ++ [c]) = none) :
    walk fs true follow (n + 1) cur (c :: rest) =
      match fs.look (cur ++ [c]) with
      | some (.dir _) => walk fs true follow n (cur ++ [c]) rest
      | none => if rest = [] then .ok (cur ++ [c]) else .error .enoent
      | some (.ref _) => if rest = [] then .ok (cur ++ [c]) else .error .enotdir := by
  rw [walk, if_neg hd, if_neg hdd, hs]; rfl
end

/-- the strict walk at a name that is missing or no directory -/
theorem stop_ok {rest : List Name} {p r : Path} {e : WErr}
    (h : (if rest = [] then Except.ok p else .error e) = .ok r) : rest = [] ∧ p = r := by
  split at h
  · exact ⟨‹_›, Except.ok.inj h⟩
  · cases h

/-- Induction along `walk`, whatever the flags: the induction hypothesis is there for the place where
a walk continues if it continues (after `.`, `..`, into a link target, past any other name). -/
theorem walk_induction (fs : FS) {motive : Nat → Path → List Name → Prop}
    (nil : ∀ n cur, motive n cur [])
    (eloop : ∀ cur c rest, motive 0 cur (c :: rest))
    (dot : ∀ n cur rest, motive n cur rest → motive (n + 1) cur (dot :: rest))
    (dotdot : ∀ n cur rest, motive n cur.dropLast rest → motive (n + 1) cur (dotdot :: rest))
    (link : ∀ n cur c rest t, c ≠ TarExtract.dot → c ≠ TarExtract.dotdot → symTarget fs (cur ++ [c]) = some t →
      motive n (if isAbs t then [] else cur) (comps t ++ rest) → motive (n + 1) cur (c :: rest))
    (plain : ∀ n cur c rest, c ≠ TarExtract.dot → c ≠ TarExtract.dotdot → symTarget fs (cur ++ [c]) = none →
      motive n (cur ++ [c]) rest → motive (n + 1) cur (c :: rest))
    (n : Nat) (cur : Path) (rest : List Name) : motive n cur rest := by
  induction n generalizing cur rest with
  | zero => cases rest with
    | nil => exact nil 0 cur
    | cons c rest => exact eloop cur c rest
  | succ n ih =>
    cases rest with
    | nil => exact nil _ cur
    | cons c rest =>
      by_cases hd : c = TarExtract.dot
      · exact hd ▸ dot n cur rest (ih _ _)
      by_cases hdd : c = TarExtract.dotdot
      · exact hdd ▸ dotdot n cur rest (ih _ _)
      cases hs : symTarget fs (cur ++ [c]) with
      | some t => exact link n cur c rest t hd hdd hs (ih _ _)
      | none => exact plain n cur c rest hd hdd hs (ih _ _)

theorem walk_lenient_sameSym {a b : FS} (h : SameSym a b) (follow : Bool) (n : Nat) (cur : Path) (rest : List Name) :
    walk a false follow n cur rest = walk b false follow n cur rest := by
  induction n, cur, rest using walk_induction a with
  | nil => simp only [walk_nil]
  | eloop => rfl
  | dot n cur rest ih => simpa only [walk_dot] using ih
  | dotdot n cur rest ih => simpa only [walk_dotdot] using ih
  | link n cur c rest t hd hdd hs ih =>
    rw [walk_link hd hdd hs, walk_link hd hdd (h _ ▸ hs), ih]
  | plain n cur c rest hd hdd hs ih =>
    rw [walk_lenient_plain hd hdd hs, walk_lenient_plain hd hdd (h _ ▸ hs), ih]

theorem walk_strict_lenient {fs : FS} {follow : Bool} {n : Nat} {cur : Path} {rest : List Name} {r : Path} :
    walk fs true follow n cur rest = .ok r → walk fs false follow n cur rest = .ok r := by
  induction n, cur, rest using walk_induction fs with
  | nil => simp only [walk_nil]; exact id
  | eloop => exact id
  | dot n cur rest ih => simpa only [walk_dot] using ih
  | dotdot n cur rest ih => simpa only [walk_dotdot] using ih
  | link n cur c rest t hd hdd hs ih =>
    rw [walk_link hd hdd hs, walk_link hd hdd hs]
    split
    · exact id
    · exact ih
  | plain n cur c rest hd hdd hs ih =>
    rw [walk_strict_plain hd hdd hs, walk_lenient_plain hd hdd hs]
    cases fs.look (cur ++ [c]) with
    | none => intro h; obtain ⟨rfl, rfl⟩ := stop_ok h; exact walk_nil
    | some e => cases e with
      | dir m => exact ih
      | ref i => intro h; obtain ⟨rfl, rfl⟩ := stop_ok h; exact walk_nil

theorem walk_strict_eq_lenient {a : FS} {follow : Bool} {n : Nat} {p : List Name} {L R : Path}
    (hk : walk a true follow n [] p = .ok L) (hR : walk a false follow n [] p = .ok R) : L = R :=
  Except.ok.inj ((walk_strict_lenient hk).symm.trans hR)

theorem walk_nofollow_follow {fs : FS} {n : Nat} {cur : Path} {rest : List Name} {r : Path}
    (hs : symTarget fs r = none) :
    walk fs true false n cur rest = .ok r → walk fs true true n cur rest = .ok r := by
  induction n, cur, rest using walk_induction fs with
  | nil => simp only [walk_nil]; exact id
  | eloop => exact id
  | dot n cur rest ih => simpa only [walk_dot] using ih
  | dotdot n cur rest ih => simpa only [walk_dotdot] using ih
  | link n cur c rest t hd hdd ht ih =>
    rw [walk_through hd hdd ht (.inr rfl), walk_link hd hdd ht]
    split
    · intro h; cases h; rw [hs] at ht; cases ht
    · exact ih
  | plain n cur c rest hd hdd ht ih =>
    rw [walk_strict_plain hd hdd ht, walk_strict_plain hd hdd ht]
    cases fs.look (cur ++ [c]) with
    | none => exact id
    | some e => cases e with
      | dir m => exact ih
      | ref i => exact id

def IsDir (fs : FS) (p : Path) : Prop := ∃ m, fs.look p = some (.dir m)

def WF (fs : FS) : Prop := ∀ p c e, fs.look (p ++ [c]) = some e → IsDir fs p

/-- a component as `canonical` admits it.  The fields `AuditOk.plain`, `Ready.destPlain` and the hypotheses on
a last component or on the destination (`hc`, `hdp`) ask only for `c ≠ dot ∧ c ≠ dotdot`, the half that
`walk` distinguishes. -/
def Plain (c : Name) : Prop := c ≠ [] ∧ c ≠ dot ∧ c ≠ dotdot

theorem symTarget_of_look_none {fs : FS} {p : Path} (h : fs.look p = none) : symTarget fs p = none := by
  simp [symTarget, h]

def Inode.target : Inode → Option Str
  | ⟨.symlink t, _⟩ => some t
  | _ => none

theorem symTarget_of_ref {fs : FS} {p : Path} {i : Nat} (h : fs.look p = some (.ref i)) :
    symTarget fs p = (fs.inode i).bind Inode.target := by
  unfold symTarget
  rw [h]
  dsimp only
  cases fs.inode i with
  | none => rfl
  | some o => obtain ⟨ob, md⟩ := o; cases ob <;> rfl

theorem symTarget_of_isDir {fs : FS} {p : Path} (h : IsDir fs p) : symTarget fs p = none := by
  obtain ⟨m, hm⟩ := h
  simp [symTarget, hm]

theorem not_isDir_of_look_none {fs : FS} {p : Path} (h : fs.look p = none) : ¬ IsDir fs p :=
  fun ⟨m, hm⟩ => by rw [h] at hm; cases hm

theorem isDir_dropLast {fs : FS} (hwf : WF fs) {p : Path} (h : IsDir fs p) : IsDir fs p.dropLast := by
  rcases eq_nil_or_snoc p with rfl | ⟨q, c, rfl⟩
  · exact h
  · obtain ⟨m, hm⟩ := h
    simpa using hwf q c _ hm

theorem look_child_none {fs : FS} (hwf : WF fs) {p : Path} (h : fs.look p = none) (c : Name) :
    fs.look (p ++ [c]) = none := by
  cases hl : fs.look (p ++ [c]) with
  | none => rfl
  | some e =>
    obtain ⟨m, hm⟩ := hwf p c e hl
    rw [h] at hm; cases hm

/-- where a walk goes on after a symbolic link with target `t` -/
theorem isDir_restart {fs : FS} {cur : Path} (hroot : IsDir fs []) (hcur : IsDir fs cur) (t : Str) :
    IsDir fs (if isAbs t = true then [] else cur) := by
  split
  · exact hroot
  · exact hcur

theorem walk_dir {fs : FS} {strict follow : Bool} {n : Nat} {cur : Path} {c : Name} {rest : List Name}
    (hd : c ≠ dot) (hdd : c ≠ dotdot) (h : IsDir fs (cur ++ [c])) :
    walk fs strict follow (n + 1) cur (c :: rest) = walk fs strict follow n (cur ++ [c]) rest := by
  obtain ⟨m, hm⟩ := h
  cases strict with
  | false => exact walk_lenient_plain hd hdd (symTarget_of_isDir ⟨m, hm⟩)
  | true => rw [walk_strict_plain hd hdd (symTarget_of_isDir ⟨m, hm⟩), hm]

theorem walk_last {fs : FS} {strict follow : Bool} {n : Nat} {cur : Path} {c : Name} (hd : c ≠ dot) (hdd : c ≠ dotdot)
    (hs : symTarget fs (cur ++ [c]) = none) : walk fs strict follow (n + 1) cur [c] = .ok (cur ++ [c]) := by
  cases strict with
  | false => rw [walk_lenient_plain hd hdd hs, walk_nil]
  | true =>
    rw [walk_strict_plain hd hdd hs]
    cases fs.look (cur ++ [c]) with
    | none => rfl
    | some e => cases e with
      | dir m => exact walk_nil
      | ref i => rfl

theorem walk_strict_single {fs : FS} {n : Nat} {cur : Path} {c : Name} (hd : c ≠ dot) (hdd : c ≠ dotdot) :
    walk fs true false (n + 1) cur [c] = .ok (cur ++ [c]) := by
  cases hs : symTarget fs (cur ++ [c]) with
  | some t => rw [walk_link hd hdd hs, if_pos ⟨rfl, rfl⟩]
  | none => exact walk_last hd hdd hs

section
variable {fs : FS} (hwf : WF fs) (hroot : IsDir fs [])
include hwf hroot

theorem walk_strict_parent {follow : Bool} {n : Nat} {cur : Path} {p : List Name} {L : Path} (hcur : IsDir fs cur) :
    walk fs true follow n cur p = .ok L → IsDir fs L ∨ ∃ D c, L = D ++ [c] ∧ IsDir fs D := by
  induction n, cur, p using walk_induction fs with
  | nil n cur => rw [walk_nil]; intro h; cases h; exact Or.inl hcur
  | eloop => nofun
  | dot n cur p ih => rw [walk_dot]; exact ih hcur
  | dotdot n cur p ih => rw [walk_dotdot]; exact ih (isDir_dropLast hwf hcur)
  | link n cur c p t hd hdd hs ih =>
    rw [walk_link hd hdd hs]
    split
    · intro h; cases h; exact Or.inr ⟨cur, c, rfl, hcur⟩
    · exact ih (isDir_restart hroot hcur t)
  | plain n cur c p hd hdd hs ih =>
    rw [walk_strict_plain hd hdd hs]
    cases hl : fs.look (cur ++ [c]) with
    | none => intro h; exact Or.inr ⟨cur, c, (stop_ok h).2.symm, hcur⟩
    | some e => cases e with
      | dir m => exact ih ⟨m, hl⟩
      | ref i => intro h; exact Or.inr ⟨cur, c, (stop_ok h).2.symm, hcur⟩

theorem walk_split_last {c : Name} (hc : c ≠ dot ∧ c ≠ dotdot) {n : Nat} {cur : Path} {p : List Name} {L : Path}
    (hcur : IsDir fs cur) :
    walk fs true false n cur (p ++ [c]) = .ok L →
      ∃ D, walk fs true true n cur p = .ok D ∧ L = D ++ [c] ∧ IsDir fs D := by
  induction n, cur, p using walk_induction fs with
  | nil n cur =>
    cases n with
    | zero => nofun
    | succ n =>
      rw [List.nil_append, walk_strict_single hc.1 hc.2]
      intro h; cases h; exact ⟨cur, walk_nil, rfl, hcur⟩
  | eloop => nofun
  | dot n cur p ih => rw [List.cons_append, walk_dot, walk_dot]; exact ih hcur
  | dotdot n cur p ih => rw [List.cons_append, walk_dotdot, walk_dotdot]; exact ih (isDir_dropLast hwf hcur)
  | link n cur x p t hd hdd hs ih =>
    rw [List.cons_append, walk_through hd hdd hs (.inl (by simp)), walk_through hd hdd hs (.inr rfl),
      ← List.append_assoc]
    exact ih (isDir_restart hroot hcur t)
  | plain n cur x p hd hdd hs ih =>
    rw [List.cons_append, walk_strict_plain hd hdd hs, walk_strict_plain hd hdd hs]
    cases hl : fs.look (cur ++ [x]) with
    | none => intro h; exact absurd (stop_ok h).1 (by simp)
    | some e => cases e with
      | dir m => exact ih ⟨m, hl⟩
      | ref i => intro h; exact absurd (stop_ok h).1 (by simp)

omit hroot

theorem walk_lenient_from_missing {b : List Name} {n : Nat} {cur r : Path} (hcur : fs.look cur = none)
    (hb : ∀ c ∈ b, Plain c) (h : walk fs false true n cur b = .ok r) : r = cur ++ b := by
  induction b generalizing n cur with
  | nil => rw [walk_nil] at h; cases h; simp
  | cons c b ih =>
    cases n with
    | zero => cases h
    | succ n =>
      have hc := hb c (by simp)
      have hchild := look_child_none hwf hcur c
      rw [walk_lenient_plain hc.2.1 hc.2.2 (symTarget_of_look_none hchild)] at h
      simpa using ih hchild (fun d hd => hb d (by simp [hd])) h

theorem walk_lenient_append_missing {b : List Name} (hb : ∀ c ∈ b, Plain c) {n : Nat} {cur : Path} {a : List Name}
    {M r : Path} (hM : fs.look M = none) :
    walk fs false true n cur a = .ok M → walk fs false true n cur (a ++ b) = .ok r → r = M ++ b := by
  induction n, cur, a using walk_induction fs with
  | nil n cur => rw [walk_nil]; intro h; cases h; exact walk_lenient_from_missing hwf hM hb
  | eloop => nofun
  | dot n cur a ih => rw [List.cons_append, walk_dot, walk_dot]; exact ih
  | dotdot n cur a ih => rw [List.cons_append, walk_dotdot, walk_dotdot]; exact ih
  | link n cur x a t hd hdd hs ih =>
    rw [List.cons_append, walk_through hd hdd hs (.inr rfl), walk_through hd hdd hs (.inr rfl),
      ← List.append_assoc]
    exact ih
  | plain n cur x a hd hdd hs ih =>
    rw [List.cons_append, walk_lenient_plain hd hdd hs, walk_lenient_plain hd hdd hs]; exact ih

end

theorem walk_along (fs : FS) (strict follow : Bool) : ∀ (q : List Name) (cur : Path) (n : Nat),
    (∀ c ∈ q, c ≠ dot ∧ c ≠ dotdot) → (∀ k, 0 < k → k < q.length → IsDir fs (cur ++ q.take k)) →
    symTarget fs (cur ++ q) = none → q.length ≤ n → walk fs strict follow n cur q = .ok (cur ++ q)
  | [], cur, n, _, _, _, _ => by rw [walk_nil, List.append_nil]
  | _ :: _, _, 0, _, _, _, hn => absurd hn (by simp)
  | [x], cur, n + 1, hq, _, hs, _ => walk_last (hq x List.mem_cons_self).1 (hq x List.mem_cons_self).2 hs
  | x :: y :: q, cur, n + 1, hq, hd, hs, hn => by
    have hx := hq x List.mem_cons_self
    have hdx : IsDir fs (cur ++ [x]) := hd 1 Nat.one_pos (Nat.succ_lt_succ (Nat.succ_pos _))
    rw [walk_dir hx.1 hx.2 hdx, walk_along fs strict follow (y :: q) (cur ++ [x]) n
      (fun c hc => hq c (List.mem_cons_of_mem x hc))
      (fun k hk hk' => by rw [List.append_assoc]; exact hd (k + 1) (Nat.succ_pos k) (Nat.succ_lt_succ hk'))
      (by rw [List.append_assoc]; exact hs) (Nat.le_of_succ_le_succ hn), List.append_assoc]
    rfl

theorem walk_self {fs : FS} (strict follow : Bool) {q : Path} {n : Nat} (hq : ∀ c ∈ q, c ≠ dot ∧ c ≠ dotdot)
    (hd : ∀ k, k < q.length → IsDir fs (q.take k)) (hs : symTarget fs q = none) (hn : q.length ≤ n) :
    walk fs strict follow n [] q = .ok q :=
  walk_along fs strict follow q [] n hq (fun k _ hk => hd k hk) hs hn

end TarExtract
