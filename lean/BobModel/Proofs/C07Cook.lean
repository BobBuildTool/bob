import BobModel.Proofs.C07Run
/-
C07: the invariant `G` of a whole invocation (`cookPkg` / `cookList` / `cook`) by structural induction over the
package tree.  What a cook achieves is stated relative to the run it started from (`StepAt`, `Post`) and
depends on the branch taken, so `kpkg_mk` (and `nb_mk` in C07NoBuild) walk the package branch by hand
through `cookPkg_go`; `CookRule` (C07Run) serves the properties of a single run.
-/
namespace Download

/-- a workspace path identifies one package of the project (Bob's directory numbering, C16) -/
def NoAlias (N : List Pkg) : Prop := ∀ u ∈ N, ∀ v ∈ N, u.path = v.path → u = v

theorem noAlias_pair {a b : Pkg} (h : a.path ≠ b.path) : NoAlias [a, b] :=
  forall_mem_pair (forall_mem_pair (fun _ => rfl) (fun e => absurd e h))
    (forall_mem_pair (fun e => absurd e.symm h) (fun _ => rfl))

/-- the Variant-Id determines the recipe part of a package (C02) -/
def VidOK (ρ : Vid → RSig) (N : List Pkg) : Prop := ∀ u ∈ N, ρ u.info.vid = u.info.rsig

def Inv (E : Env) (ρ : Vid → RSig) (s : St) : Prop := ∀ p, InvLoc E ρ (s.loc p)

/-- a `__wasRun` entry is never stale -/
def MemWF (N : List Pkg) (m : Mem) : Prop :=
  ∀ q v, m.wasRun q = some v → ∃ u ∈ N, u.path = q ∧ u.info.vid = v

/-- what is marked as run holds the result of a local build of the project state the builder believes in -/
def MemOK (E : Env) (N : List Pkg) (r : Run) : Prop :=
  ∀ u ∈ N, r.mem.wasRun u.path = some u.info.vid → r.st.disk u.path = some (value E (eff r.mem.fixed u))

/-- a cached Build-Id is that of the project state the builder believes in -/
def CacheOK (E : Env) (N : List Pkg) (m : Mem) : Prop :=
  ∀ u ∈ N, ∀ b, m.bids u.path = some b → b = tb E (eff m.fixed u)

/-- the invariant of an invocation on the project with packages `N`, between any two steps of `cookPkg` -/
structure G (E : Env) (ρ : Vid → RSig) (N : List Pkg) (r : Run) : Prop where
  inv : Inv E ρ r.st
  arch : ArchOK E r.arch
  wf : MemWF N r.mem
  ok : MemOK E N r
  cache : CacheOK E N r.mem

/-- what a (partial) cook does to the rest of the world: `p` = the workspace that is being cooked.  Workspaces
that are not marked as run afterwards were not touched and no download was tried for them. -/
structure StepAt (p : Option Path) (r r' : Run) : Prop where
  fixed : r'.mem.fixed = r.mem.fixed
  mono : ∀ q v, r.mem.wasRun q = some v → r'.mem.wasRun q = some v
  frame : ∀ q, some q ≠ p → r'.mem.wasRun q = none → r'.st.loc q = r.st.loc q
  tried : ∀ q, some q ≠ p → r'.mem.wasRun q = none → r'.mem.tried q = r.mem.tried q

theorem StepAt.refl (p : Option Path) (r : Run) : StepAt p r r :=
  ⟨rfl, fun _ _ h => h, fun _ _ _ => rfl, fun _ _ _ => rfl⟩

theorem StepAt.trans {p : Option Path} {a b c : Run} (h1 : StepAt p a b) (h2 : StepAt p b c) : StepAt p a c := by
  have hb : ∀ q, c.mem.wasRun q = none → b.mem.wasRun q = none := by
    intro q hc
    cases hbq : b.mem.wasRun q with
    | none => rfl
    | some v => rw [h2.mono q v hbq] at hc; cases hc
  exact ⟨by rw [h2.fixed, h1.fixed], fun q v h => h2.mono q v (h1.mono q v h),
    fun q hq hc => by rw [h2.frame q hq hc, h1.frame q hq (hb q hc)],
    fun q hq hc => by rw [h2.tried q hq hc, h1.tried q hq (hb q hc)]⟩

theorem StepAt.weaken {p : Option Path} {a b : Run} (h : StepAt none a b) : StepAt p a b :=
  ⟨h.fixed, h.mono, fun q _ hc => h.frame q (by simp) hc, fun q _ hc => h.tried q (by simp) hc⟩

theorem StepAt.close {p : Path} {a b : Run} (h : StepAt (some p) a b) (hp : b.mem.wasRun p ≠ none) : StepAt none a b := by
  have hne : ∀ q, b.mem.wasRun q = none → some q ≠ some p := by
    intro q hc e
    cases e
    exact hp hc
  exact ⟨h.fixed, h.mono, fun q _ hc => h.frame q (hne q hc) hc, fun q _ hc => h.tried q (hne q hc) hc⟩

section
variable {E : Env} {ρ : Vid → RSig} {N : List Pkg}

theorem G_exec {r : Run} (hG : G E ρ N r) (p : Path) (hw : r.mem.wasRun p = none) (ops : List Op)
    (hops : ∀ op ∈ ops, op.path = p ∧ op.isUpload = false)
    (hI : InvLoc E ρ (ops.foldl (locOp E) (r.st.loc p))) :
    G E ρ N (r.exec E ops) ∧ StepAt (some p) r (r.exec E ops) := by
  refine ⟨⟨fun q => ?_, (exec_arch hops).symm ▸ hG.arch, hG.wf, fun u hu hrun => ?_, hG.cache⟩,
    ⟨rfl, fun _ _ h => h, fun q hq _ => exec_loc_other hops (fun e => hq (by rw [e])), fun _ _ _ => rfl⟩⟩
  · by_cases hq : q = p
    · rw [hq, exec_loc_same hops]; exact hI
    · rw [exec_loc_other hops hq]; exact hG.inv q
  · have hrun' : r.mem.wasRun u.path = some u.info.vid := hrun
    have hne : u.path ≠ p := fun e => by rw [e, hw] at hrun'; cases hrun'
    exact (congrArg Loc.disk (exec_loc_other hops hne)).trans (hG.ok u hu hrun')

theorem G_mem {p : Option Path} {r r' : Run} (hG : G E ρ N r) (hst : r'.st = r.st) (ha : r'.arch = r.arch)
    (hw : r'.mem.wasRun = r.mem.wasRun) (hf : r'.mem.fixed = r.mem.fixed)
    (ht : ∀ q, some q ≠ p → r'.mem.tried q = r.mem.tried q) (hc : CacheOK E N r'.mem) :
    G E ρ N r' ∧ StepAt p r r' := by
  refine ⟨⟨by rw [hst]; exact hG.inv, by rw [ha]; exact hG.arch, ?_, ?_, hc⟩,
    ⟨hf, fun q v h => by rw [hw]; exact h, fun q _ _ => by rw [hst], fun q hq _ => ht q hq⟩⟩
  · intro q v h; rw [hw] at h; exact hG.wf q v h
  · intro u hu h
    rw [hw] at h
    rw [hst, hf]
    exact hG.ok u hu h

theorem mem_nodesL {d : Pkg} {ds : List Pkg} (h : d ∈ ds) : ∀ u ∈ nodes d, u ∈ nodesL ds := by
  induction ds with
  | nil => cases h
  | cons x xs ih =>
    intro u hu
    simp only [nodesL, List.mem_append]
    rcases List.mem_cons.mp h with rfl | h'
    · exact Or.inl hu
    · exact Or.inr (ih h' u hu)

theorem eff_info_path (F : Path → Bool) (t : Pkg) : (eff F t).path = t.path := by
  cases t with
  | mk i ds => simp [eff, Pkg.path, Pkg.info]

/-- `_getBuildId` computes the Build-Id of the believed project state -/
def GBP (E : Env) (N : List Pkg) (t : Pkg) : Prop :=
  ∀ m, (∀ u ∈ nodes t, u ∈ N) → CacheOK E N m →
    (getBuildId E t m).1 = tb E (eff m.fixed t) ∧ CacheOK E N (getBuildId E t m).2

def GBL (E : Env) (N : List Pkg) (ds : List Pkg) : Prop :=
  ∀ m, (∀ u ∈ nodesL ds, u ∈ N) → CacheOK E N m →
    (getBuildIds E ds m).1 = tbs E (effs m.fixed ds) ∧ CacheOK E N (getBuildIds E ds m).2

theorem gbp_mk (hNA : NoAlias N) (i : PInfo) (ds : List Pkg) (ih : GBL E N ds) : GBP E N (.mk i ds) := by
  intro m hsub hc
  have htN : Pkg.mk i ds ∈ N := hsub _ (self_mem_nodes _)
  unfold getBuildId
  cases hb : m.bids i.path with
  | some b => exact ⟨hc _ htN b hb, hc⟩
  | none =>
    obtain ⟨h1, h5⟩ := ih m (fun u hu => hsub u (by simp [nodes, hu])) hc
    obtain ⟨h2, _, _⟩ := gbs_frame E ds m
    generalize getBuildIds E ds m = g at h1 h2 h5
    obtain ⟨bs, m1⟩ := g
    simp only at h1 h2 h5 ⊢
    have hb0 : E.B i.rsig (srcNow m1 i) bs = tb E (eff m.fixed (.mk i ds)) := by
      simp only [eff, tb, srcNow, h1, h2]
    refine ⟨hb0, ?_⟩
    -- the new cache entry is right; the others are those of the dependencies' pass
    intro u hu b' hb'
    rcases upd_some hb' with ⟨hp, e⟩ | ⟨_, hb'⟩
    · rw [← e, hb0, hNA u hu _ htN hp, h2]
    · exact h5 u hu b' hb'

theorem gbl_cons (d : Pkg) (ds : List Pkg) (hd : GBP E N d) (hds : GBL E N ds) : GBL E N (d :: ds) := by
  intro m hsub hc
  unfold getBuildIds
  obtain ⟨a1, a5⟩ := hd m (fun u hu => hsub u (by simp [nodesL, hu])) hc
  obtain ⟨a2, _, _⟩ := gb_frame E d m
  generalize getBuildId E d m = g at a1 a2 a5
  obtain ⟨b1, b5⟩ := hds g.2 (fun u hu => hsub u (by simp [nodesL, hu])) a5
  exact ⟨by simp only [effs, tbs, a1, b1, a2], b5⟩

theorem gbp_all (hNA : NoAlias N) (t : Pkg) : GBP E N t :=
  Pkg.rec (motive_1 := fun t => GBP E N t) (motive_2 := fun ds => GBL E N ds)
    (fun i ds ih => gbp_mk hNA i ds ih) (fun _ _ hc => ⟨rfl, hc⟩) (fun d ds hd hds => gbl_cons d ds hd hds) t

theorem contents_eq (F : Path → Bool) (s : St) (ds : List Pkg)
    (h : ∀ d ∈ ds, s.disk d.path = some (value E (eff F d))) : contentsOf s ds = values E (effs F ds) := by
  induction ds with
  | nil => rfl
  | cons d ds ih =>
    simp only [contentsOf, List.map_cons, effs, values]
    rw [h d (by simp)]
    simp only [Option.getD_some, List.cons.injEq, true_and]
    exact ih (fun x hx => h x (by simp [hx]))

theorem war_spec (hNA : NoAlias N) {r : Run} (hG : G E ρ N r) (i : PInfo) (ds : List Pkg) (htN : Pkg.mk i ds ∈ N) :
    (wasAlreadyRun i r = (true, r) ∧ r.mem.wasRun i.path = some i.vid) ∨
    (wasAlreadyRun i r = (false, r) ∧ r.mem.wasRun i.path = none) := by
  unfold wasAlreadyRun
  cases hw : r.mem.wasRun i.path with
  | none => exact Or.inr ⟨rfl, rfl⟩
  | some v =>
    -- the entry belongs to this package, so it is not stale
    obtain ⟨u, hu, hp, hv⟩ := hG.wf _ _ hw
    have hvv : v = i.vid := by rw [← hv, hNA u hu _ htN hp]; rfl
    rw [hvv]
    exact Or.inl ⟨if_neg (not_not_intro rfl), rfl⟩

theorem sar_spec (hNA : NoAlias N) {r : Run} (hG : G E ρ N r) (i : PInfo) (ds : List Pkg) (htN : Pkg.mk i ds ∈ N)
    (hw : r.mem.wasRun i.path = none)
    (hd : r.st.disk i.path = some (value E (eff r.mem.fixed (.mk i ds)))) :
    G E ρ N (setAlreadyRun i r) ∧ StepAt none r (setAlreadyRun i r) ∧
    (setAlreadyRun i r).mem.wasRun i.path = some i.vid := by
  refine ⟨⟨hG.inv, hG.arch, ?_, ?_, hG.cache⟩, ⟨rfl, ?_, fun _ _ _ => rfl, fun _ _ _ => rfl⟩, by simp [setAlreadyRun, upd_same]⟩
  · intro q v h
    dsimp only [setAlreadyRun] at h
    rcases upd_some h with ⟨hq, e⟩ | ⟨_, h⟩
    · exact ⟨_, htN, hq.symm, e⟩
    · exact hG.wf q v h
  · intro u hu h
    dsimp only [setAlreadyRun] at h ⊢
    rcases upd_some h with ⟨hq, _⟩ | ⟨_, h⟩
    · rw [hNA u hu _ htN hq]; exact hd
    · exact hG.ok u hu h
  · intro q v h
    dsimp only [setAlreadyRun]
    have hq : q ≠ i.path := fun e => by rw [e, hw] at h; cases h
    exact (upd_other hq).trans h

theorem upload_archOK (s : St) (a : Archive) (p : Path) (b : BuildId) (c : Content) (ha : ArchOK E a)
    (haud : s.audit p = some (E.H c)) (hd : s.disk p = some c) (t0 : Pkg) (ht : tb E t0 = b) (hc : c = value E t0) :
    ArchOK E (applyOp E (s, a) (.upload p b)).2 := by
  rcases applyOp_upload E s a p b with ⟨_, e⟩ | ⟨au, h1, _, e⟩ <;> rw [e]
  · exact ha
  · intro b' x hx
    rcases upd_some hx with ⟨hb, e⟩ | ⟨_, hx⟩
    · rw [hd, Option.getD_some, ← Option.some.inj (haud.symm.trans h1), hc] at e
      exact Or.inl ⟨t0, hb ▸ ht, e.symm⟩
    · exact ha b' x hx

theorem upload_st (s : St) (a : Archive) (p : Path) (b : BuildId) : (applyOp E (s, a) (.upload p b)).1 = s := by
  rcases applyOp_upload E s a p b with ⟨_, e⟩ | ⟨_, _, _, e⟩ <;> rw [e]

theorem exec_upload_st (r : Run) (p : Path) (b : BuildId) : (r.exec E [.upload p b]).st = r.st :=
  upload_st (E := E) r.st r.arch p b

theorem preDl_spec (hNA : NoAlias N) {r : Run} (hG : G E ρ N r) (i : PInfo) (ds : List Pkg)
    (hsub : ∀ u ∈ nodes (.mk i ds), u ∈ N) (hw : r.mem.wasRun i.path = none) :
    G E ρ N (preDl E i ds r).2 ∧ StepAt (some i.path) r (preDl E i ds r).2 ∧
    (preDl E i ds r).2.mem.wasRun i.path = none ∧ Prep i ((preDl E i ds r).2.st.loc i.path) ∧
    (preDl E i ds r).1 = tb E (eff (preDl E i ds r).2.mem.fixed (.mk i ds)) := by
  obtain ⟨hI1, hP1⟩ := prep_block E ρ i (r.st.loc i.path) (hG.inv i.path)
  have hops1 := prepOps_path i (r.st.loc i.path)
  obtain ⟨hG1, hS1⟩ := G_exec hG i.path hw _ hops1 hI1
  have hloc1 := exec_loc_same (E := E) (r := r) hops1
  obtain ⟨g1, g5⟩ := gbp_all hNA (.mk i ds) _ hsub hG1.cache
  obtain ⟨g2, g3, g4⟩ := gb_frame E (.mk i ds) (r.exec E (prepOps i (r.st.loc i.path))).mem
  obtain ⟨hG2, hS2⟩ := G_mem (p := some i.path) (r' := (preDl E i ds r).2) hG1 rfl rfl g3 g2
    (fun q _ => congrFun g4 q) g5
  refine ⟨hG2, hS1.trans hS2, ?_, ?_, ?_⟩
  · exact (congrFun g3 i.path).trans hw
  · show Prep i ((r.exec E _).st.loc i.path)
    rw [hloc1]; exact hP1
  · exact g1.trans (by rw [← g2]; rfl)

theorem dlPhase_spec (hB : BidSound E) {r : Run} (hG : G E ρ N r) (cfg : Cfg) (depth : Nat) (i : PInfo) (ds : List Pkg)
    (b : BuildId) (hw : r.mem.wasRun i.path = none) (hP : Prep i (r.st.loc i.path))
    (hb : b = tb E (eff r.mem.fixed (.mk i ds))) :
    (Inv E ρ (dlPhase E cfg depth i b r).2.st ∧ ArchOK E (dlPhase E cfg depth i b r).2.arch) ∧
    ((dlPhase E cfg depth i b r).1 ≠ .error →
      G E ρ N (dlPhase E cfg depth i b r).2 ∧ StepAt (some i.path) r (dlPhase E cfg depth i b r).2 ∧
      (dlPhase E cfg depth i b r).2.mem.wasRun i.path = none ∧ Prep i ((dlPhase E cfg depth i b r).2.st.loc i.path)) ∧
    ((dlPhase E cfg depth i b r).1 = .downloaded →
      (dlPhase E cfg depth i b r).2.st.disk i.path = some (value E (eff r.mem.fixed (.mk i ds)))) := by
  obtain ⟨hI, hP', hdl⟩ := dl_block E ρ cfg depth i b (r.st.loc i.path) (r.arch b) (hG.arch b) (hG.inv i.path) hP
  have hops := dlOps_path E cfg depth i b (r.st.loc i.path) (r.arch b)
  obtain ⟨hG1, hS1⟩ := G_exec hG i.path hw _ hops hI
  rw [← exec_loc_same (r := r) hops] at hP' hdl
  rcases dlPhase_cases E cfg depth i b r with ⟨_, e⟩ | ⟨_, _, e⟩ | ⟨_, _, e⟩ <;> rw [e]
  · exact ⟨⟨hG.inv, hG.arch⟩, fun _ => ⟨hG, StepAt.refl _ _, hw, hP⟩, fun h => nomatch h⟩
  · exact ⟨⟨hG1.inv, hG1.arch⟩, fun h => absurd rfl h, fun h => nomatch h⟩
  · generalize dlOps E cfg depth i b (r.st.loc i.path) (r.arch b) = d at hG1 hS1 hP' hdl ⊢
    obtain ⟨hG2, hS2⟩ := G_mem (p := some i.path) (r' := setTried i (r.exec E d.1)) hG1 rfl rfl rfl rfl
      (fun q hq => upd_other (fun e => hq (by rw [e]))) hG1.cache
    refine ⟨⟨hG2.inv, hG2.arch⟩, fun _ => ⟨hG2, hS1.trans hS2, hw, hP'⟩, fun ho => ?_⟩
    obtain ⟨t0, ht0, hd0⟩ := hdl ho
    rw [← hB t0 _ (ht0.trans hb)]
    exact hd0

theorem finish_spec (hH : Function.Injective E.H) (hNA : NoAlias N) (hV : VidOK ρ N) {r : Run} (hG : G E ρ N r)
    (cfg : Cfg) (depth : Nat) (i : PInfo) (ds : List Pkg) (htN : Pkg.mk i ds ∈ N) (b : BuildId)
    (hb : b = tb E (eff r.mem.fixed (.mk i ds))) (hsrc : srcNow r.mem i = i.src)
    (hdeps : ∀ d ∈ ds, r.mem.wasRun d.path = some d.info.vid) (hdN : ∀ d ∈ ds, d ∈ N)
    (hP : r.mem.wasRun i.path = none → Prep i (r.st.loc i.path)) :
    ∃ r', finishPkg E cfg depth i ds b r = .ok r' ∧ G E ρ N r' ∧ StepAt none r r' ∧
      r'.mem.wasRun i.path = some i.vid := by
  unfold finishPkg
  rcases war_spec hNA hG i ds htN with ⟨hw, hrun⟩ | ⟨hw, hrun⟩
  · simp only [hw, if_true]
    exact ⟨r, rfl, hG, StepAt.refl _ _, hrun⟩
  · simp only [hw, Bool.false_eq_true, if_false]
    have hcont : contentsOf r.st ds = values E (effs r.mem.fixed ds) :=
      contents_eq r.mem.fixed r.st ds (fun d hd => hG.ok d (hdN d hd) (hdeps d hd))
    -- the package script ran (or was skipped) on the results of the believed project state
    have hval : E.semP i.rsig (E.semB i.rsig i.src (contentsOf r.st ds)) = value E (eff r.mem.fixed (.mk i ds)) := by
      have : (if r.mem.fixed i.path = true then i.src else i.pred.getD i.src) = i.src := hsrc
      simp only [eff, value, hcont, this]
    obtain ⟨hI, hdisk, haud⟩ := pkg_block E ρ hH cfg i b (contentsOf r.st ds) r.log.length (r.st.loc i.path)
      (hG.inv i.path) (hP hrun) (hV _ htN)
    have hops := pkgOps_path E cfg i b (contentsOf r.st ds) r.log.length (r.st.loc i.path)
    obtain ⟨hG1, hS1⟩ := G_exec hG i.path hrun _ hops hI
    rw [← exec_loc_same (r := r) hops, hval] at hdisk haud
    generalize pkgOps E cfg i b (contentsOf r.st ds) r.log.length (r.st.loc i.path) = pk at hG1 hS1 hdisk haud ⊢
    obtain ⟨hG2, hS2, hw2⟩ := sar_spec hNA hG1 i ds htN hrun hdisk
    have hS : StepAt none r (setAlreadyRun i (r.exec E pk.1)) :=
      (hS1.trans hS2.weaken).close (by rw [hw2]; simp)
    cases hc : pk.2 && cfg.upload && decide (depth ≤ cfg.uploadDepth)
    · exact ⟨_, rfl, hG2, hS, hw2⟩
    · simp only [Bool.and_eq_true, decide_eq_true_eq] at hc
      refine ⟨_, rfl, ⟨?_, ?_, hG2.wf, ?_, hG2.cache⟩, hS.trans ⟨rfl, fun _ _ h => h, ?_, fun _ _ _ => rfl⟩, hw2⟩
      · rw [exec_upload_st]; exact hG2.inv
      · -- the uploaded artifact is honest
        exact upload_archOK _ _ i.path b _ hG2.arch (haud hc.1.1) hdisk _ hb.symm rfl
      · intro u hu h
        rw [exec_upload_st]
        exact hG2.ok u hu h
      · intro q _ _
        rw [exec_upload_st]

/-- outcome of cooking `t` from `r`: on success `G`, the frame `StepAt none` and `t` marked as run; after a
`BuildError` the stored state and the archive are still sound; a restart starts from a run with `G` -/
def Post (E : Env) (ρ : Vid → RSig) (N : List Pkg) (r : Run) (t : Pkg) : Res → Prop :=
  Res.Sat (fun r' => G E ρ N r' ∧ StepAt none r r' ∧ r'.mem.wasRun t.path = some t.info.vid)
    (fun r' => Inv E ρ r'.st ∧ ArchOK E r'.arch) (G E ρ N)

def PostL (E : Env) (ρ : Vid → RSig) (N : List Pkg) (r : Run) (ds : List Pkg) : Res → Prop :=
  Res.Sat (fun r' => G E ρ N r' ∧ StepAt none r r' ∧ ∀ d ∈ ds, r'.mem.wasRun d.path = some d.info.vid)
    (fun r' => Inv E ρ r'.st ∧ ArchOK E r'.arch) (G E ρ N)

def KPkg (E : Env) (ρ : Vid → RSig) (N : List Pkg) (cfg : Cfg) (t : Pkg) : Prop :=
  ∀ depth r, (∀ u ∈ nodes t, u ∈ N) → G E ρ N r → Post E ρ N r t (cookPkg E cfg depth t r)

def KList (E : Env) (ρ : Vid → RSig) (N : List Pkg) (cfg : Cfg) (ds : List Pkg) : Prop :=
  ∀ depth r, (∀ u ∈ nodesL ds, u ∈ N) → G E ρ N r → PostL E ρ N r ds (cookList E cfg depth ds r)

theorem klist_cons (cfg : Cfg) (d : Pkg) (ds : List Pkg) (hd : KPkg E ρ N cfg d) (hds : KList E ρ N cfg ds) :
    KList E ρ N cfg (d :: ds) := by
  intro depth r hsub hG
  rw [cookList]
  refine Res.Sat.bind (hd depth r (fun u hu => hsub u (by simp [nodesL, hu])) hG) fun r1 ⟨hG1, hS1, hw1⟩ => ?_
  refine Res.Sat.imp (hds depth r1 (fun u hu => hsub u (by simp [nodesL, hu])) hG1) fun r2 ⟨hG2, hS2, hw2⟩ => ?_
  exact ⟨hG2, hS1.trans hS2, fun x hx => (List.mem_cons.mp hx).elim (fun e => e ▸ hS2.mono _ _ hw1) (hw2 x)⟩

theorem checkSrc_spec {r : Run} (hG : G E ρ N r) (i : PInfo) :
    (∀ r5, checkSrc i r = some r5 → G E ρ N r5) ∧ (checkSrc i r = none → srcNow r.mem i = i.src) := by
  rcases checkSrc_cases i r with ⟨h, e⟩ | ⟨_, e⟩ <;> rw [e]
  · exact ⟨(fun _ e => nomatch e), fun _ => h⟩
  · refine ⟨fun r5 e5 => ?_, (fun e => nomatch e)⟩
    cases e5
    -- `__handleChangedBuildId` forgets everything the invariant speaks of
    refine ⟨hG.inv, hG.arch, ?_, ?_, ?_⟩
    · intro q v hv; cases hv
    · intro u _ hv; cases hv
    · intro u _ b hb; cases hb

theorem kpkg_mk (hB : BidSound E) (hH : Function.Injective E.H) (hNA : NoAlias N) (hV : VidOK ρ N) (cfg : Cfg)
    (i : PInfo) (ds : List Pkg) (ih : KList E ρ N cfg ds) : KPkg E ρ N cfg (.mk i ds) := by
  intro depth r hsub hG
  have htN : Pkg.mk i ds ∈ N := hsub _ (self_mem_nodes _)
  have hdsN : ∀ u ∈ nodesL ds, u ∈ N := fun u hu => hsub u (by simp [nodes, hu])
  have hdN : ∀ d ∈ ds, d ∈ N := fun d hd => hdsN d (mem_nodesL hd d (self_mem_nodes d))
  rcases war_spec hNA hG i ds htN with ⟨hw, hrun⟩ | ⟨hw, hrun⟩
  · rw [cookPkg_done hw]
    exact ⟨hG, StepAt.refl _ _, hrun⟩
  · obtain ⟨hG2, hS2, hw2, hP2, hb2⟩ := preDl_spec hNA hG i ds hsub hrun
    rw [cookPkg_go hw rfl rfl]
    generalize preDl E i ds r = pb at hG2 hS2 hw2 hP2 hb2 ⊢
    obtain ⟨⟨d1, d2⟩, d3, d4⟩ := dlPhase_spec hB hG2 cfg depth i ds pb.1 hw2 hP2 hb2
    generalize dlPhase E cfg depth i pb.1 pb.2 = d at d1 d2 d3 d4 ⊢
    obtain ⟨o, r3⟩ := d
    cases o with
    | error => exact ⟨d1, d2⟩
    | downloaded =>
      obtain ⟨hG3, hS3, hw3, _⟩ := d3 (fun e => by cases e)
      obtain ⟨hG4, hS4, hw4⟩ := sar_spec hNA hG3 i ds htN hw3 (by rw [hS3.fixed]; exact d4 rfl)
      exact ⟨hG4, ((hS2.trans hS3).trans hS4.weaken).close (by rw [hw4]; simp), hw4⟩
    | no =>
      obtain ⟨hG3, hS3, hw3, hP3⟩ := d3 (fun e => by cases e)
      obtain ⟨c1, c2⟩ := checkSrc_spec hG3 i
      simp only
      cases hcs : checkSrc i r3 with
      | some r5 => exact c1 r5 hcs
      | none =>
        refine Res.Sat.bind (ih (depth + 2) r3 hdsN hG3) fun r5 ⟨hG5, hS5, hw5⟩ => ?_
        have hb5 : pb.1 = tb E (eff r5.mem.fixed (.mk i ds)) := by rw [hS5.fixed, hS3.fixed]; exact hb2
        have hsrc5 : srcNow r5.mem i = i.src := by
          have := c2 hcs
          simp only [srcNow] at this ⊢
          rw [hS5.fixed]; exact this
        have hP5 : r5.mem.wasRun i.path = none → Prep i (r5.st.loc i.path) :=
          fun h => by rw [hS5.frame i.path (by simp) h]; exact hP3
        obtain ⟨r', hr', hG', hS', hw'⟩ := finish_spec hH hNA hV hG5 cfg depth i ds htN pb.1 hb5 hsrc5 hw5 hdN hP5
        simp only [hr']
        exact ⟨hG', (((hS2.trans hS3).trans hS5.weaken).trans hS'.weaken).close (by rw [hw']; simp), hw'⟩

/-- **every cook keeps the invariant**: workspaces marked as run hold the result of a local build of the project
state the builder believes in, the archive stays honest, also when the cook ends in a `BuildError` or restarts -/
theorem kpkg_all (hB : BidSound E) (hH : Function.Injective E.H) (hNA : NoAlias N) (hV : VidOK ρ N) (cfg : Cfg) (t : Pkg) :
    KPkg E ρ N cfg t :=
  Pkg.rec (motive_1 := fun t => KPkg E ρ N cfg t) (motive_2 := fun ds => KList E ρ N cfg ds)
    (fun i ds ih => kpkg_mk hB hH hNA hV cfg i ds ih) (fun _ _ _ hG => ⟨hG, StepAt.refl _ _, fun _ hd => nomatch hd⟩)
    (fun d ds hd hds => klist_cons cfg d ds hd hds) t

theorem G_init (s : St) (a : Archive) (hI : Inv E ρ s) (hA : ArchOK E a) :
    G E ρ N { st := s, arch := a, mem := Mem.init, log := [] } := by
  refine ⟨hI, hA, ?_, ?_, ?_⟩
  · intro q v h; cases h
  · intro u _ h; cases h
  · intro u _ b h; cases h

theorem rounds_spec (hB : BidSound E) (hH : Function.Injective E.H) (hNA : NoAlias N) (hV : VidOK ρ N) (cfg : Cfg)
    (t : Pkg) (hsub : ∀ u ∈ nodes t, u ∈ N) : ∀ (n : Nat) (r : Run), G E ρ N r →
    Inv E ρ (cookRounds E cfg t n r).run.st ∧ ArchOK E (cookRounds E cfg t n r).run.arch ∧
    ∀ r', cookRounds E cfg t n r = .ok r' → r'.st.disk t.path = some (value E (eff r'.mem.fixed t)) := by
  intro n
  induction n with
  | zero => exact fun r hG => ⟨hG.inv, hG.arch, fun _ e => by cases e⟩
  | succ n ih =>
    intro r hG
    have h := kpkg_all hB hH hNA hV cfg t 0 r hsub hG
    simp only [cookRounds]
    cases hc : cookPkg E cfg 0 t r with
    | ok r1 =>
      rw [hc] at h
      refine ⟨h.1.inv, h.1.arch, fun r' e => ?_⟩
      cases e
      exact h.1.ok t (hsub t (self_mem_nodes t)) h.2.2
    | abort r1 => rw [hc] at h; exact ⟨h.1, h.2, fun _ e => by cases e⟩
    | restart r1 => rw [hc] at h; exact ih r1 h

/-- **soundness of one invocation** for every configuration: the workspace state stays trustworthy and the archive
honest whatever the outcome; a successful cook leaves in the target's workspace the result of a local build of the
project state the final Build-Ids describe -/
theorem cook_spec (hB : BidSound E) (hH : Function.Injective E.H) (cfg : Cfg) (t : Pkg) (hNA : NoAlias (nodes t))
    (hV : VidOK ρ (nodes t)) (s : St) (a : Archive) (hI : Inv E ρ s) (hA : ArchOK E a) :
    Inv E ρ (cook E cfg t s a).run.st ∧ ArchOK E (cook E cfg t s a).run.arch ∧
    ∀ r', cook E cfg t s a = .ok r' → r'.st.disk t.path = some (value E (eff r'.mem.fixed t)) :=
  rounds_spec hB hH hNA hV cfg t (fun _ hu => hu) (size t + 1) _ (G_init (N := nodes t) s a hI hA)

/-- no prediction is wrong (any more): the believed project state is the real one -/
def PredOK (F : Path → Bool) (t : Pkg) : Prop :=
  ∀ u ∈ nodes t, F u.path = true ∨ u.info.pred = none ∨ u.info.pred = some u.info.src

theorem eff_id (F : Path → Bool) (t : Pkg) : PredOK F t → eff F t = t :=
  Pkg.rec (motive_1 := fun t => PredOK F t → eff F t = t)
    (motive_2 := fun ds => (∀ d ∈ ds, PredOK F d) → effs F ds = ds)
    (fun i ds ih h => by
      have hi := h (.mk i ds) (self_mem_nodes _)
      have hsrc : (if F i.path = true then i.src else i.pred.getD i.src) = i.src := by
        simp only [Pkg.path, Pkg.info] at hi
        rcases hi with h1 | h1 | h1 <;> simp [h1]
      simp only [eff, hsrc]
      rw [ih (fun d hd u hu => h u (by simp [nodes, mem_nodesL hd u hu]))])
    (fun _ => rfl)
    (fun d ds ihd ihds h => by
      simp only [effs]
      rw [ihd (h d (by simp)), ihds (fun x hx => h x (by simp [hx]))])
    t

end

end Download
