import BobModel.Proofs.C14Order
import BobModel.Proofs.CommonPrefix
/-
C14: the digest encoding is uniquely decodable.

`enc` (plain tagged encoding) is prefix-free on values that `struct.pack` accepts, and
`digest = enc ∘ canon`.
-/
namespace Audit
open Consts.C14

theorem lenOk_lt {n : Nat} (h : lenOk n = true) : n < 256 ^ 4 := by
  simp [lenOk] at h; omega

theorem hdr_append_inj {t n m : Nat} {r r' : Bytes} (hn : lenOk n = true) (hm : lenOk m = true)
    (h : hdr t n ++ r = hdr t m ++ r') : n = m ∧ r = r' := by
  simp only [hdr, List.cons_append, List.cons.injEq, true_and] at h
  exact Bytes.le_append_inj (lenOk_lt hn) (lenOk_lt hm) h

theorem encStr_append_inj {s s' : Str} {r r' : Bytes} (hs : lenOk s.length = true) (hs' : lenOk s'.length = true)
    (h : encStr s ++ r = encStr s' ++ r') : s = s' ∧ r = r' := by
  simp only [encStr, List.append_assoc] at h
  have ⟨hl, ht⟩ := hdr_append_inj hs hs' h
  exact Bytes.utf8_pf hl ht

/-- two's complement is injective on the signed range: `i` is the balanced residue of `i % m` -/
theorem toNat_emod_inj {m : Nat} (hm : (m : Int) ≠ 0) {i j : Int} (hi : -(↑m / 2) ≤ i ∧ i < (↑m + 1) / 2)
    (hj : -(↑m / 2) ≤ j ∧ j < (↑m + 1) / 2) (h : (i % ↑m).toNat = (j % ↑m).toNat) : i = j := by
  have h' : i % ↑m = j % ↑m := by
    rw [← Int.toNat_of_nonneg (Int.emod_nonneg i hm), h, Int.toNat_of_nonneg (Int.emod_nonneg j hm)]
  rw [← Int.bmod_eq_of_le hi.1 hi.2, ← Int.emod_bmod, h', Int.emod_bmod, Int.bmod_eq_of_le hj.1 hj.2]

theorem encInt_append_inj {i j : Int} {r r' : Bytes}
    (hi : -9223372036854775808 ≤ i ∧ i < 9223372036854775808)
    (hj : -9223372036854775808 ≤ j ∧ j < 9223372036854775808)
    (h : encInt i ++ r = encInt j ++ r') : i = j ∧ r = r' := by
  have lt (x : Int) : (x % 18446744073709551616).toNat < 256 ^ 8 :=
    (Int.toNat_lt (Int.emod_nonneg _ (by decide))).2 (Int.emod_lt_of_pos _ (by decide))
  obtain ⟨hn, hr⟩ := Bytes.le_append_inj (lt i) (lt j) (List.cons.inj h).2
  exact ⟨toNat_emod_inj (m := 18446744073709551616) (by decide) hi hj hn, hr⟩

def tagOf : Data → Nat
  | .str _ => tagStr | .map _ => tagMap | .list _ => tagList | .int _ => tagInt
  | .bool _ => tagBool | .bytes _ => tagBytes | .null => tagNone

theorem tagOf_lt (d : Data) : tagOf d < 256 := by
  cases d <;> simp [tagOf, tagStr, tagMap, tagList, tagInt, tagBool, tagBytes, tagNone]

theorem enc_head (d : Data) : ∃ body, enc d = UInt8.ofNat (tagOf d) :: body := by
  cases d <;> exact ⟨_, rfl⟩

theorem enc_tag_eq {d d' : Data} {r r' : Bytes} (h : enc d ++ r = enc d' ++ r') : tagOf d = tagOf d' := by
  obtain ⟨b, hb⟩ := enc_head d
  obtain ⟨b', hb'⟩ := enc_head d'
  rw [hb, hb'] at h
  simp only [List.cons_append, List.cons.injEq] at h
  exact Bytes.ofNat_inj_of_lt (tagOf_lt d) (tagOf_lt d') h.1

theorem enc_inj_all :
    (∀ d : Data, ∀ d' r r', fits d = true → fits d' = true → enc d ++ r = enc d' ++ r' → d = d' ∧ r = r') ∧
    (∀ xs : List Data, ∀ xs' r r', xs.length = xs'.length → fitsList xs = true → fitsList xs' = true →
        encList xs ++ r = encList xs' ++ r' → xs = xs' ∧ r = r') ∧
    (∀ kvs : List (Str × Data), ∀ kvs' r r', kvs.length = kvs'.length → fitsKVs kvs = true → fitsKVs kvs' = true →
        encKVs kvs ++ r = encKVs kvs' ++ r' → kvs = kvs' ∧ r = r') := by
  apply enc.mutual_induct
  · -- str
    intro s d' r r' hf hf' h
    cases d' <;> cases enc_tag_eq h
    obtain ⟨rfl, hr⟩ := encStr_append_inj hf hf' h
    exact ⟨rfl, hr⟩
  · -- map
    intro kvs ih d' r r' hf hf' h
    cases d' <;> cases enc_tag_eq h
    simp only [fits, Bool.and_eq_true] at hf hf'
    simp only [enc, List.append_assoc] at h
    obtain ⟨hl, ht⟩ := hdr_append_inj hf.1 hf'.1 h
    obtain ⟨rfl, hr⟩ := ih _ r r' hl hf.2 hf'.2 ht
    exact ⟨rfl, hr⟩
  · -- list
    intro xs ih d' r r' hf hf' h
    cases d' <;> cases enc_tag_eq h
    simp only [fits, Bool.and_eq_true] at hf hf'
    simp only [enc, List.append_assoc] at h
    obtain ⟨hl, ht⟩ := hdr_append_inj hf.1 hf'.1 h
    obtain ⟨rfl, hr⟩ := ih _ r r' hl hf.2 hf'.2 ht
    exact ⟨rfl, hr⟩
  · -- int
    intro i d' r r' hf hf' h
    cases d' <;> cases enc_tag_eq h
    simp only [fits, Bool.and_eq_true, decide_eq_true_eq] at hf hf'
    obtain ⟨rfl, hr⟩ := encInt_append_inj hf hf' h
    exact ⟨rfl, hr⟩
  · -- bool
    intro b d' r r' hf hf' h
    cases d' <;> cases enc_tag_eq h
    rename_i b'
    obtain ⟨hb, hr⟩ := List.cons.inj (List.cons.inj h).2
    obtain rfl : b = b' := by revert hb; cases b <;> cases b' <;> decide
    exact ⟨rfl, hr⟩
  · -- bytes
    intro b d' r r' hf hf' h
    cases d' <;> cases enc_tag_eq h
    simp only [enc, List.append_assoc] at h
    obtain ⟨hl, ht⟩ := hdr_append_inj hf hf' h
    obtain ⟨rfl, hr⟩ := List.append_inj ht hl
    exact ⟨rfl, hr⟩
  · -- null
    intro d' r r' _ _ h
    cases d' <;> cases enc_tag_eq h
    exact ⟨rfl, (List.cons.inj h).2⟩
  · -- kvs nil
    intro kvs' r r' hl _ _ h
    cases kvs' with
    | nil => exact ⟨rfl, h⟩
    | cons _ _ => cases hl
  · -- kvs cons
    intro k v rest ihv ihr kvs' r r' hl hf hf' h
    cases kvs' with
    | nil => cases hl
    | cons p rest' =>
      simp only [fitsKVs, Bool.and_eq_true] at hf hf'
      simp only [encKVs, List.append_assoc] at h
      obtain ⟨rfl, h1⟩ := encStr_append_inj hf.1.1 hf'.1.1 h
      obtain ⟨rfl, h2⟩ := ihv _ _ _ hf.1.2 hf'.1.2 h1
      obtain ⟨rfl, h3⟩ := ihr rest' r r' (Nat.succ.inj hl) hf.2 hf'.2 h2
      exact ⟨rfl, h3⟩
  · -- list nil
    intro xs' r r' hl _ _ h
    cases xs' with
    | nil => exact ⟨rfl, h⟩
    | cons _ _ => cases hl
  · -- list cons
    intro x xs ihx ihxs xs' r r' hl hf hf' h
    cases xs' with
    | nil => cases hl
    | cons x' rest' =>
      simp only [fitsList, Bool.and_eq_true] at hf hf'
      simp only [encList, List.append_assoc] at h
      obtain ⟨rfl, h1⟩ := ihx x' _ _ hf.1 hf'.1 h
      obtain ⟨rfl, h2⟩ := ihxs rest' r r' (Nat.succ.inj hl) hf.2 hf'.2 h1
      exact ⟨rfl, h2⟩

theorem enc_inj {d d' : Data} (hf : fits d = true) (hf' : fits d' = true) (h : enc d = enc d') : d = d' := by
  have := enc_inj_all.1 d d' [] [] hf hf' (by simpa using h)
  exact this.1

theorem canonKVs_eq_mapVals (l : List (Str × Data)) : canonKVs l = mapVals canon l := by
  induction l with
  | nil => rfl
  | cons q rest ih => exact congrArg (_ :: ·) ih

theorem joinKV_mapVals_enc (l : List (Str × Data)) : joinKV (mapVals enc l) = encKVs l := by
  induction l with
  | nil => rfl
  | cons p rest ih => exact congrArg (_ ++ ·) ih

theorem length_sortKV {α : Type} (l : List (Str × α)) : (sortKV l).length = l.length := (perm_sortKV l).length_eq

theorem length_canonKVs (l : List (Str × Data)) : (canonKVs l).length = l.length := by
  rw [canonKVs_eq_mapVals]; exact List.length_map _

theorem length_canonList (xs : List Data) : (canonList xs).length = xs.length := by
  induction xs with
  | nil => rfl
  | cons x xs ih => exact congrArg (· + 1) ih

theorem digest_eq_all :
    (∀ d : Data, digest d = enc (canon d)) ∧
    (∀ xs : List Data, digestList xs = encList (canonList xs)) ∧
    (∀ kvs : List (Str × Data), digestKVs kvs = mapVals enc (canonKVs kvs)) := by
  apply enc.mutual_induct
  · intro s; rfl
  · intro kvs ih
    simp only [digest, canon, enc, ih, sortKV_mapVals, joinKV_mapVals_enc, length_sortKV, length_canonKVs]
  · intro xs ih
    simp only [digest, canon, enc, ih, length_canonList]
  · intro i; rfl
  · intro b
    simp only [digest, canon]
    split <;> rfl
  · intro b; rfl
  · rfl
  · rfl
  · intro k v rest ihv ihr
    simp only [digestKVs, canonKVs, ihv, ihr]
    rfl
  · rfl
  · intro x xs ihx ihxs
    simp only [digestList, canonList, encList, ihx, ihxs]

theorem digest_eq_enc_canon (d : Data) : digest d = enc (canon d) := digest_eq_all.1 d

theorem fitsKVs_eq_all (l : List (Str × Data)) : fitsKVs l = l.all fun p => lenOk p.1.length && fits p.2 := by
  induction l with
  | nil => rfl
  | cons p rest ih => exact congrArg (_ && ·) ih

theorem fitsKVs_sortKV (l : List (Str × Data)) : fitsKVs (sortKV l) = fitsKVs l := by
  rw [fitsKVs_eq_all, fitsKVs_eq_all, (perm_sortKV l).all_eq]

theorem fits_canon_all :
    (∀ d : Data, fits d = true → fits (canon d) = true) ∧
    (∀ xs : List Data, fitsList xs = true → fitsList (canonList xs) = true) ∧
    (∀ kvs : List (Str × Data), fitsKVs kvs = true → fitsKVs (canonKVs kvs) = true) := by
  apply enc.mutual_induct
  · intro s h; exact h
  · intro kvs ih h
    simp only [fits, Bool.and_eq_true] at h
    simp only [canon, fits, Bool.and_eq_true, length_sortKV, fitsKVs_sortKV, length_canonKVs]
    exact ⟨h.1, ih h.2⟩
  · intro xs ih h
    simp only [fits, Bool.and_eq_true] at h
    simp only [canon, fits, Bool.and_eq_true, length_canonList]
    exact ⟨h.1, ih h.2⟩
  · intro i h; exact h
  · intro b _
    simp only [canon]
    split
    · cases b <;> rfl
    · rfl
  · intro b h; exact h
  · intro _; rfl
  · intro _; rfl
  · intro k v rest ihv ihr h
    simp only [fitsKVs, Bool.and_eq_true] at h
    simp only [canonKVs, fitsKVs, Bool.and_eq_true]
    exact ⟨⟨h.1.1, ihv h.1.2⟩, ihr h.2⟩
  · intro _; rfl
  · intro x xs ihx ihxs h
    simp only [fitsList, Bool.and_eq_true] at h
    simp only [canonList, fitsList, Bool.and_eq_true]
    exact ⟨ihx h.1, ihxs h.2⟩

theorem fits_canon {d : Data} (h : fits d = true) : fits (canon d) = true := fits_canon_all.1 d h

theorem canon_map_perm {kvs kvs' : List (Str × Data)} (hn : (kvs.map Prod.fst).Nodup) (h : kvs.Perm kvs') :
    canon (.map kvs) = canon (.map kvs') := by
  simp only [canon, canonKVs_eq_mapVals]
  exact congrArg Data.map (sortKV_eq_of_perm ((map_fst_mapVals canon kvs).symm ▸ hn) (h.map _))

end Audit
