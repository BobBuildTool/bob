import BobModel.Proofs.C18Traverse
/-
The result walk `__findResultNodes`: it only reports selected packages, with real paths inside
`valid`; on an acyclic graph it reports every selected package that is connected to the root inside
`valid`, and the depth fuel `size + 1` suffices.
-/
namespace PathSpec

theorem sortByName_is : SortKey.IsSort (fun e d => StringParser.strLt e.name d.name) insertByName sortByName :=
  ⟨⟨fun _ => rfl, fun _ _ _ => rfl⟩, rfl, fun _ _ => rfl⟩

theorem mem_sortByName {x : Edge} {l : List Edge} : x ∈ sortByName l ↔ x ∈ l :=
  (sortByName_is.perm l).mem_iff

/-- the state after the walk has looked at `node` itself -/
def visit (qa : Bool) (node : Node) (stack : List Str) (st : RState) : RState :=
  { out := if st.result.contains node then st.out ++ [(stack, node)] else st.out
    result := if st.result.contains node && !qa then st.result.filter (fun x => x != node) else st.result
    valid := if qa then st.valid else st.valid.filter (fun x => x != node) }

/-- the children the walk descends into, in the order of their names -/
def kids (g : Graph) (valid : List Node) (node : Node) : List Edge :=
  sortByName ((g.children node).filter (fun c => valid.contains c.node))

theorem findResultNodes_succ (g : Graph) (qa : Bool) (fuel : Nat) (node : Node) (stack : List Str) (st : RState) :
    findResultNodes g qa (fuel + 1) node stack st =
      (kids g (visit qa node stack st).valid node).foldl
        (fun st c => findResultNodes g qa fuel c.node (stack ++ [c.name]) st) (visit qa node stack st) := rfl

theorem mem_kids {g : Graph} {valid : List Node} {node : Node} {c : Edge} :
    c ∈ kids g valid node ↔ c ∈ g.children node ∧ c.node ∈ valid := by
  simp [kids, mem_sortByName]

theorem mem_visit_valid {qa : Bool} {node : Node} {stack : List Str} {st : RState} {x : Node} :
    x ∈ (visit qa node stack st).valid ↔ x ∈ st.valid ∧ (qa = true ∨ x ≠ node) := by
  cases qa <;> simp [visit]

theorem mem_visit_result {qa : Bool} {node : Node} {stack : List Str} {st : RState} {x : Node} :
    x ∈ (visit qa node stack st).result ↔ x ∈ st.result ∧ (qa = true ∨ x ≠ node) := by
  by_cases h : node ∈ st.result <;> cases qa <;> simp [visit, h]
  rintro hx rfl
  exact h hx

theorem mem_visit_out {qa : Bool} {node : Node} {stack : List Str} {st : RState} {p : List Str × Node} :
    p ∈ (visit qa node stack st).out ↔ p ∈ st.out ∨ (p = (stack, node) ∧ node ∈ st.result) := by
  by_cases h : node ∈ st.result <;> simp [visit, h]

/-- the walk reaches `node` along `stack` inside `valid0`, consumes `valid` and `result`, and reports
only real paths to selected nodes -/
theorem findResultNodes_sound (g : Graph) (qa : Bool) (valid0 result0 : List Node) (root : Node) :
    ∀ (fuel : Nat) (node : Node) (stack : List Str) (st : RState),
      PathWithin g valid0 root stack node →
      (∀ x ∈ st.valid, x ∈ valid0) ∧ (∀ x ∈ st.result, x ∈ result0) ∧
        (∀ p ∈ st.out, p.2 ∈ result0 ∧ PathWithin g valid0 root p.1 p.2) →
      (∀ x ∈ (findResultNodes g qa fuel node stack st).valid, x ∈ valid0) ∧
        (∀ x ∈ (findResultNodes g qa fuel node stack st).result, x ∈ result0) ∧
        (∀ p ∈ (findResultNodes g qa fuel node stack st).out, p.2 ∈ result0 ∧ PathWithin g valid0 root p.1 p.2) := by
  intro fuel
  induction fuel with
  | zero => intro node stack st _ h; exact h
  | succ fuel ih =>
    rintro node stack st hpath ⟨hv, hr, ho⟩
    rw [findResultNodes_succ]
    have hv1 : ∀ x ∈ (visit qa node stack st).valid, x ∈ valid0 := fun x hx => hv x (mem_visit_valid.mp hx).1
    refine foldl_inv (fun _ (s : RState) => (∀ x ∈ s.valid, x ∈ valid0) ∧ (∀ x ∈ s.result, x ∈ result0) ∧
      ∀ p ∈ s.out, p.2 ∈ result0 ∧ PathWithin g valid0 root p.1 p.2) _ _ ?_ ⟨hv1, ?_, ?_⟩
    · intro _ c s hc hs
      obtain ⟨hc1, hc2⟩ := mem_kids.mp hc
      exact ih c.node (stack ++ [c.name]) s (pathWithin_snoc stack root node c hpath hc1 (hv1 _ hc2)) hs
    · exact fun x hx => hr x (mem_visit_result.mp hx).1
    · intro p hp
      rcases mem_visit_out.mp hp with hp | ⟨rfl, hn⟩
      · exact ho p hp
      · exact ⟨hr node hn, hpath⟩

theorem findResultNodes_all (g : Graph) :
    ∀ (fuel : Nat) (node : Node) (stack : List Str) (st : RState), Shallow g node fuel →
      (findResultNodes g true fuel node stack st).valid = st.valid ∧
      (findResultNodes g true fuel node stack st).result = st.result ∧
      (∀ p ∈ st.out, p ∈ (findResultNodes g true fuel node stack st).out) ∧
      (∀ (s : List Str) (x : Node), PathWithin g st.valid node s x → x ∈ st.result →
        (stack ++ s, x) ∈ (findResultNodes g true fuel node stack st).out) := by
  intro fuel
  induction fuel with
  | zero => intro node stack st hsh; exact (not_shallow_zero hsh).elim
  | succ fuel ih =>
    intro node stack st hsh
    rw [findResultNodes_succ]
    -- the loop keeps valid/result, only appends, and reports the paths through the children it has seen
    obtain ⟨hv, hr, ho, hp⟩ := foldl_inv
      (fun pre (s0 : RState) => s0.valid = st.valid ∧ s0.result = st.result ∧
        (∀ p ∈ (visit true node stack st).out, p ∈ s0.out) ∧
        ∀ c ∈ pre, ∀ (s : List Str) (x : Node), PathWithin g st.valid c.node s x → x ∈ st.result →
          (stack ++ [c.name] ++ s, x) ∈ s0.out)
      (fun st c => findResultNodes g true fuel c.node (stack ++ [c.name]) st)
      (kids g (visit true node stack st).valid node) (b := visit true node stack st)
      (by
        rintro pre c s0 hc ⟨hv, hr, ho, hp⟩
        obtain ⟨h1v, h1r, h1o, h1p⟩ := ih c.node (stack ++ [c.name]) s0
          (shallow_succ hsh ⟨c, (mem_kids.mp hc).1, rfl, Or.inl rfl⟩)
        refine ⟨h1v.trans hv, h1r.trans hr, fun p hp' => h1o p (ho p hp'), fun c' hc' s x hpath hx => ?_⟩
        rcases List.mem_append.mp hc' with hc' | hc'
        · exact h1o _ (hp c' hc' s x hpath hx)
        · obtain rfl := List.mem_singleton.mp hc'
          exact h1p s x (hv ▸ hpath) (hr ▸ hx))
      ⟨rfl, by simp [visit], fun _ h => h, by simp⟩
    refine ⟨hv, hr, fun p hp' => ho p (mem_visit_out.mpr (Or.inl hp')), ?_⟩
    intro s x hpath hx
    cases s with
    | nil =>
      simp only [PathWithin] at hpath
      subst hpath
      exact ho _ (mem_visit_out.mpr (Or.inr ⟨by simp, hx⟩))
    | cons nm rest =>
      simp only [PathWithin] at hpath
      obtain ⟨e, he, rfl, hev, hrest⟩ := hpath
      simpa using hp e (mem_kids.mpr ⟨he, hev⟩) rest x hrest hx

/-- the walk is through with `y`: it has left `valid` and `result`, and so have its children left
`valid` -/
def Black (g : Graph) (st : RState) (y : Node) : Prop :=
  y ∉ st.valid ∧ y ∉ st.result ∧ ∀ e ∈ g.children y, e.node ∉ st.valid

theorem Black.mono {g : Graph} {st st' : RState} {y : Node} (h : Black g st y)
    (hv : ∀ x ∈ st'.valid, x ∈ st.valid) (hr : ∀ x ∈ st'.result, x ∈ st.result) : Black g st' y :=
  ⟨fun hy => h.1 (hv y hy), fun hy => h.2.1 (hr y hy), fun e he hy => h.2.2 e he (hv _ hy)⟩

/-- post-condition of one call of the walk with `queryAll = False` -/
structure WalkPost (g : Graph) (st st' : RState) : Prop where
  valid_sub : ∀ x ∈ st'.valid, x ∈ st.valid
  result_sub : ∀ x ∈ st'.result, x ∈ st.result
  out_sub : ∀ p ∈ st.out, p ∈ st'.out
  black : ∀ y ∈ st.valid, y ∉ st'.valid → Black g st' y
  /-- a selected node is still selected or has been reported -/
  kept : ∀ x ∈ st.result, x ∈ st'.result ∨ ∃ s, (s, x) ∈ st'.out

theorem walkPost_refl (g : Graph) (st : RState) : WalkPost g st st :=
  ⟨fun _ h => h, fun _ h => h, fun _ h => h, fun _ h hn => absurd h hn, fun _ h => Or.inl h⟩

theorem walkPost_trans {g : Graph} {a b c : RState} (h1 : WalkPost g a b) (h2 : WalkPost g b c) :
    WalkPost g a c := by
  refine ⟨fun x h => h1.valid_sub x (h2.valid_sub x h), fun x h => h1.result_sub x (h2.result_sub x h),
    fun p h => h2.out_sub p (h1.out_sub p h), fun y hy hyc => ?_, fun x hx => ?_⟩
  · by_cases hyb : y ∈ b.valid
    · exact h2.black y hyb hyc
    · exact (h1.black y hy hyb).mono h2.valid_sub h2.result_sub
  · rcases h1.kept x hx with h | ⟨s, hs⟩
    · exact h2.kept x h
    · exact Or.inr ⟨s, h2.out_sub _ hs⟩

/-- with `queryAll = false` the walk consumes `valid` and `result`: a call takes its state to one where it is through
with its node -/
theorem findResultNodes_first (g : Graph) :
    ∀ (fuel : Nat) (node : Node) (stack : List Str) (st : RState), Shallow g node fuel →
      WalkPost g st (findResultNodes g false fuel node stack st) ∧
      Black g (findResultNodes g false fuel node stack st) node := by
  intro fuel
  induction fuel with
  | zero => intro node stack st hsh; exact (not_shallow_zero hsh).elim
  | succ fuel ih =>
    intro node stack st hsh
    rw [findResultNodes_succ]
    have hv1 : ∀ x, x ∈ (visit false node stack st).valid ↔ x ∈ st.valid ∧ x ≠ node := by
      intro x; simpa using mem_visit_valid (qa := false) (node := node) (stack := stack) (st := st)
    have hr1 : ∀ x, x ∈ (visit false node stack st).result ↔ x ∈ st.result ∧ x ≠ node := by
      intro x; simpa using mem_visit_result (qa := false) (node := node) (stack := stack) (st := st)
    -- the loop over the children: each of them has left `valid` afterwards
    obtain ⟨hpost, hkids⟩ := foldl_inv
      (fun pre (s : RState) => WalkPost g (visit false node stack st) s ∧ ∀ c ∈ pre, c.node ∉ s.valid)
      (fun st c => findResultNodes g false fuel c.node (stack ++ [c.name]) st)
      (kids g (visit false node stack st).valid node) (b := visit false node stack st)
      (by
        rintro pre c s hc ⟨hp, hpre⟩
        obtain ⟨hp1, hn1, _⟩ := ih c.node (stack ++ [c.name]) s
          (shallow_succ hsh ⟨c, (mem_kids.mp hc).1, rfl, Or.inl rfl⟩)
        refine ⟨walkPost_trans hp hp1, fun c' hc' => ?_⟩
        rcases List.mem_append.mp hc' with hc' | hc'
        · exact fun h => hpre c' hc' (hp1.valid_sub _ h)
        · rwa [List.mem_singleton.mp hc'])
      ⟨walkPost_refl g _, by simp⟩
    generalize (kids g (visit false node stack st).valid node).foldl
      (fun st c => findResultNodes g false fuel c.node (stack ++ [c.name]) st)
      (visit false node stack st) = fin at hpost hkids
    have hblack : Black g fin node := by
      refine ⟨fun h => ((hv1 node).mp (hpost.valid_sub _ h)).2 rfl,
        fun h => ((hr1 node).mp (hpost.result_sub _ h)).2 rfl, fun e he hfin => ?_⟩
      exact hkids e (mem_kids.mpr ⟨he, hpost.valid_sub _ hfin⟩) hfin
    refine ⟨⟨?_, ?_, ?_, ?_, ?_⟩, hblack⟩
    · intro x hx; exact ((hv1 x).mp (hpost.valid_sub x hx)).1
    · intro x hx; exact ((hr1 x).mp (hpost.result_sub x hx)).1
    · intro p hp; exact hpost.out_sub p (mem_visit_out.mpr (Or.inl hp))
    · intro y hy hyn
      by_cases hyeq : y = node
      · exact hyeq ▸ hblack
      · exact hpost.black y ((hv1 y).mpr ⟨hy, hyeq⟩) hyn
    · intro x hx
      by_cases hxn : x = node
      · subst hxn
        exact Or.inr ⟨stack, hpost.out_sub _ (mem_visit_out.mpr (Or.inr ⟨rfl, hx⟩))⟩
      · exact hpost.kept x ((hr1 x).mpr ⟨hx, hxn⟩)

theorem findResultNodes_first_complete (g : Graph) (fuel : Nat) (root : Node) (nodes valid : List Node)
    (hsh : Shallow g root fuel) :
    ∀ (s : List Str) (n : Node), PathWithin g valid root s n → n ∈ nodes →
      ∃ s', (s', n) ∈ (findResultNodes g false fuel root [] { out := [], result := nodes, valid := valid }).out := by
  obtain ⟨hpost, hroot⟩ := findResultNodes_first g fuel root [] { out := [], result := nodes, valid := valid } hsh
  generalize findResultNodes g false fuel root [] { out := [], result := nodes, valid := valid } = fin at hpost hroot
  -- the walk is through with every node on a path inside `valid`
  have hblack : ∀ (s : List Str) (a n : Node), Black g fin a → PathWithin g valid a s n → Black g fin n := by
    intro s
    induction s with
    | nil => intro a n ha hp; simp only [PathWithin] at hp; exact hp ▸ ha
    | cons nm rest ihs =>
      intro a n ha hp
      simp only [PathWithin] at hp
      obtain ⟨e, he, _, hev, hr⟩ := hp
      exact ihs e.node n (hpost.black _ hev (ha.2.2 e he)) hr
  intro s n hp hn
  exact (hpost.kept n hn).resolve_left (hblack s root n hroot hp).2.1

theorem findResultNodes_complete {g : Graph} (hwf : g.WF) (hac : g.Acyclic) (queryAll : Bool)
    (nodes valid : List Node) (s : List Str) (n : Node) (hs : PathWithin g valid g.root s n) (hn : n ∈ nodes) :
    ∃ s', (s', n) ∈
      (findResultNodes g queryAll (g.size + 1) g.root [] { out := [], result := nodes, valid := valid }).out := by
  cases queryAll with
  | true =>
    obtain ⟨_, _, _, hp⟩ := findResultNodes_all g (g.size + 1) g.root [] { out := [], result := nodes, valid := valid }
      (shallow_of_acyclic hwf hac _)
    exact ⟨s, by simpa using hp s n hs hn⟩
  | false =>
    exact findResultNodes_first_complete g (g.size + 1) g.root nodes valid (shallow_of_acyclic hwf hac _) s n hs hn

theorem queryTree_ok {g : Graph} {mode : Mode} {steps : Steps} {qa : Bool} {out : List (List Str × Node)}
    (h : queryTree g mode steps qa = .ok out) :
    ∃ nodes valid, evalForward g mode steps = .ok (nodes, valid) ∧
      out = (findResultNodes g qa (g.size + 1) g.root [] { out := [], result := nodes, valid := valid }).out := by
  unfold queryTree at h
  split at h
  · cases h
  · rename_i nodes valid heq
    cases h
    exact ⟨nodes, valid, heq, rfl⟩

end PathSpec
