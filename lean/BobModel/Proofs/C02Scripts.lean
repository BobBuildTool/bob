import BobModel.Model.Scripts
/-
`joinScripts` / `mergeScripts`: joining a list in which a group has already been joined is joining the flat
list, and `"\n".join` is injective on lines.  Both rest on `glue_join`: with the glue in front, the join of a
non-empty list is the concatenation of its glue-prefixed members.  In front stand two facts about plain lists:
`span_unique` (where a line ends, in `glued_nl_inj`) and `blocks_unique` (the three groups of lines of a checkout digest
script, in `C02.checkoutDigestScript_inj`).
-/
namespace Scripts

theorem span_unique {α : Type} (p : α → Prop) {A A' R R' : List α}
    (hA : ∀ x ∈ A, p x) (hA' : ∀ x ∈ A', p x)
    (hR : ∀ x, R.head? = some x → ¬ p x) (hR' : ∀ x, R'.head? = some x → ¬ p x)
    (h : A ++ R = A' ++ R') : A = A' ∧ R = R' := by
  -- one prefix extends the other by some `a'`, which the rest starts with: `a'` is empty
  have key : ∀ {A A' R R' : List α}, (∀ x ∈ A', p x) → (∀ x, R.head? = some x → ¬ p x) →
      ∀ a', A' = A ++ a' → R = a' ++ R' → A = A' ∧ R = R' := by
    intro A A' R R' hA' hR a' e1 e2
    cases a' with
    | nil => exact ⟨by rw [e1, List.append_nil], e2⟩
    | cons x t => exact absurd (hA' x (by rw [e1]; simp)) (hR x (by rw [e2]; rfl))
  rcases List.append_eq_append_iff.mp h with ⟨a', e1, e2⟩ | ⟨c', e1, e2⟩
  · exact key hA' hR a' e1 e2
  · have ⟨h1, h2⟩ := key hA hR' c' e1 e2
    exact ⟨h1.symm, h2.symm⟩

theorem blocks_unique {α : Type} (p : α → Prop) {A A' M M' B B' : List α}
    (hA : ∀ x ∈ A, p x) (hA' : ∀ x ∈ A', p x) (hM : ∀ x ∈ M, ¬ p x) (hM' : ∀ x ∈ M', ¬ p x)
    (hB : ∀ x ∈ B, p x) (hB' : ∀ x ∈ B', p x) (ne : M ≠ []) (ne' : M' ≠ [])
    (h : A ++ (M ++ B) = A' ++ (M' ++ B')) : A = A' ∧ M = M' ∧ B = B' := by
  have hd : ∀ {M B : List α}, M ≠ [] → (∀ x ∈ M, ¬ p x) → ∀ x, (M ++ B).head? = some x → ¬ p x := by
    intro M B ne hM x hx
    cases M with
    | nil => exact absurd rfl ne
    | cons y ys => exact Option.some.inj hx ▸ hM y (by simp)
  have hd' : ∀ {B : List α}, (∀ x ∈ B, p x) → ∀ x, B.head? = some x → ¬ ¬ p x :=
    fun hB x hx => not_not_intro (hB x (List.mem_of_mem_head? hx))
  have ⟨e1, r⟩ := span_unique p hA hA' (hd ne hM) (hd ne' hM') h
  have ⟨e2, e3⟩ := span_unique (¬ p ·) hM hM' (hd' hB) (hd' hB') r
  exact ⟨e1, e2, e3⟩

theorem present_eq_filterMap (l : List (Option Str)) : present l = l.filterMap (·.filter (!·.isEmpty)) := by
  induction l with
  | nil => rfl
  | cons x xs ih =>
    match x with
    | none => exact ih
    | some [] => exact ih
    | some (c :: cs) => exact congrArg ((c :: cs) :: ·) ih

theorem present_append (a b : List (Option Str)) : present (a ++ b) = present a ++ present b := by
  simp only [present_eq_filterMap, List.filterMap_append]

theorem present_cons (x : Option Str) (l : List (Option Str)) : present (x :: l) = present [x] ++ present l :=
  present_append [x] l

theorem present_ne_nil {l : List (Option Str)} {s : Str} (h : s ∈ present l) : s ≠ [] := by
  rw [present_eq_filterMap, List.mem_filterMap] at h
  obtain ⟨x, _, hx⟩ := h
  obtain ⟨_, hs⟩ := Option.filter_eq_some_iff.mp hx
  exact fun e => by rw [e] at hs; cases hs

theorem present_reverse (l : List (Option Str)) : present l.reverse = (present l).reverse := by
  simp only [present_eq_filterMap, List.filterMap_reverse]

theorem present_map_digest (dg : Str → Str) (hne : ∀ t, dg t ≠ []) (l : List (Option Str))
    (hl : ∀ x ∈ l, x ≠ some []) : present (l.map (Option.map dg)) = (present l).map dg := by
  induction l with
  | nil => rfl
  | cons x xs ih =>
    have ih' := ih (fun y hy => hl y (by simp [hy]))
    match x, hl x (by simp) with
    | none, _ => exact ih'
    | some [], h => exact absurd rfl h
    | some (c :: cs), _ =>
      rw [List.map_cons, Option.map_some]
      cases hd : dg (c :: cs) with
      | nil => exact absurd hd (hne _)
      | cons d ds => rw [present, present, List.map_cons, hd, ih']

theorem join_cons_cons (g s : Str) (t : Str) (r : List Str) :
    join g (s :: t :: r) = s ++ g ++ join g (t :: r) := rfl

theorem glue_join (g : Str) {l : List Str} (h : l ≠ []) : g ++ join g l = l.flatMap (g ++ ·) := by
  induction l with
  | nil => exact absurd rfl h
  | cons s r ih =>
    cases r with
    | nil => simp [join]
    | cons t r' => rw [join_cons_cons, List.flatMap_cons, ← ih (List.cons_ne_nil t r'), List.append_assoc,
      List.append_assoc]

theorem join_append_ne (g : Str) (l1 l2 : List Str) (h1 : l1 ≠ []) (h2 : l2 ≠ []) :
    join g (l1 ++ l2) = join g l1 ++ g ++ join g l2 := by
  apply List.append_cancel_left (as := g)
  rw [glue_join g (by simp [h1]), List.flatMap_append, ← glue_join g h1, ← glue_join g h2,
    List.append_assoc, List.append_assoc]

theorem join_mid (g : Str) (pre l m : List Str) (hl : l ≠ []) :
    join g (pre ++ (join g l :: m)) = join g (pre ++ l ++ m) := by
  apply List.append_cancel_left (as := g)
  rw [glue_join g (by simp), glue_join g (by simp [hl]), List.flatMap_append, List.flatMap_cons,
    glue_join g hl, List.flatMap_append, List.flatMap_append, List.append_assoc]

theorem join_ne_nil (g : Str) (l : List Str) (h : l ≠ []) (hs : ∀ s ∈ l, s ≠ []) : join g l ≠ [] := by
  cases l with
  | nil => exact absurd rfl h
  | cons s r =>
    have hs0 := hs s (by simp)
    cases r with
    | nil => exact hs0
    | cons t r' =>
      rw [join_cons_cons, List.append_assoc]
      exact fun e => hs0 (List.append_eq_nil_iff.mp e).1

/-- `joinScripts` as a function of the present fragments -/
def joinP (g : Str) (l : List Str) : Option Str :=
  match l with
  | [] => none
  | s :: r => some (join g (s :: r))

theorem joinP_of_ne (g : Str) {l : List Str} (h : l ≠ []) : joinP g l = some (join g l) := by
  cases l with
  | nil => exact absurd rfl h
  | cons s r => rfl

theorem joinScripts_eq (l : List (Option Str)) (g : Str) : joinScripts l g = joinP g (present l) := by
  unfold joinScripts joinP
  cases present l <;> rfl

theorem present_joinScripts (B : List (Option Str)) (g : Str) :
    present [joinScripts B g] = if present B = [] then [] else [join g (present B)] := by
  rw [joinScripts_eq]
  by_cases b : present B = []
  · rw [b, if_pos rfl]; rfl
  · rw [if_neg b, joinP_of_ne g b]
    cases hj : join g (present B) with
    | nil => exact absurd hj (join_ne_nil g _ b fun s h => present_ne_nil h)
    | cons c cs => rfl

theorem joinScripts_mid (A B M : List (Option Str)) (g : Str) :
    joinScripts (A ++ joinScripts B g :: M) g = joinScripts (A ++ B ++ M) g := by
  rw [joinScripts_eq, joinScripts_eq (A ++ B ++ M), present_append, present_append, present_append,
    present_cons _ M, present_joinScripts]
  by_cases b : present B = []
  · rw [if_pos b, b, List.nil_append, List.append_nil]
  · rw [if_neg b, joinP_of_ne g (by simp), joinP_of_ne g (by simp [b]), List.singleton_append,
      join_mid g _ _ _ b]

theorem joinScripts_two (A B : List (Option Str)) (g : Str) :
    joinScripts [joinScripts A g, joinScripts B g] g = joinScripts (A ++ B) g := by
  have h1 := joinScripts_mid [] A [joinScripts B g] g
  have h2 := joinScripts_mid A B [] g
  simp only [List.nil_append, List.append_nil] at h1 h2
  rw [h1, h2]

theorem joinScripts_three (A B C : List (Option Str)) (g : Str) :
    joinScripts [joinScripts A g, joinScripts B g, joinScripts C g] g = joinScripts (A ++ B ++ C) g := by
  have h1 := joinScripts_mid [] A [joinScripts B g, joinScripts C g] g
  have h2 := joinScripts_mid A B [joinScripts C g] g
  have h3 := joinScripts_mid (A ++ B) C [] g
  simp only [List.nil_append, List.append_nil] at h1 h2 h3
  rw [h1, h2, h3]

/-- a line without line break that is not empty -/
def Atomic (t : Str) : Prop := t ≠ [] ∧ '\n' ∉ t

/-- a line ends where the next line break is -/
theorem glued_nl_inj {l l' : List Str} (hl : ∀ t ∈ l, '\n' ∉ t) (hl' : ∀ t ∈ l', '\n' ∉ t)
    (h : l.flatMap (nl ++ ·) = l'.flatMap (nl ++ ·)) : l = l' := by
  have head : ∀ (r : List Str) (x : Char), (r.flatMap (nl ++ ·)).head? = some x → ¬ x ≠ '\n' := by
    intro r x hx
    cases r with
    | nil => cases hx
    | cons t r' => exact fun ne => ne (Option.some.inj hx).symm
  induction l generalizing l' with
  | nil =>
    cases l' with
    | nil => rfl
    | cons s' r' => cases h
  | cons s r ih =>
    cases l' with
    | nil => cases h
    | cons s' r' =>
      have ⟨e1, e2⟩ := span_unique (· ≠ '\n')
        (fun x hx e => hl s (by simp) (e ▸ hx)) (fun x hx e => hl' s' (by simp) (e ▸ hx))
        (head r) (head r') (List.cons.inj h).2
      rw [e1, ih (fun t ht => hl t (by simp [ht])) (fun t ht => hl' t (by simp [ht])) e2]

theorem join_nl_inj_ne {l l' : List Str} (hl : ∀ t ∈ l, '\n' ∉ t) (hl' : ∀ t ∈ l', '\n' ∉ t)
    (hn : l ≠ []) (hn' : l' ≠ []) (h : join nl l = join nl l') : l = l' :=
  glued_nl_inj hl hl' (by rw [← glue_join nl hn, ← glue_join nl hn', h])

theorem join_nl_inj {l l' : List Str} (hl : ∀ t ∈ l, Atomic t) (hl' : ∀ t ∈ l', Atomic t)
    (h : join nl l = join nl l') : l = l' := by
  by_cases hn : l = []
  · by_cases hn' : l' = []
    · rw [hn, hn']
    · subst hn
      exact absurd h.symm (join_ne_nil nl l' hn' fun t ht => (hl' t ht).1)
  · by_cases hn' : l' = []
    · subst hn'
      exact absurd h (join_ne_nil nl l hn fun t ht => (hl t ht).1)
    · exact join_nl_inj_ne (fun t ht => (hl t ht).2) (fun t ht => (hl' t ht).2) hn hn' h

theorem joinP_nl_inj {l l' : List Str} (hl : ∀ t ∈ l, Atomic t) (hl' : ∀ t ∈ l', Atomic t)
    (h : joinP nl l = joinP nl l') : l = l' := by
  cases l with
  | nil =>
    cases l' with
    | nil => rfl
    | cons s' r' => cases h
  | cons s r =>
    cases l' with
    | nil => cases h
    | cons s' r' => exact join_nl_inj hl hl' (Option.some.inj h)

theorem join_nl_no_split {a : Str} {l : List Str} (ha : '\n' ∉ a) (h : a = join nl l)
    (hl : ∀ t ∈ l, Atomic t) : l = [a] ∨ (l = [] ∧ a = []) := by
  by_cases hn : l = []
  · exact Or.inr ⟨hn, by rw [h, hn]; rfl⟩
  · exact Or.inl (join_nl_inj_ne (l' := [a]) (fun t ht => (hl t ht).2) (by simpa using ha) hn (by simp) h.symm)

end Scripts
