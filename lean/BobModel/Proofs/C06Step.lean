import BobModel.Proofs.C06Base
/-
The moves of the scheduler model as a relation.  `stepTask` is a case distinction over twenty-nine operations and some
sixty outcomes.  `Step` lists them: an operation outside semaphore, locks and task wrapper goes by one `Rule` (which
says what replaces it in the continuation and what the shared data become) or raises (`Raise`); an operation of the
semaphore goes by a `TokRule`, one of a workspace lock by a `LockRule`; `wrapEnd` ends the task.  `stepTask_step` and
`step_move` prove this once; what task creation does to a configuration is `Spawn`.  Every invariant of the scheduler
is proved by cases on `Step`: the accounting of job slots, locks and failures needs of a `Rule` that it leaves
semaphore, locks and failure state alone (`Frame`) and that `body` counts like `op` (`TokNeutral`, `LockNeutral`); the
dataflow needs which events a step logs (`Emits`); the ordering invariants read the table itself.
-/
namespace Sched
open JobSem

def Ev.isStart : Ev → Bool | .start _ _ => true | _ => false
def Ev.isFin : Ev → Bool | .fin _ _ _ => true | _ => false
def Ev.isSetRun : Ev → Bool | .setRun _ _ _ => true | _ => false
def Ev.isSpawn : Ev → Bool | .spawn _ _ => true | _ => false

def Ev.quiet (e : Ev) : Bool := !e.isStart && !e.isFin && !e.isSetRun

/-- the new events of a step of task `t`, classified by the operation at its head -/
inductive NewEvents (P : Project) (st : St) (t : Nat) : List Ev → Prop
  | quiet (evs : List Ev) : (∀ e ∈ evs, e.quiet = true) → NewEvents P st t evs
  | start (s : Nat) (rest : List Op) : (st.task t).ops = .run s :: rest → NewEvents P st t [.start t s]
  | fin (s : Nat) (ok : Bool) (rest : List Op) : (st.task t).ops = .runWait s (some ok) :: rest →
      NewEvents P st t [.fin t s ok]
  | setRun (s : Nat) (sk : Bool) (rest : List Op) : (st.task t).ops = .setRun s sk :: rest →
      NewEvents P st t [.setRun t s sk]

/-- the history of `g` is that of `st` followed by the events of one step of task `t` -/
def Emits (P : Project) (st : St) (t : Nat) (g : St) : Prop :=
  ∃ evs, g.trace = st.trace ++ evs ∧ NewEvents P st t evs

theorem Emits.quiet {P : Project} {st g : St} {t : Nat} (evs : List Ev) (h : g.trace = st.trace ++ evs)
    (hq : ∀ e ∈ evs, e.quiet = true) : Emits P st t g := ⟨evs, h, .quiet evs hq⟩

theorem Emits.one {P : Project} {st g : St} {t : Nat} (e : Ev) (h : g.trace = st.trace ++ [e]) (he : e.quiet = true) :
    Emits P st t g := .quiet [e] h (by simpa using he)

theorem Emits.none {P : Project} {st g : St} {t : Nat} (h : g.trace = st.trace) : Emits P st t g :=
  .quiet [] (by rw [h, List.append_nil]) (by simp)

structure Spawn (st g : St) (new : List Task) : Prop extends Grow st g new where
  trace : ∃ evs, g.trace = st.trace ++ evs ∧ ∀ e ∈ evs, e.quiet = true

theorem Spawn.refl (st : St) : Spawn st st [] := ⟨Grow.refl st, [], by simp, by simp⟩

theorem Spawn.trans {a b c : St} {n1 n2 : List Task} (h1 : Spawn a b n1) (h2 : Spawn b c n2) : Spawn a c (n1 ++ n2) := by
  obtain ⟨e1, t1, q1⟩ := h1.trace
  obtain ⟨e2, t2, q2⟩ := h2.trace
  exact ⟨h1.toGrow.trans h2.toGrow, e1 ++ e2, by rw [t2, t1, List.append_assoc],
    fun e he => (List.mem_append.mp he).elim (q1 e) (q2 e)⟩

def newTaskOf (P : Project) (st : St) (trk : Trk) (s : Nat) (co : Bool) : Task :=
  { kind := mkKind trk s co,
    ops := (match klookup ((P.info s).path, (P.info s).sandbox, !co) (st.tracker trk) with
            | some a => [Op.fence a] | none => []) ++ [Op.start, Op.wrapEnd],
    err := none }

theorem createTask_spawn (P : Project) (st : St) (trk : Trk) (s : Nat) (co : Bool) :
    ∃ new, Spawn st (createTask P st trk s co).1 new := by
  unfold createTask
  simp only
  split
  · exact ⟨[], .refl st⟩
  · refine ⟨[newTaskOf P st trk s co], ⟨?_, ?_, ?_, ?_, ?_, ?_, ?_, ?_, ?_⟩,
      [Ev.spawn st.tasks.length (mkKind trk s co)], ?_, by simp [Ev.quiet, Ev.isStart, Ev.isFin, Ev.isSetRun]⟩
    · cases trk <;> rfl
    · intro y hy
      simp only [List.mem_singleton] at hy
      subst hy
      refine ⟨rfl, ?_⟩
      unfold newTaskOf
      split <;> simp
    all_goals (cases trk <;> rfl)

theorem createTasks_spawn (P : Project) (trk : Trk) (co : Bool) (steps : List Nat) (st : St) :
    ∃ new, Spawn st (createTasks P trk co steps st).1 new := by
  induction steps generalizing st with
  | nil => exact ⟨[], .refl st⟩
  | cons s r ih =>
    obtain ⟨n1, h1⟩ := createTask_spawn P st trk s co
    obtain ⟨n2, h2⟩ := ih (createTask P st trk s co).1
    exact ⟨n1 ++ n2, by simpa [createTasks] using h1.trans h2⟩

theorem createTop_spawn (st : St) (s : Nat) : ∃ new, Spawn st (createTop st s).1 new := by
  refine ⟨[_], ⟨rfl, ?_, rfl, rfl, rfl, rfl, rfl, rfl, rfl⟩, [Ev.spawn st.tasks.length (.top s)], rfl,
    by simp [Ev.quiet, Ev.isStart, Ev.isFin, Ev.isSetRun]⟩
  intro y hy
  simp only [List.mem_singleton] at hy
  subst hy
  exact ⟨rfl, Or.inl rfl⟩

theorem createTops_spawn (targets : List Nat) (st : St) : ∃ new, Spawn st (createTops targets st).1 new := by
  induction targets generalizing st with
  | nil => exact ⟨[], .refl st⟩
  | cons s r ih =>
    obtain ⟨n1, h1⟩ := createTop_spawn st s
    obtain ⟨n2, h2⟩ := ih (createTop st s).1
    exact ⟨n1 ++ n2, by simpa [createTops] using h1.trans h2⟩

/-- The records "`g` is `st` with initial tasks appended" differ only in the fields of `St` they freeze beside: `GrowT`
none, `Frame` semaphore, locks and failure state, `Grow` these and `wasRun`, disk, `dlTried`, `Spawn` also the history
up to quiet events, `QFrame` (`C06OrderRules`) `wasRun`, the history up to quiet events and `Track`. -/
structure GrowT (st g : St) (new : List Task) : Prop where
  tasks : g.tasks = st.tasks ++ new
  init : ∀ y ∈ new, Initial y

theorem Grow.toT {st g : St} {new : List Task} (h : Grow st g new) : GrowT st g new := ⟨h.tasks, h.init⟩

theorem GrowT.same {st g : St} (h : g.tasks = st.tasks) : GrowT st g [] := ⟨by simp [h], by simp⟩

theorem GrowT.forall_tasks {st g : St} {new : List Task} (hg : GrowT st g new) {p : Task → Prop} {t : Nat} {x' : Task}
    (hold : ∀ y ∈ st.tasks, p y) (hnew : ∀ y, Initial y → p y) (hx : p x') : ∀ y ∈ (g.setTask t x').tasks, p y := by
  intro y hy
  simp only [setTask_tasks, hg.tasks] at hy
  rcases List.mem_or_eq_of_mem_set hy with hy | hy
  · rcases List.mem_append.mp hy with hy | hy
    · exact hold y hy
    · exact hnew y (hg.init y hy)
  · exact hy ▸ hx

/-- the tasks of `g.setTask t x'` where `g` has the tasks of `st` and some new ones -/
theorem task_cases {st g : St} {new : List Task} {t : Nat} (x' : Task) (hg : GrowT st g new)
    (ht : t < st.tasks.length) (i : Nat) :
    (i = t ∧ (g.setTask t x').task i = x') ∨
    (i ≠ t ∧ i < st.tasks.length ∧ (g.setTask t x').task i = st.task i) ∨
    (i ≠ t ∧ st.tasks.length ≤ i ∧ Initial ((g.setTask t x').task i)) ∨
    (i ≠ t ∧ st.tasks.length ≤ i ∧ (g.setTask t x').task i = default) := by
  by_cases hi : i = t
  · left
    subst hi
    refine ⟨rfl, ?_⟩
    have hl : i < g.tasks.length := by rw [hg.tasks, List.length_append]; omega
    simp [St.task, St.setTask, List.getD, hl]
  · right
    have e1 : (g.setTask t x').task i = g.task i := by
      simp [St.task, St.setTask, List.getD, Ne.symm hi]
    by_cases hl : i < st.tasks.length
    · left
      refine ⟨hi, hl, ?_⟩
      rw [e1]
      simp [St.task, List.getD, hg.tasks, List.getElem?_append_left hl]
    · right
      by_cases hl2 : i < g.tasks.length
      · left
        refine ⟨hi, by omega, ?_⟩
        rw [e1]
        have hlen : i - st.tasks.length < new.length := by
          rw [hg.tasks, List.length_append] at hl2; omega
        have hgi : g.task i = new[i - st.tasks.length] := by
          rw [task_eq_getElem hl2]
          simp [hg.tasks, List.getElem_append_right (Nat.le_of_not_lt hl)]
        rw [hgi]
        exact hg.init _ (List.getElem_mem _)
      · right
        exact ⟨hi, by omega, by rw [e1]; exact task_eq_default g (by omega)⟩

/-- what the accounting invariants speak of besides the continuations -/
def St.ctl (st : St) : List Task × Runners × List (Nat × ALock) × Bool × Nat :=
  (st.tasks, st.runners, st.locks, st.running, st.errors)

/-- `g` is `st` with initial tasks appended, up to the data that `_cook` and the scripts work on (`wasRun`,
disk, caches, task tables, history): semaphore, locks and failure state are those of `st` -/
structure Frame (st g : St) (new : List Task) : Prop where
  tasks : g.tasks = st.tasks ++ new
  init : ∀ y ∈ new, Initial y
  runners : g.runners = st.runners
  locks : g.locks = st.locks
  running : g.running = st.running
  errors : g.errors = st.errors

theorem Frame.growT {st g : St} {new : List Task} (h : Frame st g new) : GrowT st g new := ⟨h.tasks, h.init⟩

theorem Frame.same {st g : St} (h : g.ctl = st.ctl) : Frame st g [] := by
  simp only [St.ctl, Prod.mk.injEq] at h
  obtain ⟨h1, h2, h3, h4, h5⟩ := h
  exact ⟨by simp [h1], by simp, h2, h3, h4, h5⟩

theorem Grow.frame {st g : St} {new : List Task} (h : Grow st g new) : Frame st g new :=
  ⟨h.tasks, h.init, h.runners, h.locks, h.running, h.errors⟩

/-- operations of the semaphore and of the workspace locks, and the epilogue of the task wrapper -/
def Op.isCtl : Op → Bool
  | .start | .startWait | .release | .yieldRel _ _ | .reacq | .reacqWait
  | .lock _ _ _ | .lockWait _ _ _ | .unlock _ | .wrapEnd => true
  | _ => false

/-- the body that `_cookStep` pushes for a step that has not been run -/
def cookBodyOps (P : Project) (s : Nat) (co : Bool) : List Op :=
  match (P.info s).kind with
  | .checkout => [.cook (P.info s).deps false, .lock s co false]
  | .build => [.cook (P.info s).deps co, .lock s co false]
  | .package =>
    (if co then [] else [Op.spawn .bid [s] false, .lock s co true]) ++ [.cook (P.info s).deps co, .lock s co false]

/-- what `_cookStep` pushes under the workspace lock for a step that has not been run -/
def underLockOps (P : Project) (s : Nat) (co : Bool) : List Op :=
  match (P.info s).kind with
  | .checkout => [.run s, .setRun s false]
  | .build => if co then [.setRun s true] else [.spawn .bid [s] false, .run s, .setRun s false]
  | .package => if co then [.setRun s true] else [.run s, .setRun s false]

/-- the `lock` that leads to the script comes last, behind the `_cook` of the dependencies; a package step asks for
its build-id first -/
theorem cookBodyOps_eq (P : Project) (s : Nat) (co : Bool) :
    ∃ pre c, cookBodyOps P s co = pre ++ [.cook (P.info s).deps c, .lock s co false] ∧
      (pre = [] ∨ pre = [.spawn .bid [s] false, .lock s co true]) := by
  unfold cookBodyOps
  cases (P.info s).kind
  · exact ⟨[], false, rfl, Or.inl rfl⟩
  · exact ⟨[], co, rfl, Or.inl rfl⟩
  · cases co
    · exact ⟨_, false, rfl, Or.inr rfl⟩
    · exact ⟨[], true, rfl, Or.inl rfl⟩

/-- the script of `s` is really run by `underLock s co` (it is not skipped) -/
def willRun (P : Project) (s : Nat) (co : Bool) : Prop := (P.info s).kind = .checkout ∨ co = false

theorem underLockOps_cases (P : Project) (s : Nat) (co : Bool) :
    (willRun P s co ∧ (underLockOps P s co = [.run s, .setRun s false] ∨
      underLockOps P s co = [.spawn .bid [s] false, .run s, .setRun s false])) ∨
    (co = true ∧ underLockOps P s co = [.setRun s true]) := by
  unfold underLockOps willRun
  cases (P.info s).kind <;> cases co <;> simp

/-- `Rule P cfg st t op body g`: task `t` may execute `op` in `st` without an exception; the shared data become
those of `g` and `op` is replaced by `body`.  One constructor per outcome of `stepTask` for the operations outside
semaphore, locks and task wrapper; `finish` is the end of a script, which the environment decides. -/
inductive Rule (P : Project) (cfg : Cfg) (st : St) (t : Nat) : Op → List Op → St → Prop
  | fence {k : Nat} : (st.task k).done = true → ¬ (st.task k).failed = true → Rule P cfg st t (.fence k) [] st
  | checkRunning : st.running = true → Rule P cfg st t .checkRunning [] (st.emit (.pass t))
  | cookNone {steps : List Nat} {co : Bool} : (filterTodo P co steps st.wasRun).1.isEmpty = true →
      Rule P cfg st t (.cook steps co) [] { st with wasRun := (filterTodo P co steps st.wasRun).2 }
  | cook {steps : List Nat} {co : Bool} : ¬ (filterTodo P co steps st.wasRun).1.isEmpty = true →
      Rule P cfg st t (.cook steps co) [.spawn .cook (filterTodo P co steps st.wasRun).1 co]
        { st with wasRun := (filterTodo P co steps st.wasRun).2 }
  | spawnPar {trk : Trk} {steps : List Nat} {co : Bool} : cfg.par = true →
      Rule P cfg st t (.spawn trk steps co) [.yieldRel (createTasks P trk co steps st).2 true] (createTasks P trk co steps st).1
  | spawnSeq {trk : Trk} {steps : List Nat} {co : Bool} : ¬ cfg.par = true →
      Rule P cfg st t (.spawn trk steps co) [.spawnSeq trk steps co []] st
  | seqEnd {trk : Trk} {co : Bool} {made : List Nat} : Rule P cfg st t (.spawnSeq trk [] co made) [.results made] st
  | seqNext {trk : Trk} {s : Nat} {todo made : List Nat} {co : Bool} :
      Rule P cfg st t (.spawnSeq trk (s :: todo) co made)
        [.yieldRel [(createTask P st trk s co).2] false, .spawnSeq trk todo co (made ++ [(createTask P st trk s co).2])]
        (createTask P st trk s co).1
  | gather {ks : List Nat} : st.allDone ks = true → ¬ st.anyFailed ks = true → Rule P cfg st t (.gather ks) [] st
  | waitOnly {ks : List Nat} : st.allDone ks = true → Rule P cfg st t (.waitOnly ks) [] st
  | results {ks : List Nat} : ¬ st.anyFailed ks = true → Rule P cfg st t (.results ks) [] st
  /-- `_cookStep` of an invalid step -/
  | cookInvalid {s : Nat} {co : Bool} : st.running = true → (P.info s).valid = false →
      Rule P cfg st t (.cookBody s co) [] (st.emit (.pass t))
  /-- `_cookStep` of a step that has been run -/
  | cookRan {s : Nat} {co : Bool} : st.running = true → (P.info s).valid = true →
      (wasAlreadyRun P st.wasRun s co).1 = true →
      Rule P cfg st t (.cookBody s co) [] (({ st with wasRun := (wasAlreadyRun P st.wasRun s co).2 } : St).emit (.pass t))
  | cookBody {s : Nat} {co : Bool} : st.running = true → (P.info s).valid = true →
      ¬ (wasAlreadyRun P st.wasRun s co).1 = true →
      Rule P cfg st t (.cookBody s co) (cookBodyOps P s co)
        (({ st with wasRun := (wasAlreadyRun P st.wasRun s co).2 } : St).emit (.pass t))
  | underRan {s : Nat} {co : Bool} : (wasAlreadyRun P st.wasRun s co).1 = true →
      Rule P cfg st t (.underLock s co) [] { st with wasRun := (wasAlreadyRun P st.wasRun s co).2 }
  | underLock {s : Nat} {co : Bool} : ¬ (wasAlreadyRun P st.wasRun s co).1 = true →
      Rule P cfg st t (.underLock s co) (underLockOps P s co) { st with wasRun := (wasAlreadyRun P st.wasRun s co).2 }
  | download {s : Nat} : Rule P cfg st t (.download s) []
      (if st.dlTried.contains (P.info s).path then st else { st with dlTried := (P.info s).path :: st.dlTried })
  | bidCached {s : Nat} : Rule P cfg st t (.bidSingle s) [] st
  | bidSrc {s : Nat} : Rule P cfg st t (.bidSingle s) [.cook [s] false, .cacheSrc s] st
  | bidDist {s : Nat} : Rule P cfg st t (.bidSingle s) [.spawn .bid (P.info s).bidDeps false, .cacheDist s] st
  | cacheSrc {s : Nat} : Rule P cfg st t (.cacheSrc s) [] { st with srcBid := ((P.info s).path, (P.info s).vid) :: st.srcBid }
  | cacheDist {s : Nat} : Rule P cfg st t (.cacheDist s) [] { st with distBid := (P.info s).path :: st.distBid }
  | run {s : Nat} : Rule P cfg st t (.run s) [.runWait s none] (st.emit (.start t s))
  /-- the end of a script is the environment's move (`Choice.finish`), not one of `stepTask`; it is a `Rule` so that
  every invariant treats it with the other replacements of a head (`Move.finish`) -/
  | finish {s : Nat} {ok : Bool} : Rule P cfg st t (.runWait s none) [.runWait s (some ok)] st
  | finOk {s : Nat} : Rule P cfg st t (.runWait s (some true)) []
      (({ st with disk := insert (P.info s).path (P.run s (inputs P st s)) st.disk } : St).emit (.fin t s true))
  | setRun {s : Nat} {sk : Bool} : Rule P cfg st t (.setRun s sk) []
      (({ st with wasRun := insert (P.info s).path ((P.info s).vid, sk) st.wasRun } : St).emit (.setRun t s sk))
  | topPar {targets : List Nat} : cfg.par = true →
      Rule P cfg st t (.spawnTop targets) [.gather (createTops targets st).2] (createTops targets st).1
  | topSeq {targets : List Nat} : ¬ cfg.par = true → Rule P cfg st t (.spawnTop targets) [.spawnTopSeq targets []] st
  | topEnd {made : List Nat} : Rule P cfg st t (.spawnTopSeq [] made) [.results made] st
  | topNext {s : Nat} {todo made : List Nat} :
      Rule P cfg st t (.spawnTopSeq (s :: todo) made)
        [.waitOnly [(createTop st s).2], .spawnTopSeq todo (made ++ [(createTop st s).2])] (createTop st s).1

/-- `Raise P st t op e g`: `op` raises an exception other than a failure of the bookkeeping -/
inductive Raise (P : Project) (st : St) (t : Nat) : Op → Err → St → Prop
  | fence {k : Nat} : (st.task k).failed = true → Raise P st t (.fence k) .cancel st
  | checkRunning : ¬ st.running = true → Raise P st t .checkRunning .cancel st
  | gather {ks : List Nat} : st.anyFailed ks = true → Raise P st t (.gather ks) .cancel st
  | results {ks : List Nat} : st.anyFailed ks = true → Raise P st t (.results ks) .cancel st
  | cookBody {s : Nat} {co : Bool} : st.running = false → Raise P st t (.cookBody s co) .cancel st
  | finFail {s : Nat} : Raise P st t (.runWait s (some false)) .build
      (({ st with disk := insert (P.info s).path (P.junk s) st.disk } : St).emit (.fin t s false))

/-- where a task takes a job slot: the operation, its suspended form, what follows once it has the slot -/
inductive Enter (cfg : Cfg) (k : TKind) : Op → Op → List Op → Prop
  | start : Enter cfg k .start .startWait (prog cfg k ++ [.release])
  | reacq : Enter cfg k .reacq .reacqWait []

/-- where a task gives its job slot back, and what follows -/
inductive Leave : Op → List Op → Prop
  | release : Leave .release []
  | yieldRel {ks : List Nat} {rs : Bool} :
      Leave (.yieldRel ks rs) [if rs then .gather ks else .waitOnly ks, .reacq, .checkRunning]

/-- `TokRule cfg st t k op r body g`: the semaphore operation `op` of task `t` succeeds, leaves the semaphore as
`r` and the configuration as `g`, and is replaced by `body` -/
inductive TokRule (cfg : Cfg) (st : St) (t : Nat) (k : TKind) : Op → Runners → List Op → St → Prop
  | got {op w : Op} {body : List Op} {r : Runners} : Enter cfg k op w body → st.runners.acquire t = (r, .got) →
      TokRule cfg st t k op r body ((({ st with runners := r } : St).emit (.acq t)).emit (.got t))
  | blocked {op w : Op} {body : List Op} {r : Runners} : Enter cfg k op w body → st.runners.acquire t = (r, .blocked) →
      TokRule cfg st t k op r [w] (({ st with runners := r } : St).emit (.acq t))
  | woken {op w : Op} {body : List Op} : Enter cfg k op w body → st.runners.woken t = true →
      TokRule cfg st t k w (st.runners.resume t) body (({ st with runners := st.runners.resume t } : St).emit (.got t))
  | released {op : Op} {body : List Op} {r : Runners} : Leave op body → st.runners.release = .ok r →
      TokRule cfg st t k op r body (({ st with runners := r } : St).emit (.rel t true))

/-- what follows `lock s co dl` once the task is inside the lock -/
def inLock (P : Project) (s : Nat) (co dl : Bool) : List Op :=
  [if dl then .download s else .underLock s co, .unlock (P.info s).path]

/-- `LockRule P st t op p l body`: the lock operation `op` of task `t` succeeds, leaves the lock of workspace `p`
as `l` and is replaced by `body` -/
inductive LockRule (P : Project) (st : St) (t : Nat) : Op → Nat → ALock → List Op → Prop
  | got {s : Nat} {co dl : Bool} {l : ALock} : (st.lockOf (P.info s).path).acquire t = (l, .got) →
      LockRule P st t (.lock s co dl) (P.info s).path l (inLock P s co dl)
  | blocked {s : Nat} {co dl : Bool} {l : ALock} : (st.lockOf (P.info s).path).acquire t = (l, .blocked) →
      LockRule P st t (.lock s co dl) (P.info s).path l [.lockWait s co dl]
  | woken {s : Nat} {co dl : Bool} : (st.lockOf (P.info s).path).woken t = true →
      LockRule P st t (.lockWait s co dl) (P.info s).path ((st.lockOf (P.info s).path).resume t) (inLock P s co dl)
  | released {p : Nat} {l : ALock} : (st.lockOf p).release = .ok l → LockRule P st t (.unlock p) p l []

/-- the entry of a finished cook or build-id task leaves its table -/
def untrack (P : Project) (st : St) : TKind → St
  | .cook s co => { st with cookT := kremove (keyOf P s co) st.cookT }
  | .bid s => { st with bidT := kremove (keyOf P s false) st.bidT }
  | _ => st

/-- `Step P cfg st t op rest st'`: task `t`, whose continuation is `op :: rest`, moves and leaves `st'`.
Either `stepTask` executes `op`, or `op` is the wait for a script that now ends (`Rule.finish`). -/
inductive Step (P : Project) (cfg : Cfg) (st : St) (t : Nat) (op : Op) (rest : List Op) : St → Prop
  | rule {g : St} {body : List Op} : Rule P cfg st t op body g →
      Step P cfg st t op rest (g.setTask t { kind := (st.task t).kind, ops := body ++ rest, err := (st.task t).err })
  | raise {g : St} {e : Err} : Raise P st t op e g → Step P cfg st t op rest (g.setTask t (raise (st.task t) e rest))
  | tok {g : St} {r : Runners} {body : List Op} : TokRule cfg st t (st.task t).kind op r body g →
      Step P cfg st t op rest (g.setTask t { kind := (st.task t).kind, ops := body ++ rest, err := (st.task t).err })
  | relFailed {body : List Op} {e : RelErr} : Leave op body → st.runners.release = .error e →
      Step P cfg st t op rest ((st.emit (.rel t false)).setTask t (raise (st.task t) .internal rest))
  | lock {p : Nat} {l : ALock} {body : List Op} : LockRule P st t op p l body →
      Step P cfg st t op rest
        (({ st with locks := insert p l st.locks } : St).setTask t { kind := (st.task t).kind, ops := body ++ rest, err := (st.task t).err })
  | unlockFailed {p : Nat} {e : RelErr} : op = .unlock p → (st.lockOf p).release = .error e →
      Step P cfg st t op rest (st.setTask t (raise (st.task t) .internal rest))
  /-- the task ends without an exception -/
  | endOk : op = .wrapEnd → (st.task t).err = none →
      Step P cfg st t op rest
        (((untrack P st (st.task t).kind).emit (.done t true)).setTask t { kind := (st.task t).kind, ops := [], err := (st.task t).err })
  /-- the task ends by an exception that was recorded elsewhere -/
  | endCancel : op = .wrapEnd → (st.task t).err = some .cancel →
      Step P cfg st t op rest ((st.emit (.done t false)).setTask t { kind := (st.task t).kind, ops := [], err := (st.task t).err })
  /-- the task ends by a build error: `__taskWrapper` counts it and stops the build unless keep-going -/
  | endBuild : op = .wrapEnd → (st.task t).err = some .build →
      Step P cfg st t op rest
        (((({ st with running := if cfg.keepGoing then st.running else false, errors := st.errors + 1 } : St).emit
          (.failRec t)).emit (.done t false)).setTask t { kind := (st.task t).kind, ops := [], err := some .cancel })
  | endInternal : op = .wrapEnd → (st.task t).err = some .internal →
      Step P cfg st t op rest
        ((({ st with errors := st.errors + 1 } : St).emit (.done t false)).setTask t
          { kind := (st.task t).kind, ops := [], err := some .cancel })

theorem stepTask_step {P : Project} {cfg : Cfg} {st st' : St} {t : Nat} (h : stepTask P cfg st t = some st') :
    ∃ op rest, (st.task t).ops = op :: rest ∧ Step P cfg st t op rest st' := by
  unfold Sched.stepTask at h
  simp only at h
  split at h
  · cases h
  · rename_i op rest hops
    refine ⟨op, rest, hops, ?_⟩
    cases op <;> simp only at h
    case fence k =>
      split at h
      · rename_i hd
        split at h <;> cases h
        · rename_i hf; exact .raise (.fence hf)
        · rename_i hf; exact .rule (.fence hd hf)
      · cases h
    case start =>
      split at h <;> cases h
      · rename_i r heq; exact .tok (.got .start heq)
      · rename_i r heq; exact .tok (.blocked .start heq)
    case startWait =>
      split at h <;> cases h
      rename_i hw; exact .tok (.woken .start hw)
    case release =>
      split at h <;> cases h
      · rename_i r heq; exact .tok (.released .release heq)
      · rename_i e heq; exact .relFailed .release heq
    case checkRunning =>
      split at h <;> cases h
      · rename_i hr; exact .rule (.checkRunning hr)
      · rename_i hr; exact .raise (.checkRunning hr)
    case cook steps co =>
      split at h <;> cases h
      · rename_i he; exact .rule (.cookNone he)
      · rename_i he; exact .rule (.cook he)
    case spawn trk steps co =>
      split at h <;> cases h
      · rename_i hp; exact .rule (.spawnPar hp)
      · rename_i hp; exact .rule (.spawnSeq hp)
    case spawnSeq trk todo co made =>
      split at h <;> cases h
      · exact .rule .seqEnd
      · exact .rule .seqNext
    case yieldRel ks rs =>
      split at h <;> cases h
      · rename_i r heq; exact .tok (.released .yieldRel heq)
      · rename_i e heq; exact .relFailed .yieldRel heq
    case gather ks =>
      split at h
      · rename_i hd
        split at h <;> cases h
        · rename_i hf; exact .raise (.gather hf)
        · rename_i hf; exact .rule (.gather hd hf)
      · cases h
    case waitOnly ks =>
      split at h <;> cases h
      rename_i hd; exact .rule (.waitOnly hd)
    case results ks =>
      split at h <;> cases h
      · rename_i hf; exact .raise (.results hf)
      · rename_i hf; exact .rule (.results hf)
    case reacq =>
      split at h <;> cases h
      · rename_i r heq; exact .tok (.got .reacq heq)
      · rename_i r heq; exact .tok (.blocked .reacq heq)
    case reacqWait =>
      split at h <;> cases h
      rename_i hw; exact .tok (.woken .reacq hw)
    case cookBody s co =>
      split at h
      · rename_i hr; cases h; exact .raise (.cookBody (by simpa using hr))
      · rename_i hr
        have hr : st.running = true := by simpa using hr
        split at h
        · rename_i hv; cases h; exact .rule (.cookInvalid hr (by simpa using hv))
        · rename_i hv
          have hv : (P.info s).valid = true := by simpa using hv
          split at h <;> cases h
          · rename_i hw; exact .rule (.cookRan hr hv hw)
          · rename_i hw; exact .rule (.cookBody hr hv hw)
    case lock s co dl =>
      split at h <;> cases h
      · rename_i l heq; exact .lock (.got heq)
      · rename_i l heq; exact .lock (.blocked heq)
    case lockWait s co dl =>
      split at h <;> cases h
      rename_i hw; exact .lock (.woken hw)
    case underLock s co =>
      split at h <;> cases h
      · rename_i hw; exact .rule (.underRan hw)
      · rename_i hw; exact .rule (.underLock hw)
    case download s => cases h; exact .rule .download
    case unlock p =>
      split at h <;> cases h
      · rename_i l heq; exact .lock (.released heq)
      · rename_i e heq; exact .unlockFailed rfl heq
    case bidSingle s =>
      split at h
      · split at h <;> cases h
        · exact .rule .bidCached
        · exact .rule .bidSrc
      · split at h <;> cases h
        · exact .rule .bidCached
        · exact .rule .bidDist
    case cacheSrc s => cases h; exact .rule .cacheSrc
    case cacheDist s => cases h; exact .rule .cacheDist
    case run s => cases h; exact .rule .run
    case runWait s res =>
      split at h <;> cases h
      · exact .rule .finOk
      · exact .raise .finFail
    case setRun s sk => cases h; exact .rule .setRun
    case spawnTop targets =>
      split at h <;> cases h
      · rename_i hp; exact .rule (.topPar hp)
      · rename_i hp; exact .rule (.topSeq hp)
    case spawnTopSeq todo made =>
      split at h <;> cases h
      · exact .rule .topEnd
      · exact .rule .topNext
    case wrapEnd =>
      split at h <;> cases h
      · rename_i herr; exact .endOk rfl herr
      · rename_i herr; exact .endBuild rfl herr
      · rename_i herr; exact .endInternal rfl herr
      · rename_i herr; exact .endCancel rfl herr

theorem Step.end_rest {st : St} {t : Nat} {op : Op} {rest : List Op} (hwf : ∀ x ∈ st.tasks, x.wf = true)
    (hops : (st.task t).ops = op :: rest) (ho : op = .wrapEnd) : rest = [] :=
  wrapEnd_last (hwf _ (task_mem (task_lt hops))) (ho ▸ hops)

theorem untrack_ctl (P : Project) (st : St) (k : TKind) : (untrack P st k).ctl = st.ctl := by
  cases k <;> rfl

theorem untrack_frame (P : Project) (st : St) (k : TKind) (e : Ev) : Frame st ((untrack P st k).emit e) [] :=
  .same (untrack_ctl P st k)

theorem untrack_trace (P : Project) (st : St) (k : TKind) : (untrack P st k).trace = st.trace := by
  cases k <;> rfl

theorem Rule.frame {P : Project} {cfg : Cfg} {st g : St} {t : Nat} {op : Op} {body : List Op}
    (hr : Rule P cfg st t op body g) : ∃ new, Frame st g new := by
  cases hr with
  | spawnPar => exact (createTasks_spawn ..).imp fun _ h => h.toGrow.frame
  | seqNext => exact (createTask_spawn ..).imp fun _ h => h.toGrow.frame
  | topPar => exact (createTops_spawn ..).imp fun _ h => h.toGrow.frame
  | topNext => exact (createTop_spawn ..).imp fun _ h => h.toGrow.frame
  | download => exact ⟨[], .same (by split <;> rfl)⟩
  | _ => exact ⟨[], .same rfl⟩

theorem Rule.emits {P : Project} {cfg : Cfg} {st g : St} {t : Nat} {op : Op} {body rest : List Op}
    (hops : (st.task t).ops = op :: rest) (hr : Rule P cfg st t op body g) : Emits P st t g := by
  cases hr with
  | checkRunning | cookInvalid | cookRan | cookBody => exact Emits.one (.pass t) rfl rfl
  | spawnPar => obtain ⟨_, _, evs, he, hq⟩ := createTasks_spawn ..; exact .quiet evs he hq
  | seqNext => obtain ⟨_, _, evs, he, hq⟩ := createTask_spawn ..; exact .quiet evs he hq
  | topPar => obtain ⟨_, _, evs, he, hq⟩ := createTops_spawn ..; exact .quiet evs he hq
  | topNext => obtain ⟨_, _, evs, he, hq⟩ := createTop_spawn ..; exact .quiet evs he hq
  | download => exact .none (by split <;> rfl)
  | run => exact ⟨_, rfl, .start _ rest hops⟩
  | finOk => exact ⟨_, rfl, .fin _ true rest hops⟩
  | setRun => exact ⟨_, rfl, .setRun _ _ rest hops⟩
  | _ => exact .none rfl

theorem Raise.spec {P : Project} {st g : St} {t : Nat} {op : Op} {e : Err} {rest : List Op}
    (hops : (st.task t).ops = op :: rest) (hr : Raise P st t op e g) :
    e ≠ .internal ∧ op.isCtl = false ∧ Frame st g [] ∧ Emits P st t g := by
  cases hr with
  | finFail => exact ⟨nofun, rfl, .same rfl, _, rfl, .fin _ false rest hops⟩
  | _ => exact ⟨nofun, rfl, .same rfl, .none rfl⟩

theorem TokRule.frame {cfg : Cfg} {st g : St} {t : Nat} {k : TKind} {op : Op} {r : Runners} {body : List Op}
    (hr : TokRule cfg st t k op r body g) : Frame { st with runners := r } g [] := by
  cases hr <;> exact .same rfl

theorem TokRule.emits {P : Project} {cfg : Cfg} {st g : St} {t : Nat} {k : TKind} {op : Op} {r : Runners} {body : List Op}
    (hr : TokRule cfg st t k op r body g) : Emits P st t g := by
  cases hr with
  | got => exact .quiet [.acq t, .got t] (by simp) (by simp [Ev.quiet, Ev.isStart, Ev.isFin, Ev.isSetRun])
  | blocked => exact Emits.one (.acq t) rfl rfl
  | woken => exact Emits.one (.got t) rfl rfl
  | released => exact Emits.one (.rel t true) rfl rfl

/-- the environment of the job server semaphore moves: the event loop runs the reader callback of the pipe, a
child `make` takes or returns a token -/
inductive EnvMove : Choice → JobSem.St → JobSem.St → Prop
  | callback {s : JobSem.St} : s.reader = true → EnvMove .callback s s.callback
  | take {s s' : JobSem.St} : s.envTake = some s' → EnvMove .envTake s s'
  | give {s s' : JobSem.St} : s.envReturn = some s' → EnvMove .envReturn s s'

/-- `Move P cfg st c st'`: the choice `c` is enabled in `st` and leads to `st'` -/
inductive Move (P : Project) (cfg : Cfg) (st : St) : Choice → St → Prop
  | task {t : Nat} {op : Op} {rest : List Op} {st' : St} : (st.task t).ops = op :: rest → Step P cfg st t op rest st' →
      Move P cfg st (.task t) st'
  | finish {t s : Nat} {ok : Bool} {rest : List Op} {st' : St} : (st.task t).ops = .runWait s none :: rest →
      Step P cfg st t (.runWait s none) rest st' → Move P cfg st (.finish t ok) st'
  | env {c : Choice} {s s' : JobSem.St} : st.runners = .job s → EnvMove c s s' →
      Move P cfg st c { st with runners := .job s' }

theorem step_move {P : Project} {cfg : Cfg} {st st' : St} {c : Choice} (h : step P cfg st c = some st') :
    Move P cfg st c st' := by
  cases c with
  | task t =>
    obtain ⟨op, rest, hops, hs⟩ := stepTask_step h
    exact .task hops hs
  | finish t ok =>
    simp only [Sched.step, finishScript] at h
    split at h <;> cases h
    rename_i s rest hops
    exact .finish hops (.rule (.finish (ok := ok)))
  | callback =>
    simp only [Sched.step] at h
    split at h
    · rename_i s hs
      split at h <;> cases h
      rename_i hr
      exact .env hs (.callback hr)
    · cases h
  | envTake =>
    simp only [Sched.step] at h
    split at h
    · rename_i s hs
      cases he : s.envTake with
      | none => simp [he] at h
      | some s' =>
        simp only [he, Option.map_some, Option.some.injEq] at h
        subst h
        exact .env hs (.take he)
    · cases h
  | envReturn =>
    simp only [Sched.step] at h
    split at h
    · rename_i s hs
      cases he : s.envReturn with
      | none => simp [he] at h
      | some s' =>
        simp only [he, Option.map_some, Option.some.injEq] at h
        subst h
        exact .env hs (.give he)
    · cases h

theorem Step.emits {P : Project} {cfg : Cfg} {st st' : St} {t : Nat} {op : Op} {rest : List Op}
    (hops : (st.task t).ops = op :: rest) (hs : Step P cfg st t op rest st') : Emits P st t st' := by
  cases hs with
  | rule hr => exact (hr.emits hops :)
  | raise hr => exact ((hr.spec hops).2.2.2 :)
  | tok hr => exact (hr.emits :)
  | relFailed => exact Emits.one (.rel t false) rfl rfl
  | lock | unlockFailed => exact .none rfl
  | endOk => exact Emits.one (.done t true) (congrArg (· ++ _) (untrack_trace ..)) rfl
  | endCancel | endInternal => exact Emits.one (.done t false) rfl rfl
  | endBuild => exact .quiet [.failRec t, .done t false] (by simp) (by simp [Ev.quiet, Ev.isStart, Ev.isFin, Ev.isSetRun])

theorem stepTask_trace {P : Project} {cfg : Cfg} {st st' : St} {t : Nat}
    (h : stepTask P cfg st t = some st') : ∃ evs, st'.trace = st.trace ++ evs ∧ NewEvents P st t evs := by
  obtain ⟨op, rest, hops, hs⟩ := stepTask_step h
  exact hs.emits hops

/-- environment transitions do not touch the trace -/
theorem step_trace {P : Project} {cfg : Cfg} {st st' : St} {c : Choice} (h : step P cfg st c = some st') :
    match c with
    | .task t => ∃ evs, st'.trace = st.trace ++ evs ∧ NewEvents P st t evs
    | _ => st'.trace = st.trace := by
  cases step_move h with
  | task => exact stepTask_trace h
  | finish _ hs =>
    -- the only step at `runWait s none` is `Rule.finish`
    cases hs with
    | rule hr => cases hr; rfl
    | raise hr => cases hr
    | tok hr => cases hr with
      | got he | blocked he | woken he => cases he
      | released hl => cases hl
    | relFailed hl => cases hl
    | lock hr => cases hr
    | unlockFailed e | endOk e | endCancel e | endBuild e | endInternal e => cases e
  | env _ he => cases he <;> rfl

/-- `exec` does not leave `Reach` (a choice that is not enabled is skipped); used by the non-vacuity examples -/
theorem reach_exec {P : Project} {cfg : Cfg} {r0 : Runners} {st : St} (h : Reach P cfg r0 st) (cs : List Choice) :
    Reach P cfg r0 (exec P cfg cs st) := by
  induction cs generalizing st with
  | nil => exact h
  | cons c r ih =>
    simp only [exec]
    cases hs : step P cfg st c with
    | none => simpa [hs] using ih h
    | some st' => simpa [hs] using ih (Reach.step c h hs)

end Sched
