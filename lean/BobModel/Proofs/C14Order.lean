import BobModel.Model.Audit
import BobModel.Proofs.CommonSort
/-
C14: `sorted(m.items())` depends only on the set of entries of a dict, not on their insertion order:
Python string order is a total order and `sortKV` is an insertion sort by key (`sortKV_is`), so it permutes its input
into a list sorted by key, and two key-sorted permutations of a list with distinct keys are equal.  `sortIds` (the
`sorted(ret)` of `getReferencedBuildIds`) is an insertion sort as well (`sortIds_is`); only that it permutes is used.
-/
namespace Audit

theorem strLe_cons (a b : Char) (as bs : Str) :
    strLe (a :: as) (b :: bs) = true ↔ a.toNat < b.toNat ∨ (a.toNat = b.toNat ∧ strLe as bs = true) := by
  simp only [strLe, Bool.or_eq_true, decide_eq_true_eq, Bool.and_eq_true, beq_iff_eq, UInt32.lt_iff_toNat_lt,
    ← Char.toNat_inj]
  exact Iff.rfl

/-- the comparison is the lexicographic order of core `List` on the code points -/
theorem strLe_iff : ∀ a b : Str, strLe a b = true ↔ a.map Char.toNat ≤ b.map Char.toNat :=
  SortKey.lexLe_iff (fun _ => rfl) (fun _ _ => rfl) strLe_cons

theorem strLe_totalLe : SortKey.TotalLe strLe :=
  SortKey.lex_total strLe_iff

theorem strLe_antisymm {a b : Str} (h1 : strLe a b = true) (h2 : strLe b a = true) : a = b :=
  SortKey.lex_antisymm strLe_iff Char.toNat_inj.mp h1 h2

theorem sortKV_is {α : Type} :
    SortKey.IsSort (fun p q : Str × α => strLe p.1 q.1) (fun p l => insertKV p.1 p.2 l) sortKV :=
  ⟨⟨fun _ => rfl, fun _ _ _ => rfl⟩, rfl, fun _ _ => rfl⟩

theorem perm_sortKV {α : Type} (l : List (Str × α)) : (sortKV l).Perm l :=
  sortKV_is.perm l

theorem sorted_sortKV {α : Type} (l : List (Str × α)) : (sortKV l).Pairwise fun p q => strLe p.1 q.1 = true :=
  sortKV_is.sorted (strLe_totalLe.comap Prod.fst) l

theorem sortKV_eq_of_perm {α : Type} {l l' : List (Str × α)} (hn : (l.map Prod.fst).Nodup) (h : l.Perm l') :
    sortKV l = sortKV l' :=
  sortKV_is.eq_of_perm (strLe_totalLe.comap Prod.fst) Prod.fst strLe_antisymm hn h

theorem perm_of_mem_iff {α : Type} {l l' : List (Str × α)} (hn : (l.map Prod.fst).Nodup) (hn' : (l'.map Prod.fst).Nodup)
    (h : ∀ p, p ∈ l ↔ p ∈ l') : l.Perm l' :=
  (List.perm_ext_iff_of_nodup (SortKey.nodup_of_nodup_map hn) (SortKey.nodup_of_nodup_map hn')).2 h

def mapVals {α β : Type} (f : α → β) (l : List (Str × α)) : List (Str × β) := l.map fun p => (p.1, f p.2)

theorem map_fst_mapVals {α β : Type} (f : α → β) (l : List (Str × α)) : (mapVals f l).map Prod.fst = l.map Prod.fst :=
  List.map_map.trans rfl

theorem sortKV_mapVals {α β : Type} (f : α → β) (l : List (Str × α)) : sortKV (mapVals f l) = mapVals f (sortKV l) :=
  sortKV_is.map sortKV_is (fun p => (p.1, f p.2)) (fun _ _ => rfl) l

namespace Audit

/-- `insertId` tests `bytesLt y x` and keeps `y` in front, so the test in the sense of `IsIns` is its negation. -/
theorem sortIds_is : SortKey.IsSort (fun x y => !bytesLt y x) insertId sortIds :=
  ⟨⟨fun _ => rfl, fun x y _ => by rw [insertId]; cases bytesLt y x <;> rfl⟩, rfl, fun _ _ => rfl⟩

theorem mem_sortIds {y : Id} {l : List Id} : y ∈ sortIds l ↔ y ∈ l :=
  (sortIds_is.perm l).mem_iff

end Audit

end Audit
