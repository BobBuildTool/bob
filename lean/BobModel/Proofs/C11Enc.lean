import BobModel.Model.FileIndex
import BobModel.Proofs.CommonPrefix
/-
The byte encodings: `struct` formats evaluated on the constants extracted from the source,
injectivity of the little-endian fields, and the reason why the un-delimited concatenation
`mode ‖ digest ‖ name` of `__hashDir` can be decoded uniquely.
-/
namespace DirHash

theorem parse_modeFmt : parseFmt Consts.C11.dirModeFmt = [.int 4 false] := by decide
theorem parse_devFmt : parseFmt Consts.C11.devFmt = [.int 4 false] := by decide

section word
variable {fmt : List Char} (hf : parseFmt fmt = [.int 4 false])
include hf

/-- `packMode` and `packRdev` are `pack` with one of the two formats above: a number below 2^32 becomes
its four little-endian bytes -/
theorem pack_word {m : Nat} (h : m < 4294967296) : pack fmt [.int m] = Bytes.le 4 m := by
  unfold pack
  rw [hf]
  simp only [packFields, packInt, List.append_nil]
  congr 1
  omega

theorem pack_word_length {m : Nat} (h : m < 4294967296) : (pack fmt [.int m]).length = 4 := by
  rw [pack_word hf h, Bytes.le_length]

theorem pack_word_inj {a b : Nat} (ha : a < 4294967296) (hb : b < 4294967296)
    (h : pack fmt [.int a] = pack fmt [.int b]) : a = b := by
  rw [pack_word hf ha, pack_word hf hb] at h
  exact Bytes.le_inj 4 ha hb h

end word

def NulFree (n : Bytes) : Prop := ∀ c ∈ n, c ≠ 0

/-- empty, or the start of a packed mode in `[256, 2^16)`: two arbitrary bytes of which the second is
not zero, then two zero bytes -/
def HeadOK (x : Bytes) : Prop := x = [] ∨ ∃ a b r, x = a :: b :: 0 :: 0 :: r ∧ b ≠ 0

theorem packMode_headOK (m : Nat) (h1 : 256 ≤ m) (h2 : m < 65536) (r : Bytes) : HeadOK (packMode m ++ r) := by
  rw [packMode, pack_word parse_modeFmt (by omega)]
  refine .inr ⟨UInt8.ofNat (m % 256), UInt8.ofNat (m / 256 % 256), r, ?_, ?_⟩
  · have e : m / 256 / 256 = 0 := by omega
    simp only [Bytes.le, e]
    rfl
  · intro hb
    have := Bytes.ofNat_inj_of_lt (b := 0) (Nat.mod_lt _ (by decide)) (by decide) hb
    omega

/-- a packed mode cannot start inside a name: its third or fourth byte, which are zero, would be a
byte of the name or the second byte of the packed mode that follows the name -/
theorem HeadOK.nil_of_append {n y : Bytes} (hn : NulFree n) (hy : HeadOK y) (h : HeadOK (n ++ y)) : n = [] := by
  rcases h with h | ⟨a, b, r, h, -⟩
  · exact (List.append_eq_nil_iff.mp h).1
  · match n, hn, h with
    | [], _, _ => rfl
    | [_], _, h | [_, _], _, h =>
      rcases hy with rfl | ⟨a', b', r', rfl, hb'⟩
      · cases h
      · cases h
        exact absurd rfl hb'
    | _ :: _ :: e :: _, hn, h =>
      exact absurd (List.cons.inj (List.cons.inj (List.cons.inj h).2).2).1 (hn e (.tail _ (.tail _ (.head _))))

/-- **where a name ends**: a NUL-free name followed by nothing or by a packed mode can be split off
in only one way. -/
theorem name_boundary {n1 n2 x1 x2 : Bytes} (hn1 : NulFree n1) (hn2 : NulFree n2)
    (hx1 : HeadOK x1) (hx2 : HeadOK x2) (h : n1 ++ x1 = n2 ++ x2) : n1 = n2 ∧ x1 = x2 := by
  -- one name is the other followed by some `a`, and `a` stands in front of a packed mode or the end
  rcases List.append_eq_append_iff.mp h with ⟨a, rfl, rfl⟩ | ⟨a, rfl, rfl⟩
  · cases HeadOK.nil_of_append (List.forall_mem_append.mp hn2).2 hx2 hx1
    exact ⟨(List.append_nil _).symm, rfl⟩
  · cases HeadOK.nil_of_append (List.forall_mem_append.mp hn1).2 hx1 hx2
    exact ⟨List.append_nil _, rfl⟩

/-! One directory level is a list of `(mode, digest, sortName)` triples. -/

def encEntry (e : Nat × Bytes × Bytes) : Bytes := packMode e.1 ++ e.2.1 ++ e.2.2

/-- digest length as a function of the file type bits: SHA-1 for regular files, directories and
symlinks, 4 bytes `st_rdev` for devices, nothing for FIFOs and everything else -/
def digestLen (mode : Nat) : Nat :=
  let f := mode / 4096 % 16
  if f = 8 ∨ f = 10 ∨ f = 4 then 20 else if f = 2 ∨ f = 6 then 4 else 0

def GoodEntry (e : Nat × Bytes × Bytes) : Prop :=
  256 ≤ e.1 ∧ e.1 < 65536 ∧ e.2.1.length = digestLen e.1 ∧ NulFree e.2.2

theorem flatMap_head (l : List (Nat × Bytes × Bytes)) (hl : ∀ e ∈ l, GoodEntry e) :
    HeadOK (l.flatMap encEntry) := by
  cases l with
  | nil => exact .inl rfl
  | cons e rest =>
    obtain ⟨h1, h2, -, -⟩ := hl e (.head _)
    simp only [List.flatMap_cons, encEntry, List.append_assoc]
    exact packMode_headOK e.1 h1 h2 _

theorem flatMap_cons_ne_nil (e : Nat × Bytes × Bytes) (rest : List (Nat × Bytes × Bytes)) (g : GoodEntry e) :
    (e :: rest).flatMap encEntry ≠ [] := by
  intro h
  have := congrArg List.length h
  simp [encEntry, packMode, pack_word_length parse_modeFmt (Nat.lt_trans g.2.1 (by decide))] at this

theorem entries_decodable (l1 l2 : List (Nat × Bytes × Bytes))
    (h1 : ∀ e ∈ l1, GoodEntry e) (h2 : ∀ e ∈ l2, GoodEntry e)
    (h : l1.flatMap encEntry = l2.flatMap encEntry) : l1 = l2 := by
  induction l1 generalizing l2 with
  | nil =>
    cases l2 with
    | nil => rfl
    | cons e rest => exact absurd h.symm (flatMap_cons_ne_nil e rest (h2 e (.head _)))
  | cons e1 r1 ih =>
    cases l2 with
    | nil => exact absurd h (flatMap_cons_ne_nil e1 r1 (h1 e1 (.head _)))
    | cons e2 r2 =>
      obtain ⟨⟨a1, a2, a3, a4⟩, hr1⟩ := List.forall_mem_cons.mp h1
      obtain ⟨⟨b1, b2, b3, b4⟩, hr2⟩ := List.forall_mem_cons.mp h2
      simp only [List.flatMap_cons, encEntry, packMode, List.append_assoc] at h
      -- the mode has four bytes, it gives the length of the digest, the name ends where the next mode starts
      obtain ⟨hm, h⟩ := List.append_inj h
        (by rw [pack_word_length parse_modeFmt (by omega), pack_word_length parse_modeFmt (by omega)])
      have hmode := pack_word_inj parse_modeFmt (by omega) (by omega) hm
      obtain ⟨hd, h⟩ := List.append_inj h (by rw [a3, b3, hmode])
      obtain ⟨hs, hrest⟩ := name_boundary a4 b4 (flatMap_head r1 hr1) (flatMap_head r2 hr2) h
      rw [ih r2 hr1 hr2 hrest, Prod.ext hmode (Prod.ext hd hs)]

end DirHash
