import BobModel.Spec.PathSem
/-
The constructor rewrites of `LocationPath.__init__` preserve the meaning.
-/
namespace PathSpec

theorem nameTest_star (name : Str) : nameTest star name = true := by
  simp [nameTest]

theorem sem_cons_congr {g : Graph} {ax : Axis} {test : Str} {op op' : OptPred} {rest rest' : Steps}
    (hop : ∀ c, holdsOpt g op c ↔ holdsOpt g op' c) (hrest : ∀ c b, sem g rest c b ↔ sem g rest' c b)
    (a b : Node) : sem g (.cons ax test op rest) a b ↔ sem g (.cons ax test op' rest') a b := by
  simp only [sem, hop, hrest]

theorem isSome_eq_false {op : OptPred} (h : op.isSome = false) : op = .none := by
  cases op <;> simp_all [OptPred.isSome]

theorem sem_trivialSelf (g : Graph) (rest : Steps) (a b : Node) :
    sem g (.cons .self star .none rest) a b ↔ sem g rest a b := by
  simp [sem, axisRel, holdsOpt, nameTest_star]

theorem sem_dropTrivialSelf (g : Graph) : ∀ (s : Steps) (a b : Node), sem g (dropTrivialSelf s) a b ↔ sem g s a b
  | .nil, a, b => by simp [dropTrivialSelf]
  | .cons ax test op rest, a, b => by
    simp only [dropTrivialSelf]
    split
    · rename_i h
      simp only [Bool.and_eq_true, beq_iff_eq, Bool.not_eq_true'] at h
      obtain ⟨⟨rfl, rfl⟩, hop⟩ := h
      rw [isSome_eq_false hop, sem_trivialSelf]
      exact sem_dropTrivialSelf g rest a b
    · exact sem_cons_congr (fun _ => Iff.rfl) (sem_dropTrivialSelf g rest) a b

/-- `//x`: a descendant is a child of the context node or of one of its descendants -/
theorem sem_slashSlash (g : Graph) (test : Str) (op : OptPred) (rest : Steps) (a b : Node) :
    sem g (.cons .descendantOrSelf star .none (.cons .child test op rest)) a b ↔
      sem g (.cons .descendant test op rest) a b := by
  simp only [sem, axisRel, holdsOpt, nameTest_star, true_and]
  constructor
  · rintro ⟨c, hc, d, he, h⟩
    exact ⟨d, hc.elim (fun h => h ▸ .single he) (fun t => .tail t he), h⟩
  · rintro ⟨d, hd, h⟩
    cases hd with
    | single he => exact ⟨a, Or.inl rfl, d, he, h⟩
    | tail t he => exact ⟨_, Or.inr t, d, he, h⟩

theorem sem_fuse (g : Graph) : ∀ (s : Steps) (a b : Node), sem g (fuse s) a b ↔ sem g s a b
  | .nil, a, b => by simp [fuse]
  | .cons ax test op .nil, a, b => by simp [fuse]
  | .cons ax test op (.cons ax2 test2 op2 rest), a, b => by
    simp only [fuse]
    split
    · rename_i h
      simp only [Bool.and_eq_true, beq_iff_eq, Bool.not_eq_true'] at h
      obtain ⟨⟨⟨rfl, rfl⟩, hop⟩, rfl⟩ := h
      rw [isSome_eq_false hop, sem_slashSlash]
      exact sem_cons_congr (fun _ => Iff.rfl) (sem_fuse g rest) a b
    · exact sem_cons_congr (fun _ => Iff.rfl) (sem_fuse g (.cons ax2 test2 op2 rest)) a b

mutual
theorem holds_normalize (g : Graph) : ∀ (p : Pred) (n : Node), holds g p.normalize n ↔ holds g p n
  | .not p, n => by simp only [Pred.normalize, holds, holds_normalize g p n]
  | .and l r, n => by simp only [Pred.normalize, holds, holds_normalize g l n, holds_normalize g r n]
  | .or l r, n => by simp only [Pred.normalize, holds, holds_normalize g l n, holds_normalize g r n]
  | .path abs steps, n => by
    simp only [Pred.normalize, holds, sem_fuse, sem_dropTrivialSelf, sem_normalizeInner g steps]
  | .cmp op l r, n => by simp only [Pred.normalize]
  | .truth e, n => by simp only [Pred.normalize]
theorem holdsOpt_normalize (g : Graph) : ∀ (op : OptPred) (n : Node), holdsOpt g op.normalize n ↔ holdsOpt g op n
  | .none, n => by simp only [OptPred.normalize]
  | .some p, n => by simp only [OptPred.normalize, holdsOpt, holds_normalize g p n]
theorem sem_normalizeInner (g : Graph) : ∀ (s : Steps) (a b : Node), sem g s.normalizeInner a b ↔ sem g s a b
  | .nil, a, b => by simp only [Steps.normalizeInner]
  | .cons ax test op rest, a, b => by
    simp only [Steps.normalizeInner]
    exact sem_cons_congr (holdsOpt_normalize g op) (sem_normalizeInner g rest) a b
end

theorem sem_normalize (g : Graph) (s : Steps) (a b : Node) : sem g s.normalize a b ↔ sem g s a b := by
  unfold Steps.normalize
  rw [sem_fuse, sem_dropTrivialSelf, sem_normalizeInner]

end PathSpec
