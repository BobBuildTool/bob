import BobModel.Proofs.C19Scan
import BobModel.Proofs.C19Closure
import BobModel.Proofs.C19Query
/-
C19: the commands `clean` and `find` on worlds.  Both are a scan (or none) followed by the command with `-n`
(`runCmd_clean`, `scanned_files`); the lemmas from there to `cleanCmd_congr` are about that second part; `sound_runCmd` and `runCmd_congr` put the repaired scan in front again.
-/
namespace ArchiveIndex
open Retention

theorem filter_true {α : Type} (l : List α) : l.filter (fun _ => true) = l :=
  List.filter_eq_self.mpr fun _ _ => rfl

theorem cleanCmd_scan (rep noscan dry : Bool) (es : List Expr) (w : World) :
    cleanCmd rep noscan dry es w = cleanCmd rep true dry es (if noscan then w else scanCmd rep w) := by
  cases noscan <;> rfl

theorem findCmd_scan (rep noscan : Bool) (es : List Expr) (w : World) :
    findCmd rep noscan es w = findCmd rep true es (if noscan then w else scanCmd rep w) := by
  cases noscan <;> rfl

theorem cleanCmd_dry (rep : Bool) (es : List Expr) (w : World) :
    cleanCmd rep true true es w =
      (w, match query es w.idx.table with
        | .error x => .queryError x
        | .ok retained => .ok (victims w.idx.bids (closure w.idx.refs retained))) := by
  simp only [cleanCmd, if_true]
  cases query es w.idx.table <;> rfl

theorem runCmd_clean (rep dry : Bool) (es : List Expr) (w : World) :
    runCmd rep (.clean dry es) w = cleanCmd rep true dry es (scanCmd rep w) :=
  cleanCmd_scan rep false dry es w

theorem scanned_files (rep noscan : Bool) (w : World) : (if noscan then w else scanCmd rep w).files = w.files := by
  cases noscan <;> rfl

theorem mem_victims {bids kept : List Bid} {b : Bid} : b ∈ victims bids kept ↔ b ∈ bids ∧ b ∉ kept := by
  simp [victims]

/-- One step of the third pass.  The two branches of `deleteLoop` that go on are one: a build id without a file
leaves `files` as it is, and so does the filter. -/
theorem deleteLoop_cons (w : World) (rm : Bool) (b : Bid) (rest : List Bid) :
    deleteLoop w rm (b :: rest) =
      if (w.files.find? fun f => f.bid == b).all (·.deletable) = true then
        deleteLoop ⟨w.files.filter fun g => g.bid != b, removeRow w.idx b⟩ true rest
      else (w, rm, some b) := by
  rw [deleteLoop]
  cases hf : w.files.find? (fun f => f.bid == b) with
  | none =>
    have : (w.files.filter fun g => g.bid != b) = w.files :=
      List.filter_eq_self.mpr fun g hg => by simpa using List.find?_eq_none.mp hf g hg
    rw [this]
    rfl
  | some f => cases hd : f.deletable <;> simp [hd]

/-- The third pass works through the victims up to the first whose file cannot be deleted.  The files and the rows of
those it got `done` with are gone, the references are as they were; which they are does not depend on the index. -/
theorem deleteLoop_eq (vs : List Bid) (files : List FileEnt) (rm : Bool) :
    ∃ (done : List Bid) (failed : Option Bid), (failed = none → done = vs) ∧
      ((∀ f ∈ files, f.deletable = true) → failed = none) ∧
      ∀ i : Index, deleteLoop ⟨files, i⟩ rm vs =
        (⟨files.filter fun f => !done.contains f.bid, i.rows.filter fun r => !done.contains r.bid, i.refs⟩,
          rm || !done.isEmpty, failed) := by
  induction vs generalizing files rm with
  | nil => exact ⟨[], none, fun _ => rfl, fun _ => rfl, fun i => by simp [deleteLoop, filter_true]⟩
  | cons b rest ih =>
    simp only [deleteLoop_cons]
    by_cases hb : (files.find? fun f => f.bid == b).all (·.deletable) = true
    · obtain ⟨done, failed, h1, h2, h3⟩ := ih (files.filter fun g => g.bid != b) true
      refine ⟨b :: done, failed, fun h => by rw [h1 h], fun hd => h2 fun g hg => hd g (List.mem_filter.mp hg).1, fun i => ?_⟩
      have key : ∀ x : Bid, (!done.contains x && x != b) = !(b :: done).contains x := fun x => by
        rw [List.contains_cons, Bool.not_or, Bool.and_comm]; rfl
      rw [if_pos hb, h3]
      simp only [removeRow, dropRow, List.filter_filter, key, Bool.true_or, List.isEmpty_cons, Bool.not_false, Bool.or_true]
    · refine ⟨[], some b, nofun, fun hd => ?_, fun i => by simp [hb, filter_true]⟩
      exact absurd ((Option.all_eq_true _ _).mpr fun f hf => hd f (List.mem_of_find?_eq_some hf)) hb

theorem cleanCmd_idx (rep dry : Bool) (es : List Expr) (w : World) :
    (cleanCmd rep true dry es w).1.idx = w.idx ∨
    ∃ keep : Bid → Bool,
      (cleanCmd rep true dry es w).1.idx = pruneRefs ⟨w.idx.rows.filter fun r => keep r.bid, w.idx.refs⟩ := by
  obtain ⟨files, i⟩ := w
  cases dry with
  | true => rw [cleanCmd_dry]; exact Or.inl rfl
  | false =>
    simp only [cleanCmd, if_true, Bool.false_eq_true, if_false]
    cases query es i.table with
    | error x => exact Or.inl rfl
    | ok retained =>
      obtain ⟨done, failed, _, _, h⟩ := deleteLoop_eq (victims i.bids (closure i.refs retained)) files false
      simp only [h]
      cases done with
      | nil => cases failed <;> exact Or.inl (congrArg (Index.mk · i.refs) (filter_true i.rows))
      | cons d ds => cases failed <;> exact Or.inr ⟨fun b => !(d :: ds).contains b, rfl⟩

theorem findCmd_idx (rep : Bool) (es : List Expr) (w : World) : (findCmd rep true es w).1 = w := by
  simp only [findCmd, if_true]
  cases query es w.idx.table <;> rfl

theorem sound_cleanCmd {C : Bid → Stat → Option AuditInfo} {w : World} (h : Sound C w.idx) (rep dry : Bool)
    (es : List Expr) : Sound C (cleanCmd rep true dry es w).1.idx := by
  rcases cleanCmd_idx rep dry es w with he | ⟨keep, he⟩ <;> rw [he]
  · exact h
  · exact sound_prune_filter h keep

theorem table_eq_of_indexEq {i j : Index} (h : IndexEq i j) : i.table = j.table := by
  unfold Index.table; rw [h.1]

theorem victims_congr {i j : Index} (h : IndexEq i j) (retained : List Bid) :
    victims i.bids (closure i.refs retained) = victims j.bids (closure j.refs retained) := by
  have hb : i.bids = j.bids := by unfold Index.bids; rw [h.1]
  unfold victims
  rw [hb]
  refine List.filter_congr fun b _ => congrArg not ?_
  rw [Bool.eq_iff_iff, List.contains_iff_mem, List.contains_iff_mem, mem_closure, mem_closure]
  exact reach_congr h.2 fun _ => Iff.rfl

theorem cleanCmd_congr {i j : Index} (h : IndexEq i j) (rep dry : Bool) (es : List Expr) (files : List FileEnt) :
    (cleanCmd rep true dry es ⟨files, i⟩).1.files = (cleanCmd rep true dry es ⟨files, j⟩).1.files ∧
    (cleanCmd rep true dry es ⟨files, i⟩).2 = (cleanCmd rep true dry es ⟨files, j⟩).2 := by
  cases dry with
  | true => simp only [cleanCmd_dry, table_eq_of_indexEq h, victims_congr h, and_self]
  | false =>
    simp only [cleanCmd, if_true, Bool.false_eq_true, if_false, table_eq_of_indexEq h, victims_congr h]
    cases query es j.table with
    | error x => exact ⟨rfl, rfl⟩
    | ok retained =>
      obtain ⟨done, failed, _, _, hd⟩ := deleteLoop_eq (victims j.bids (closure j.refs retained)) files false
      simp only [hd]
      cases failed <;> cases done <;> exact ⟨rfl, rfl⟩

theorem sound_runCmd {C : Bid → Stat → Option AuditInfo} {i : Index} {files : List FileEnt} (hi : Sound C i)
    (hf : FilesOk C files) (c : Cmd) : Sound C (runCmd true c ⟨files, i⟩).1.idx := by
  have hs : Sound C (scanCmd true ⟨files, i⟩).idx := (scanRepaired_spec hi hf).1
  cases c with
  | scan => exact hs
  | find es => rw [runCmd, findCmd_scan, findCmd_idx]; exact hs
  | clean dry es => rw [runCmd_clean]; exact sound_cleanCmd hs true dry es

theorem runCmd_congr {C : Bid → Stat → Option AuditInfo} {i j : Index} {files : List FileEnt} (hi : Sound C i)
    (hj : Sound C j) (hf : FilesOk C files) (c : Cmd) :
    (runCmd true c ⟨files, i⟩).1.files = (runCmd true c ⟨files, j⟩).1.files ∧
    (runCmd true c ⟨files, i⟩).2 = (runCmd true c ⟨files, j⟩).2 := by
  have heq : IndexEq (scanRepaired i files) (scanRepaired j files) :=
    normal_indexEq (scanRepaired_spec hi hf).2 (scanRepaired_spec hj hf).2
  cases c with
  | scan => exact ⟨rfl, rfl⟩
  | find es =>
    simp only [runCmd, findCmd, Bool.false_eq_true, if_false, scanCmd, scanWith, if_true, table_eq_of_indexEq heq]
    cases query es _ <;> exact ⟨rfl, rfl⟩
  | clean dry es =>
    simp only [runCmd_clean]
    exact cleanCmd_congr heq true dry es files

end ArchiveIndex
