import BobModel.Proofs.C12Order
/-
The builder level model.  A run of the checkout step is a sequence of elementary state changes
(`Steps`); from that follow which micro-ops it emits and how the set of directories is determined by
them (`Ext`, `replay`), and that work items located in SCM directories survive (`KeptOrPruned`).

`Iter` over-approximates one iteration of the switch-or-attic loop (pym/bob/builder.py, the body of
the loop over `checkoutsFromState(oldCheckoutState)`, lines 1261-1313) by five outcomes - nested below
a moved directory, kept, switched inline, moved to the attic, gone.  `loopStep_iter` is the only place where
`loopStep` and `changedStep` are unfolded.
-/
namespace Checkout

variable {σ κ ι : Type}

theorem under_refl (l : Loc) : l.under l = true := by
  cases l <;> simp [Loc.under, isPrefix_refl]

theorem isPrefix_append_drop (p q : Comps) (h : isPrefix p q = true) : q = p ++ q.drop p.length := by
  obtain ⟨t, rfl⟩ := isPrefix_iff.mp h
  rw [List.drop_left]

theorem moveLoc_ws (p : Comps) (n : Nat) (q : Comps) :
    moveLoc p n (.ws q) = if isPrefix p q then .attic n (q.drop p.length) else .ws q := rfl

theorem moveLoc_eq_ws {p : Comps} {n : Nat} {l : Loc} {q : Comps} (h : moveLoc p n l = .ws q) :
    l = .ws q ∧ isPrefix p q = false := by
  cases l with
  | attic m r => cases h
  | ws r =>
    rw [moveLoc_ws] at h
    split at h
    · cases h
    · cases h; exact ⟨rfl, Bool.eq_false_iff.mpr ‹_›⟩

theorem moveLoc_eq_attic {p : Comps} {n m : Nat} {l : Loc} {q : Comps} (h : moveLoc p n l = .attic m q) :
    l = .attic m q ∨ m = n := by
  cases l with
  | attic m' r => exact Or.inl h
  | ws r =>
    rw [moveLoc_ws] at h
    split at h
    · cases h; exact Or.inr rfl
    · cases h

def locs (fs : List (Loc × κ)) : List Loc := fs.map (·.1)

theorem contentAt_cons (e : Loc × κ) (fs : List (Loc × κ)) (l : Loc) :
    contentAt (e :: fs) l = if e.1 == l then some e.2 else contentAt fs l := by
  unfold contentAt
  rw [List.find?_cons]
  split <;> simp [*]

theorem setContent_cons (e : Loc × κ) (fs : List (Loc × κ)) (l : Loc) (k : κ) :
    setContent (e :: fs) l k = if e.1 == l then (l, k) :: fs else e :: setContent fs l k := rfl

theorem contentAt_some_mem {fs : List (Loc × κ)} {l : Loc} {k : κ} (h : contentAt fs l = some k) :
    (l, k) ∈ fs := by
  obtain ⟨⟨l', k'⟩, he, rfl⟩ := Option.map_eq_some_iff.mp h
  have hl : (l' == l) = true := List.find?_some (p := fun e : Loc × κ => e.1 == l) he
  exact beq_iff_eq.mp hl ▸ List.mem_of_find?_eq_some he

theorem contentAt_setContent_same (fs : List (Loc × κ)) (l : Loc) (k : κ) :
    contentAt (setContent fs l k) l = some k := by
  induction fs with
  | nil => simp [setContent, contentAt_cons]
  | cons e rest ih => rw [setContent_cons]; split <;> simp [contentAt_cons, *]

theorem contentAt_setContent_other (fs : List (Loc × κ)) (l l' : Loc) (k : κ) (h : l' ≠ l) :
    contentAt (setContent fs l k) l' = contentAt fs l' := by
  have h' : (l == l') = false := beq_false_of_ne (Ne.symm h)
  induction fs with
  | nil => simp [setContent, h', contentAt]
  | cons e rest ih =>
    rw [setContent_cons]
    split
    · rename_i he
      simp [contentAt_cons, beq_iff_eq.mp he, h']
    · simp [contentAt_cons, ih]

theorem contentAt_filter (fs : List (Loc × κ)) (f : Loc → Bool) (l : Loc) (hl : f l = true) :
    contentAt (fs.filter (fun e => f e.1)) l = contentAt fs l := by
  induction fs with
  | nil => rfl
  | cons e rest ih =>
    rw [List.filter_cons, contentAt_cons]
    split
    · rw [contentAt_cons, ih]
    · rename_i hf
      have he : ¬ (e.1 == l) = true := fun he => hf (beq_iff_eq.mp he ▸ hl)
      rw [ih, if_neg he]

theorem setContent_mem (fs : List (Loc × κ)) (l : Loc) (k : κ) : (l, k) ∈ setContent fs l k :=
  contentAt_some_mem (contentAt_setContent_same fs l k)

theorem mem_setContent {fs : List (Loc × κ)} {l l' : Loc} {k0 k' : κ} (h : (l, k0) ∈ fs) :
    (l, k0) ∈ setContent fs l' k' ∨ (l = l' ∧ contentAt fs l' = some k0) := by
  induction fs with
  | nil => cases h
  | cons e rest ih =>
    rw [setContent_cons, contentAt_cons]
    split
    · rename_i he
      rcases List.mem_cons.mp h with h1 | h1
      · subst h1; exact Or.inr ⟨beq_iff_eq.mp he, rfl⟩
      · exact Or.inl (List.mem_cons_of_mem _ h1)
    · rcases List.mem_cons.mp h with h1 | h1
      · subst h1; exact Or.inl List.mem_cons_self
      · exact (ih h1).imp_left (List.mem_cons_of_mem _)

theorem mem_setContent_inv {fs : List (Loc × κ)} {l l' : Loc} {k k' : κ}
    (h : (l, k) ∈ setContent fs l' k') : (l, k) ∈ fs ∨ (l = l' ∧ k = k') := by
  induction fs with
  | nil => exact Or.inr (Prod.mk.inj (List.mem_singleton.mp h))
  | cons e rest ih =>
    rw [setContent_cons] at h
    split at h
    · rcases List.mem_cons.mp h with h1 | h1
      · exact Or.inr (Prod.mk.inj h1)
      · exact Or.inl (List.mem_cons_of_mem _ h1)
    · rcases List.mem_cons.mp h with h1 | h1
      · exact Or.inl (h1 ▸ List.mem_cons_self)
      · exact (ih h1).imp_left (List.mem_cons_of_mem _)

theorem locs_setContent (fs : List (Loc × κ)) (l : Loc) (k : κ) :
    locs (setContent fs l k) = if (locs fs).contains l then locs fs else locs fs ++ [l] := by
  induction fs with
  | nil => rfl
  | cons e rest ih =>
    rw [setContent_cons]
    by_cases he : e.1 = l
    · simp [locs, he]
    · have he' : (l == e.1) = false := beq_false_of_ne (Ne.symm he)
      simp only [locs, List.map_cons, List.contains_cons, beq_iff_eq, he, if_false, he', Bool.false_or] at ih ⊢
      rw [ih]
      exact apply_ite (List.cons e.1) _ _ _

theorem mem_locs {fs : List (Loc × κ)} {l : Loc} {k : κ} (h : (l, k) ∈ fs) : l ∈ locs fs :=
  List.mem_map.mpr ⟨(l, k), h, rfl⟩

theorem exists_of_mem_locs {fs : List (Loc × κ)} {l : Loc} (h : l ∈ locs fs) : ∃ k, (l, k) ∈ fs := by
  obtain ⟨⟨l', k⟩, hm, rfl⟩ := List.mem_map.mp h
  exact ⟨k, hm⟩

theorem contentAt_some_contains {fs : List (Loc × κ)} {l : Loc} {k : κ} (h : contentAt fs l = some k) :
    (locs fs).contains l = true :=
  List.contains_iff_mem.mpr (mem_locs (contentAt_some_mem h))

theorem contentAt_none_contains {fs : List (Loc × κ)} {l : Loc} (h : contentAt fs l = none) :
    (locs fs).contains l = false := by
  unfold contentAt at h
  simp only [Option.map_eq_none_iff, List.find?_eq_none, beq_iff_eq] at h
  rw [Bool.eq_false_iff]
  intro hc
  obtain ⟨e, he, hl⟩ := List.mem_map.mp (List.contains_iff_mem.mp hc)
  exact h e he hl

theorem locs_setContent_of_some {fs : List (Loc × κ)} {l : Loc} {k0 : κ} (h : contentAt fs l = some k0) (k : κ) :
    locs (setContent fs l k) = locs fs := by
  rw [locs_setContent, contentAt_some_contains h]; rfl

theorem contentAt_of_mem {fs : List (Loc × κ)} (hn : (locs fs).Nodup) {l : Loc} {k : κ} (h : (l, k) ∈ fs) :
    contentAt fs l = some k := by
  induction fs with
  | nil => cases h
  | cons e rest ih =>
    obtain ⟨hne, hn'⟩ := List.nodup_cons.mp hn
    rw [contentAt_cons]
    rcases List.mem_cons.mp h with h1 | h1
    · subst h1; exact if_pos (beq_self_eq_true _)
    · have hel : ¬ (e.1 == l) = true := fun he => hne (show e.1 ∈ locs rest from beq_iff_eq.mp he ▸ mem_locs h1)
      rw [if_neg hel, ih hn' h1]

theorem nodup_setContent {fs : List (Loc × κ)} (hn : (locs fs).Nodup) (l : Loc) (k : κ) :
    (locs (setContent fs l k)).Nodup := by
  rw [locs_setContent]
  split
  · exact hn
  · rename_i hc
    refine List.nodup_append.mpr ⟨hn, List.pairwise_singleton _ l, fun a ha b hb hab => hc ?_⟩
    rw [← List.mem_singleton.mp hb, ← hab]
    exact List.contains_iff_mem.mpr ha

theorem mem_setContent_nodup {fs : List (Loc × κ)} (hn : (locs fs).Nodup) {l l1 : Loc} {k' k1 : κ}
    (h : (l1, k1) ∈ setContent fs l k') : (l1 = l ∧ k1 = k') ∨ ((l1, k1) ∈ fs ∧ l1 ≠ l) := by
  by_cases hl : l1 = l
  · subst hl
    have := contentAt_of_mem (nodup_setContent hn _ _) h
    rw [contentAt_setContent_same] at this
    exact Or.inl ⟨rfl, (Option.some.inj this).symm⟩
  · exact Or.inr ⟨(mem_setContent_inv h).resolve_right (fun h' => hl h'.1), hl⟩

theorem mem_moved_ws {fs : List (Loc × κ)} {p q : Comps} {n : Nat} {k : κ}
    (h : (Loc.ws q, k) ∈ fs.map (fun e => (moveLoc p n e.1, e.2))) : (Loc.ws q, k) ∈ fs ∧ isPrefix p q = false := by
  obtain ⟨⟨l0, k0⟩, hm0, he⟩ := List.mem_map.mp h
  cases (Prod.mk.inj he).2
  obtain ⟨rfl, hpre⟩ := moveLoc_eq_ws (Prod.mk.inj he).1
  exact ⟨hm0, hpre⟩

/-- `applyOp` on the locations alone, and in addition the directory an `invoke` creates: that one is
written by `emitSet`, not by `applyOp`, hence the side condition of `locs_applyOp` -/
def applyLoc (l : List Loc) : Op σ → List Loc
  | .moveToAttic p n => l.map (moveLoc p n)
  | .emptyDir p => l.filter (fun x => !(x.under (.ws p) && x != .ws p))
  | .rmAttic n sub => l.filter (fun x => !x.under (.attic n sub))
  | .rmWorkspace => l.filter (fun x => match x with | .ws _ => false | _ => true)
  | .invoke p _ _ => if l.contains (.ws p) then l else l ++ [.ws p]
  | _ => l

/-- replay a log (newest first) on a set of directories -/
def replay (added : List (Op σ)) (l : List Loc) : List Loc :=
  added.foldr (fun op acc => applyLoc acc op) l

theorem replay_append (a b : List (Op σ)) (l : List Loc) : replay (a ++ b) l = replay a (replay b l) := by
  simp [replay, List.foldr_append]

theorem locs_applyOp (fs : List (Loc × κ)) (op : Op σ) (h : ∀ p f ok, op ≠ .invoke p f ok) :
    locs (applyOp fs op) = applyLoc (locs fs) op := by
  cases op with
  | moveToAttic p n => simp [applyOp, applyLoc, locs, List.map_map, Function.comp_def]
  | emptyDir p => simp [applyOp, applyLoc, locs, List.filter_map, Function.comp_def]
  | rmAttic n sub => simp [applyOp, applyLoc, locs, List.filter_map, Function.comp_def]
  | rmWorkspace => simp [applyOp, applyLoc, locs, List.filter_map, Function.comp_def]; rfl
  | invoke p f ok => exact absurd rfl (h p f ok)
  | scmSwitch p ok => rfl
  | regAttic n sub s => rfl
  | setDirState d => rfl

/-- which ops a step may emit; `lo`/`hi` bound the attic numbers used -/
def Allowed (sem : ScmSem σ κ) (new : List (NewEntry σ)) (lo hi : Nat) : Op σ → Prop
  | .rmAttic _ _ => False
  | .rmWorkspace => False
  | .emptyDir p => ∃ n, n ∈ new ∧ sem.prunes n.spec = true ∧ normComps n.dir = p
  | .moveToAttic _ n => lo ≤ n ∧ n < hi
  | _ => True

theorem Allowed.mono {sem : ScmSem σ κ} {new : List (NewEntry σ)} {lo hi lo' hi' : Nat} {op : Op σ}
    (h : Allowed sem new lo hi op) (h1 : lo' ≤ lo) (h2 : hi ≤ hi') : Allowed sem new lo' hi' op := by
  cases op with
  | moveToAttic p n => exact ⟨Nat.le_trans h1 h.1, Nat.lt_of_lt_of_le h.2 h2⟩
  | _ => exact h

def AtticBelow (st : St σ κ) : Prop :=
  ∀ n p k, (Loc.attic n p, k) ∈ st.fs → n < st.nextAttic

/-- `st'` extends `st`: the log grew by allowed ops only, the directories follow the log, attic
numbers grow and stay fresh -/
def Ext (sem : ScmSem σ κ) (new : List (NewEntry σ)) (st st' : St σ κ) : Prop :=
  st.nextAttic ≤ st'.nextAttic ∧ (AtticBelow st → AtticBelow st') ∧
  ∃ added, st'.ops = added ++ st.ops ∧ locs st'.fs = replay added (locs st.fs) ∧
    ∀ op, op ∈ added → Allowed sem new st.nextAttic st'.nextAttic op

theorem Ext.refl (sem : ScmSem σ κ) (new : List (NewEntry σ)) (st : St σ κ) : Ext sem new st st :=
  ⟨Nat.le_refl _, id, [], rfl, rfl, fun _ h => nomatch h⟩

theorem Ext.trans {sem : ScmSem σ κ} {new : List (NewEntry σ)} {a b c : St σ κ}
    (h1 : Ext sem new a b) (h2 : Ext sem new b c) : Ext sem new a c := by
  obtain ⟨hn1, hb1, ad1, ho1, hl1, hp1⟩ := h1
  obtain ⟨hn2, hb2, ad2, ho2, hl2, hp2⟩ := h2
  refine ⟨Nat.le_trans hn1 hn2, fun h => hb2 (hb1 h), ad2 ++ ad1, by rw [ho2, ho1, List.append_assoc], ?_, ?_⟩
  · rw [hl2, hl1, replay_append]
  · intro op hop
    rcases List.mem_append.mp hop with h | h
    · exact (hp2 op h).mono hn1 (Nat.le_refl _)
    · exact (hp1 op h).mono (Nat.le_refl _) hn2

theorem ext_op {sem : ScmSem σ κ} {new : List (NewEntry σ)} {a b : St σ κ} (op : Op σ)
    (hops : b.ops = op :: a.ops) (hlocs : locs b.fs = applyLoc (locs a.fs) op)
    (hn : a.nextAttic ≤ b.nextAttic) (hb : AtticBelow a → AtticBelow b)
    (ha : Allowed sem new a.nextAttic b.nextAttic op) : Ext sem new a b :=
  ⟨hn, hb, [op], hops, hlocs, fun _ ho => List.mem_singleton.mp ho ▸ ha⟩

theorem atticBelow_emitSet (op : Op σ) (p : Comps) (k : κ) (st : St σ κ) (hb : AtticBelow st) :
    AtticBelow (emitSet op p k st) := by
  intro n q k1 hm
  rcases mem_setContent_inv hm with h1 | h1
  · exact hb n q k1 h1
  · cases h1.1

theorem atticBelow_move (p : Comps) (st : St σ κ) (hb : AtticBelow st) :
    AtticBelow (emit (.moveToAttic p st.nextAttic) { st with nextAttic := st.nextAttic + 1 }) := by
  intro n q k hm
  obtain ⟨⟨l0, k0⟩, hm0, he⟩ := List.mem_map.mp hm
  show n < st.nextAttic + 1
  rcases moveLoc_eq_attic (Prod.mk.inj he).1 with h | h
  · subst h; exact Nat.lt_succ_of_lt (hb n q k0 hm0)
  · subst h; exact Nat.lt_succ_self _

/-- ops that only go to the log: no directory appears, moves or disappears -/
def Op.Silent : Op σ → Prop
  | .scmSwitch _ _ | .regAttic _ _ _ | .setDirState _ => True
  | _ => False

/-- `Steps sem new a b`: `b` is reached from `a` by the writes `_cookCheckoutStep` performs -
bookkeeping, logged ops, an inline switch of an existing checkout, a move to a fresh attic
directory, the pruning of an import SCM of `new`, an SCM run.  Everything that holds of a run
because it holds of each of these is proved by induction on `Steps`. -/
inductive Steps (sem : ScmSem σ κ) (new : List (NewEntry σ)) : St σ κ → St σ κ → Prop
  | refl (a : St σ κ) : Steps sem new a a
  | trans {a b c : St σ κ} : Steps sem new a b → Steps sem new b c → Steps sem new a c
  | book {a b : St σ κ} (hops : b.ops = a.ops := by rfl) (hfs : b.fs = a.fs := by rfl)
      (hnext : b.nextAttic = a.nextAttic := by rfl) : Steps sem new a b
  | log (op : Op σ) (st : St σ κ) : op.Silent → Steps sem new st (emit op st)
  | switch (o n : σ) (p : Comps) (k : κ) (st : St σ κ) : contentAt st.fs (.ws p) = some k →
      Steps sem new st (emitSet (.scmSwitch p (sem.switch o n k).2) p (sem.switch o n k).1 st)
  | move (p : Comps) (st : St σ κ) :
      Steps sem new st (emit (.moveToAttic p st.nextAttic) { st with nextAttic := st.nextAttic + 1 })
  | prune (n : NewEntry σ) (st : St σ κ) : n ∈ new → sem.prunes n.spec = true →
      Steps sem new st (emit (.emptyDir (normComps n.dir)) st)
  | invoke (s : σ) (p : Comps) (st : St σ κ) :
      Steps sem new st (emitSet (.invoke p (contentAt st.fs (.ws p)).isNone (sem.invoke s (contentAt st.fs (.ws p))).2)
        p (sem.invoke s (contentAt st.fs (.ws p))).1 st)

variable {sem : ScmSem σ κ} {new : List (NewEntry σ)}

/-- the outcomes of the switch attempt: nothing happens, git fails because there is no checkout, or
the SCM switches the existing checkout -/
theorem trySwitch_cases (sem : ScmSem σ κ) (new : List (NewEntry σ)) (e : OldEntry σ) (p : Comps) (st : St σ κ) :
    trySwitch sem new e p st = (st, false) ∨ trySwitch sem new e p st = (emit (.scmSwitch p false) st, false) ∨
    ∃ n os k, findNew new e.dir = some n ∧ e.spec = some os ∧ contentAt st.fs (.ws p) = some k ∧
      trySwitch sem new e p st =
        (emitSet (.scmSwitch p (sem.switch os n.spec k).2) p (sem.switch os n.spec k).1 st, (sem.switch os n.spec k).2) := by
  unfold trySwitch
  cases hn : findNew new e.dir with
  | none => exact Or.inl rfl
  | some n =>
    cases hs : e.spec with
    | none => exact Or.inl rfl
    | some os =>
      dsimp only
      split
      · cases hk : contentAt st.fs (.ws p) with
        | some k => exact Or.inr (Or.inr ⟨n, os, k, rfl, rfl, rfl, rfl⟩)
        | none => exact Or.inr (Or.inl rfl)
      · exact Or.inl rfl

theorem steps_trySwitch (e : OldEntry σ) (p : Comps) (st : St σ κ) :
    Steps sem new st (trySwitch sem new e p st).1 := by
  rcases trySwitch_cases sem new e p st with h | h | ⟨n, os, k, _, _, hk, h⟩ <;> rw [h]
  · exact .refl st
  · exact .log _ st trivial
  · exact .switch os n.spec p k st hk

theorem steps_persist (st : St σ κ) : Steps sem new st (persist st) := .log (.setDirState _) st trivial

theorem steps_dropOld (d : String) (st : St σ κ) : Steps sem new st (dropOld d st) :=
  .trans .book (steps_persist _)

theorem steps_moveAway (e : OldEntry σ) (p : Comps) (st : St σ κ) : Steps sem new st (moveAway e p st) :=
  .trans .book (.trans (.move p _) (.trans .book (.log (.regAttic _ _ _) _ trivial)))

theorem steps_invalidate (e : OldEntry σ) (st : St σ κ) : Steps sem new st (invalidate e st) := by
  unfold invalidate
  split
  · exact .trans .book (steps_persist _)
  · exact .refl st

theorem fs_invalidate (e : OldEntry σ) (st : St σ κ) :
    (invalidate e st).fs = st.fs ∧ (invalidate e st).wsMissing = st.wsMissing ∧
    (invalidate e st).nextAttic = st.nextAttic ∧ (invalidate e st).plain = st.plain := by
  unfold invalidate
  split <;> exact ⟨rfl, rfl, rfl, rfl⟩

theorem existsWs_congr {a b : St σ κ} (h1 : locs b.fs = locs a.fs) (h2 : b.wsMissing = a.wsMissing)
    (h3 : b.plain = a.plain) (p : Comps) : existsWs b p = existsWs a p := by
  unfold existsWs
  rw [h2, h3]
  have hb : (b.fs.any fun e => wsUnder p e.1) = ((locs b.fs).any fun l => wsUnder p l) := by
    simp [locs, List.any_map, Function.comp_def]
  have ha : (a.fs.any fun e => wsUnder p e.1) = ((locs a.fs).any fun l => wsUnder p l) := by
    simp [locs, List.any_map, Function.comp_def]
  rw [hb, ha, h1]

/-- a directory at or below `p` makes `os.path.exists(workspace/p)` true -/
theorem existsWs_of_mem {st : St σ κ} {p q : Comps} {k : κ} (hm : (Loc.ws q, k) ∈ st.fs)
    (hw : st.wsMissing = false) (hp : isPrefix p q = true) : existsWs st p = true := by
  unfold existsWs
  rw [hw, List.any_eq_true.mpr ⟨(Loc.ws q, k), hm, hp⟩, Bool.or_true, Bool.true_or]
  rfl

theorem findNew_mem {new : List (NewEntry σ)} {d : String} {n : NewEntry σ} (h : findNew new d = some n) :
    n ∈ new ∧ n.dir = d := by
  unfold findNew at h
  exact ⟨List.mem_of_find?_eq_some h, by simpa using List.find?_some h⟩

theorem mem_trackerAdd {tr : List (Comps × Nat)} {p q : Comps} {n m : Nat} (h : (q, m) ∈ trackerAdd tr p n) :
    (q, m) ∈ tr ∨ q = p := by
  unfold trackerAdd at h
  split at h
  · rw [List.mem_map] at h
    obtain ⟨x, hx, he⟩ := h
    split at he
    · right; simp only [Prod.mk.injEq] at he; exact he.1.symm
    · left; rw [← he]; exact hx
  · rcases List.mem_append.mp h with h1 | h1
    · exact Or.inl h1
    · right; simp only [List.mem_singleton, Prod.mk.injEq] at h1; exact h1.1

theorem trackerMatch_some {tr : List (Comps × Nat)} {p q : Comps} {n : Nat} (h : trackerMatch tr p = some (q, n)) :
    (q, n) ∈ tr ∧ isPrefix q p = true := by
  unfold trackerMatch at h
  exact ⟨List.mem_of_find?_eq_some h, by simpa using List.find?_some h⟩

theorem unchanged_some {new : List (NewEntry σ)} {e : OldEntry σ} (h : unchanged new e = true) :
    ∃ n, findNew new e.dir = some n ∧ e.digest = some n.digest := by
  unfold unchanged at h
  cases hd : e.digest with
  | none => simp [hd] at h
  | some d =>
    cases hn : findNew new e.dir with
    | none => simp [hd, hn] at h
    | some n =>
      simp only [hd, hn, beq_iff_eq] at h
      exact ⟨n, rfl, by rw [h]⟩

/-- `a` has the directories of `st`, with the same contents except possibly at `p`, and differs otherwise
only in the log and the recorded state -/
structure SameOff (p : Comps) (st a : St σ κ) : Prop where
  locs : locs a.fs = locs st.fs
  off : ∀ {l k}, (l, k) ∈ a.fs → l ≠ .ws p → (l, k) ∈ st.fs
  ws : a.wsMissing = st.wsMissing
  plain : a.plain = st.plain
  next : a.nextAttic = st.nextAttic

theorem trySwitch_sameOff (sem : ScmSem σ κ) (new : List (NewEntry σ)) (e : OldEntry σ) (p : Comps) (st : St σ κ) :
    SameOff p st (trySwitch sem new e p st).1 := by
  rcases trySwitch_cases sem new e p st with h | h | ⟨_, _, _, _, _, hk, h⟩ <;> rw [h]
  · exact ⟨rfl, fun hm _ => hm, rfl, rfl, rfl⟩
  · exact ⟨rfl, fun hm _ => hm, rfl, rfl, rfl⟩
  · exact ⟨locs_setContent_of_some hk _, fun hm hne => (mem_setContent_inv hm).resolve_right fun h' => hne h'.1,
      rfl, rfl, rfl⟩

theorem trySwitch_absent {e : OldEntry σ} {p : Comps} {st : St σ κ} (h : existsWs st p = false) :
    trySwitch sem new e p st = (st, false) := by
  unfold trySwitch
  cases findNew new e.dir with
  | none => rfl
  | some n =>
    cases e.spec with
    | none => rfl
    | some os =>
      dsimp only
      rw [h, Bool.and_false, if_neg Bool.false_ne_true]

/-- An outcome carries the tests and equations that `Iter.steps` and `Iter.inv` use and no more: `moved` has no
test, `vis` in `nested` is free, no outcome records `st'.old`.  In `moved`, `a` is the state after the
invalidation and the (failed or impossible) switch attempt. -/
inductive Iter (sem : ScmSem σ κ) (new : List (NewEntry σ)) (e : OldEntry σ) (st : St σ κ) (tr : List (Comps × Nat)) :
    St σ κ → List (Comps × Nat) → Prop
  | nested {q : Comps} {n : Nat} (vis : Bool) : trackerMatch tr (normComps e.dir) = some (q, n) →
      Iter sem new e st tr (dropOld e.dir (if vis then emit (.regAttic n ((normComps e.dir).drop q.length) e.spec)
        { st with atticReg := setReg st.atticReg (n, (normComps e.dir).drop q.length) e.spec } else st)) tr
  | keep : unchanged new e = true → Iter sem new e st tr st tr
  | switched {n : NewEntry σ} {os : σ} {k : κ} {st' : St σ κ} : findNew new e.dir = some n → e.spec = some os →
      contentAt st.fs (.ws (normComps e.dir)) = some k → (sem.switch os n.spec k).2 = true →
      Steps sem new st st' → st'.fs = setContent st.fs (.ws (normComps e.dir)) (sem.switch os n.spec k).1 →
      st'.wsMissing = st.wsMissing → Iter sem new e st tr st' tr
  | moved {a : St σ κ} : Steps sem new st a → SameOff (normComps e.dir) st a →
      Iter sem new e st tr (dropOld e.dir (moveAway e (normComps e.dir) a)) (trackerAdd tr (normComps e.dir) a.nextAttic)
  | gone : existsWs st (normComps e.dir) = false → Iter sem new e st tr (dropOld e.dir (invalidate e st)) tr

theorem SameOff.trans {p : Comps} {a b c : St σ κ} (h1 : SameOff p a b) (h2 : SameOff p b c) : SameOff p a c :=
  ⟨h2.locs.trans h1.locs, fun hm hne => h1.off (h2.off hm hne) hne, h2.ws.trans h1.ws, h2.plain.trans h1.plain,
    h2.next.trans h1.next⟩

theorem loopStep_iter {ae : Bool} {st st' : St σ κ} {tr tr' : List (Comps × Nat)} {e : OldEntry σ}
    (h : loopStep sem ae new st tr e = .ok (st', tr')) : Iter sem new e st tr st' tr' := by
  unfold loopStep at h
  dsimp only at h
  split at h
  · cases h; exact .nested _ ‹_›
  · split at h
    · cases h; exact .keep ‹_›
    · obtain ⟨i1, i2, i3, i4⟩ := fs_invalidate e st
      have hi : SameOff (normComps e.dir) st (invalidate e st) := ⟨congrArg locs i1, fun hm _ => i1 ▸ hm, i2, i4, i3⟩
      have ha := hi.trans (trySwitch_sameOff sem new e (normComps e.dir) (invalidate e st))
      unfold changedStep at h
      dsimp only at h
      rw [existsWs_congr ha.locs ha.ws ha.plain] at h
      by_cases hok : (trySwitch sem new e (normComps e.dir) (invalidate e st)).2 = true
      · rw [if_pos hok] at h
        rcases trySwitch_cases sem new e (normComps e.dir) (invalidate e st) with hsw | hsw | ⟨n, os, k, hn, hs, hk, hsw⟩ <;>
          rw [hsw] at hok h
        · cases hok
        · cases hok
        · rw [hn] at h
          cases h
          exact .switched hn hs (i1 ▸ hk) hok
            ((steps_invalidate e st).trans (.trans (.switch _ _ _ _ _ hk) (.trans .book (steps_persist _))))
            (congrArg (setContent · _ _) i1) i2
      · rw [if_neg hok] at h
        by_cases hex : existsWs st (normComps e.dir) = true
        · rw [if_pos hex] at h
          cases ae <;> cases h
          exact .moved ((steps_invalidate e st).trans (steps_trySwitch e _ _)) ha
        · rw [if_neg hex] at h
          cases h
          rw [trySwitch_absent ((existsWs_congr hi.locs hi.ws hi.plain _).trans (Bool.eq_false_iff.mpr hex))]
          exact .gone (Bool.eq_false_iff.mpr hex)

theorem Iter.steps {st st' : St σ κ} {tr tr' : List (Comps × Nat)} {e : OldEntry σ}
    (h : Iter sem new e st tr st' tr') : Steps sem new st st' := by
  cases h with
  | nested vis _ =>
    cases vis
    · exact steps_dropOld _ _
    · exact .trans .book (.trans (.log (.regAttic _ _ _) _ trivial) (steps_dropOld _ _))
  | keep _ => exact .refl st
  | switched _ _ _ _ hs _ _ => exact hs
  | moved hs _ => exact hs.trans ((steps_moveAway e _ _).trans (steps_dropOld _ _))
  | gone _ => exact (steps_invalidate e st).trans (steps_dropOld _ _)

theorem steps_loopAll (ae : Bool) (es : List (OldEntry σ)) (st : St σ κ) (tr : List (Comps × Nat)) :
    Steps sem new st (loopAll sem ae new es st tr).1 := by
  induction es generalizing st tr with
  | nil => exact .refl st
  | cons e rest ih =>
    unfold loopAll
    cases h : loopStep sem ae new st tr e with
    | error x => exact (steps_invalidate e st).trans (steps_trySwitch e _ _)
    | ok v => exact (loopStep_iter h).steps.trans (ih v.1 v.2)

theorem steps_runScm (n : NewEntry σ) (hn : n ∈ new) (st : St σ κ) : Steps sem new st (runScm sem n st).1 := by
  unfold runScm
  dsimp only
  split
  · exact .trans .book (.trans (.prune n _ hn (by assumption)) (.invoke _ _ _))
  · exact .trans .book (.invoke _ _ _)

theorem steps_runScms (ns : List (NewEntry σ)) (hsub : ∀ n, n ∈ ns → n ∈ new) (st : St σ κ) :
    Steps sem new st (runScms sem ns st).1 := by
  induction ns generalizing st with
  | nil => exact .refl st
  | cons n rest ih =>
    unfold runScms
    have h1 := steps_runScm (sem := sem) n (hsub n List.mem_cons_self) st
    cases h : runScm sem n st with
    | mk st' ok =>
      rw [h] at h1
      cases ok with
      | true => exact h1.trans (ih (fun m hm => hsub m (List.mem_cons_of_mem _ hm)) st')
      | false => exact h1

theorem markComplete_fields (r : St σ κ × Option Err) :
    (markComplete r).1.fs = r.1.fs ∧ (markComplete r).1.ops = r.1.ops ∧ (markComplete r).1.nextAttic = r.1.nextAttic ∧
    (markComplete r).1.old = r.1.old ∧ (markComplete r).1.wsMissing = r.1.wsMissing ∧ (markComplete r).2 = r.2 := by
  unfold markComplete
  cases r.2 <;> simp

/-- the state a run starts the loop with (after `_constructDir` and `--clean-checkout`) -/
def prepared (sem : ScmSem σ κ) (fl : Flags) (new : List (NewEntry σ)) (st0 : St σ κ) : St σ κ :=
  let sta := if st0.wsMissing then { st0 with wsMissing := false, old := [], plain := [], complete := false } else st0
  if fl.cleanCheckout then cleanInvalidate sem new sta else sta

theorem prepared_same (sem : ScmSem σ κ) (fl : Flags) (new : List (NewEntry σ)) (st0 : St σ κ) :
    (prepared sem fl new st0).ops = st0.ops ∧ (prepared sem fl new st0).fs = st0.fs ∧
    (prepared sem fl new st0).nextAttic = st0.nextAttic := by
  unfold prepared
  split <;> split <;> exact ⟨rfl, rfl, rfl⟩

theorem cook_eq (sem : ScmSem σ κ) (fl : Flags) (indet : Bool) (new : List (NewEntry σ)) (st0 : St σ κ) :
    cook sem fl indet new st0 =
      (if (prepared sem fl new st0).complete && (!st0.wsMissing && !indet && sameDirs (prepared sem fl new st0).old new)
       then (prepared sem fl new st0, none)
       else match loopAll sem fl.atticEnabled new (sortedOld (prepared sem fl new st0).old) (prepared sem fl new st0) [] with
        | (st1, some x) => (st1, some x)
        | (st1, none) =>
          match collision new st1 with
          | some d => (st1, some (.collides d))
          | none => markComplete (runScms sem new (emit (.setDirState (new.map (·.dir)))
              { st1 with old := new.map asOld, complete := false }))) := rfl

theorem steps_cook (sem : ScmSem σ κ) (fl : Flags) (indet : Bool) (new : List (NewEntry σ)) (st0 : St σ κ) :
    Steps sem new st0 (cook sem fl indet new st0).1 := by
  rw [cook_eq]
  obtain ⟨p1, p2, p3⟩ := prepared_same sem fl new st0
  have hp : Steps sem new st0 (prepared sem fl new st0) := .book p1 p2 p3
  split
  · exact hp
  · have hl := steps_loopAll (sem := sem) (new := new) fl.atticEnabled
      (sortedOld (prepared sem fl new st0).old) (prepared sem fl new st0) []
    cases h : loopAll sem fl.atticEnabled new (sortedOld (prepared sem fl new st0).old) (prepared sem fl new st0) [] with
    | mk st1 err =>
      rw [h] at hl
      cases err with
      | some x => exact hp.trans hl
      | none =>
        dsimp only
        split
        · exact hp.trans hl
        · exact (hp.trans hl).trans <| .trans .book <| .trans (.log (.setDirState _) _ trivial) <|
            .trans (steps_runScms new (fun _ h => h) _)
              (.book (markComplete_fields _).2.1 (markComplete_fields _).1 (markComplete_fields _).2.2.1)

theorem Steps.ext {a b : St σ κ} (h : Steps sem new a b) : Ext sem new a b := by
  induction h with
  | refl a => exact .refl sem new a
  | trans _ _ ih1 ih2 => exact ih1.trans ih2
  | book h1 h2 h3 =>
    exact ⟨Nat.le_of_eq h3.symm, fun hb n p k hm => h3 ▸ hb n p k (h2 ▸ hm), [], h1, congrArg locs h2, fun _ h => nomatch h⟩
  | log op st hs =>
    cases op with
    | scmSwitch | regAttic | setDirState => exact ext_op _ rfl rfl (Nat.le_refl _) id trivial
    | _ => cases hs
  | switch o n p k st hk =>
    refine ext_op _ rfl ?_ (Nat.le_refl _) (atticBelow_emitSet _ _ _ _) trivial
    exact locs_setContent_of_some hk _
  | move p st =>
    exact ext_op (.moveToAttic p st.nextAttic) rfl (locs_applyOp st.fs (.moveToAttic p st.nextAttic) (fun _ _ _ h => nomatch h)) (Nat.le_succ _) (atticBelow_move p st)
      ⟨Nat.le_refl _, Nat.lt_succ_self _⟩
  | prune n st hn hp =>
    exact ext_op (.emptyDir (normComps n.dir)) rfl (locs_applyOp st.fs (.emptyDir (normComps n.dir)) (fun _ _ _ h => nomatch h)) (Nat.le_refl _)
      (fun hb m q k hm => hb m q k (List.mem_filter.mp hm).1) ⟨n, hn, hp, rfl⟩
  | invoke s p st =>
    exact ext_op _ rfl (locs_setContent _ _ _) (Nat.le_refl _) (atticBelow_emitSet _ _ _ _) trivial

theorem fs_emit_plain (op : Op σ) (st : St σ κ)
    (h : (∀ p n, op ≠ .moveToAttic p n) ∧ (∀ p, op ≠ .emptyDir p) ∧ (∀ n s, op ≠ .rmAttic n s) ∧ op ≠ .rmWorkspace) :
    (emit op st).fs = st.fs := by
  cases op with
  | moveToAttic p n => exact absurd rfl (h.1 p n)
  | emptyDir p => exact absurd rfl (h.2.1 p)
  | rmAttic n s => exact absurd rfl (h.2.2.1 n s)
  | rmWorkspace => exact absurd rfl h.2.2.2
  | scmSwitch p ok => rfl
  | regAttic n sub s => rfl
  | setDirState d => rfl
  | invoke p f ok => rfl

theorem fs_persist (st : St σ κ) : (persist st).fs = st.fs := rfl
theorem fs_dropOld (d : String) (st : St σ κ) : (dropOld d st).fs = st.fs := rfl

/-- the work item `i` is found in some SCM directory -/
def Present (work : κ → ι → Prop) (fs : List (Loc × κ)) (i : ι) : Prop :=
  ∃ l k, (l, k) ∈ fs ∧ work k i

/-- what the builder needs from the SCMs: runs keep the work items of a content -/
structure SemKeeps (sem : ScmSem σ κ) (work : κ → ι → Prop) : Prop where
  switch_keeps : ∀ o n k i, work k i → work (sem.switch o n k).1 i
  invoke_keeps : ∀ s k i, work k i → work (sem.invoke s (some k)).1 i

def PresentInPlace (work : κ → ι → Prop) (fs0 fs : List (Loc × κ)) (i : ι) : Prop :=
  ∃ l k, (l, k) ∈ fs ∧ work k i ∧ ∀ p, l = .ws p → ∃ k0, (Loc.ws p, k0) ∈ fs0 ∧ work k0 i

/-- the only way a checkout run loses `i`: it lay strictly below the directory of an import SCM
with `prune` (the recipe parser rejects git SCMs with a Jenkins plugin there) -/
def PrunedBelow (sem : ScmSem σ κ) (work : κ → ι → Prop) (new : List (NewEntry σ)) (fs0 : List (Loc × κ)) (i : ι) : Prop :=
  ∃ n, n ∈ new ∧ sem.prunes n.spec = true ∧
    ∃ p k0, (Loc.ws p, k0) ∈ fs0 ∧ work k0 i ∧ isPrefix (normComps n.dir) p = true ∧ p ≠ normComps n.dir

/-- the invariant of a run started with directories `fs0`.  The directory that witnesses `i`, if it is
in the workspace, held `i` at the same path in `fs0` already (nothing is ever moved into the
workspace), so what pruning removes can be described in terms of `fs0`. -/
def KeptOrPruned (sem : ScmSem σ κ) (work : κ → ι → Prop) (new : List (NewEntry σ)) (fs0 : List (Loc × κ)) (i : ι)
    (fs : List (Loc × κ)) : Prop :=
  PresentInPlace work fs0 fs i ∨ PrunedBelow sem work new fs0 i

variable {work : κ → ι → Prop} {fs0 : List (Loc × κ)} {i : ι}

theorem keptOrPruned_setContent (fs : List (Loc × κ)) (p : Comps) (k' : κ)
    (hk : ∀ k, contentAt fs (.ws p) = some k → work k i → work k' i)
    (h : KeptOrPruned sem work new fs0 i fs) : KeptOrPruned sem work new fs0 i (setContent fs (.ws p) k') := by
  rcases h with ⟨l, k, hm, hw, ho⟩ | h
  · left
    rcases mem_setContent (l' := .ws p) (k' := k') hm with h1 | ⟨h1, h2⟩
    · exact ⟨l, k, h1, hw, ho⟩
    · exact ⟨.ws p, k', setContent_mem _ _ _, hk k h2 hw, fun q hq => ho q (h1.trans hq)⟩
  · exact Or.inr h

theorem keptOrPruned_move (fs : List (Loc × κ)) (p : Comps) (n : Nat) (h : KeptOrPruned sem work new fs0 i fs) :
    KeptOrPruned sem work new fs0 i (fs.map (fun e => (moveLoc p n e.1, e.2))) := by
  rcases h with ⟨l, k, hm, hw, ho⟩ | h
  · left
    exact ⟨moveLoc p n l, k, List.mem_map.mpr ⟨(l, k), hm, rfl⟩, hw, fun q hq => ho q (moveLoc_eq_ws hq).1⟩
  · exact Or.inr h

theorem keptOrPruned_emptyDir (fs : List (Loc × κ)) (n : NewEntry σ) (hn : n ∈ new) (hp : sem.prunes n.spec = true)
    (h : KeptOrPruned sem work new fs0 i fs) :
    KeptOrPruned sem work new fs0 i (fs.filter (fun e => !(e.1.under (.ws (normComps n.dir)) && e.1 != .ws (normComps n.dir)))) := by
  rcases h with ⟨l, k, hm, hw, ho⟩ | h
  · by_cases hf : (l.under (.ws (normComps n.dir)) && l != .ws (normComps n.dir)) = true
    · right
      simp only [Bool.and_eq_true, bne_iff_ne, ne_eq] at hf
      cases l with
      | attic m r => cases hf.1
      | ws r =>
        obtain ⟨k0, hk0, hw0⟩ := ho r rfl
        exact ⟨n, hn, hp, r, k0, hk0, hw0, hf.1, fun he => hf.2 (by rw [he])⟩
    · left
      exact ⟨l, k, List.mem_filter.mpr ⟨hm, by rw [Bool.not_eq_true']; exact Bool.eq_false_iff.mpr hf⟩, hw, ho⟩
  · exact Or.inr h

theorem Steps.keeps (hs : SemKeeps sem work) {a b : St σ κ} (h : Steps sem new a b)
    (hj : KeptOrPruned sem work new fs0 i a.fs) : KeptOrPruned sem work new fs0 i b.fs := by
  induction h with
  | refl a => exact hj
  | trans _ _ ih1 ih2 => exact ih2 (ih1 hj)
  | book _ h2 _ => rw [h2]; exact hj
  | log op st hsil =>
    cases op with
    | scmSwitch | regAttic | setDirState => exact hj
    | _ => cases hsil
  | switch o n p k st hk =>
    refine keptOrPruned_setContent st.fs p _ (fun k1 hk1 hw => ?_) hj
    cases hk.symm.trans hk1
    exact hs.switch_keeps o n k i hw
  | move p st => exact keptOrPruned_move st.fs p st.nextAttic hj
  | prune n st hn hp => exact keptOrPruned_emptyDir st.fs n hn hp hj
  | invoke s p st =>
    refine keptOrPruned_setContent st.fs p _ (fun k hk hw => ?_) hj
    rw [hk]
    exact hs.invoke_keeps s k i hw

theorem keptOrPruned_init (st0 : St σ κ) (h : Present work st0.fs i) : KeptOrPruned sem work new st0.fs i st0.fs := by
  obtain ⟨l, k, hm, hw⟩ := h
  exact Or.inl ⟨l, k, hm, hw, fun p hp => hp ▸ ⟨k, hm, hw⟩⟩

theorem cook_present (hs : SemKeeps sem work) (fl : Flags) (indet : Bool) (st0 : St σ κ)
    (h : Present work st0.fs i) :
    Present work (cook sem fl indet new st0).1.fs i ∨ PrunedBelow sem work new st0.fs i :=
  ((steps_cook sem fl indet new st0).keeps hs (keptOrPruned_init st0 h)).imp_left fun ⟨l, k, hm, hw, _⟩ => ⟨l, k, hm, hw⟩

end Checkout
