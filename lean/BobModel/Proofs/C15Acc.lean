import BobModel.Proofs.C15Gc
/-
C15, what `no_spurious_failure` and `accounting` need of one segment.  repo.json as an insertion ordered dictionary
(`setPkg`, `erasePkg`); `Cfg.Fixes`: the variants of the code that both properties hold of; `PcFF`: in such a variant
no process has unflushed text or a spurious failure on its way;
`GcWf`: the copy of repo.json a gc holds has unique keys and its plan consists of distinct entries of it; the window
between publishing a package and recording it (`Pc.inWindow`); what `use` may do to a package directory (`FinalQuiet`).
-/
namespace Share

def keys (l : List (Bid × Nat)) : List Bid := l.map (·.1)

theorem mem_keys_of_mem {l : List (Bid × Nat)} {b sz : Nat} (h : (b, sz) ∈ l) : b ∈ keys l :=
  List.mem_map.mpr ⟨(b, sz), h, rfl⟩

theorem exists_of_mem_keys {l : List (Bid × Nat)} {b : Nat} (h : b ∈ keys l) : ∃ sz, (b, sz) ∈ l := by
  obtain ⟨⟨k, v⟩, hm, rfl⟩ := List.mem_map.mp h
  exact ⟨v, hm⟩

theorem keys_setPkg_mem (l : List (Bid × Nat)) (b : Bid) (sz : Nat) (k : Bid) :
    k ∈ keys (setPkg l b sz) ↔ k = b ∨ k ∈ keys l := by
  induction l with
  | nil => simp [setPkg, keys]
  | cons x rest ih =>
    obtain ⟨k0, v0⟩ := x
    unfold setPkg
    split
    · rename_i h; subst h; simp [keys]
    · simp only [keys, List.map_cons, List.mem_cons] at ih ⊢
      rw [ih]
      exact or_left_comm

theorem nodup_setPkg (l : List (Bid × Nat)) (b : Bid) (sz : Nat) (h : (keys l).Nodup) : (keys (setPkg l b sz)).Nodup := by
  induction l with
  | nil => simp [setPkg, keys]
  | cons x rest ih =>
    obtain ⟨k0, v0⟩ := x
    have hh : k0 ∉ keys rest ∧ (keys rest).Nodup := List.nodup_cons.mp h
    unfold setPkg
    split
    · simpa [keys] using h
    · rename_i hne
      have := ih hh.2
      simp only [keys, List.map_cons] at this ⊢
      refine List.nodup_cons.mpr ⟨?_, this⟩
      intro hm
      have := (keys_setPkg_mem rest b sz k0).mp (by simpa [keys] using hm)
      rcases this with h1 | h1
      · exact hne h1
      · exact hh.1 (by simpa [keys] using h1)

theorem mem_setPkg (l : List (Bid × Nat)) (b : Bid) (sz : Nat) (h : (keys l).Nodup) (k v : Nat) :
    (k, v) ∈ setPkg l b sz ↔ (k = b ∧ v = sz) ∨ (k ≠ b ∧ (k, v) ∈ l) := by
  induction l with
  | nil => simp [setPkg]
  | cons x rest ih =>
    obtain ⟨k0, v0⟩ := x
    have hh : k0 ∉ keys rest ∧ (keys rest).Nodup := List.nodup_cons.mp h
    have hk : ∀ v, (k0, v) ∉ rest := fun v hm => hh.1 (List.mem_map.mpr ⟨(k0, v), hm, rfl⟩)
    unfold setPkg
    split
    · simp only [List.mem_cons, Prod.mk.injEq]
      grind
    · simp only [List.mem_cons, Prod.mk.injEq, ih hh.2]
      grind

theorem mem_erasePkg (l : List (Bid × Nat)) (b : Bid) (h : (keys l).Nodup) (k v : Nat) :
    (k, v) ∈ erasePkg l b ↔ k ≠ b ∧ (k, v) ∈ l := by
  induction l with
  | nil => simp [erasePkg]
  | cons x rest ih =>
    obtain ⟨k0, v0⟩ := x
    have hh : k0 ∉ keys rest ∧ (keys rest).Nodup := List.nodup_cons.mp h
    have hk : ∀ v, (k0, v) ∉ rest := fun v hm => hh.1 (List.mem_map.mpr ⟨(k0, v), hm, rfl⟩)
    unfold erasePkg
    split
    · simp only [List.mem_cons, Prod.mk.injEq]
      grind
    · simp only [List.mem_cons, Prod.mk.injEq, ih hh.2]
      grind

theorem keys_erasePkg_sub (l : List (Bid × Nat)) (b : Bid) : (keys (erasePkg l b)).Sublist (keys l) := by
  induction l with
  | nil => simp [erasePkg, keys]
  | cons x rest ih =>
    obtain ⟨k0, v0⟩ := x
    unfold erasePkg
    split
    · simp [keys]
    · simp only [keys, List.map_cons]; exact List.Sublist.cons_cons _ ih

theorem nodup_erasePkg (l : List (Bid × Nat)) (b : Bid) (h : (keys l).Nodup) : (keys (erasePkg l b)).Nodup :=
  List.Nodup.sublist (keys_erasePkg_sub l b) h

theorem mem_keys_erasePkg (l : List (Bid × Nat)) (b k : Bid) (h : (keys l).Nodup) :
    k ∈ keys (erasePkg l b) ↔ k ≠ b ∧ k ∈ keys l := by
  constructor
  · intro hk
    obtain ⟨⟨k', v⟩, hm, rfl⟩ := List.mem_map.mp hk
    have := (mem_erasePkg l b h k' v).mp hm
    exact ⟨this.1, List.mem_map.mpr ⟨(k', v), this.2, rfl⟩⟩
  · rintro ⟨hne, hk⟩
    obtain ⟨⟨k', v⟩, hm, rfl⟩ := List.mem_map.mp hk
    exact List.mem_map.mpr ⟨(k', v), (mem_erasePkg l b h k' v).mpr ⟨hne, hm⟩, rfl⟩

/-- gc subtracts exactly what it moved -/
theorem sumSizes_erasePkg (l : List (Bid × Nat)) (b : Bid) (sz : Nat) (h : (keys l).Nodup) (hm : (b, sz) ∈ l) :
    sumSizes (erasePkg l b) + sz = sumSizes l := by
  induction l with
  | nil => cases hm
  | cons x rest ih =>
    obtain ⟨k0, v0⟩ := x
    have hh : k0 ∉ keys rest ∧ (keys rest).Nodup := List.nodup_cons.mp h
    unfold erasePkg
    split
    · rename_i he; subst he
      rcases List.mem_cons.mp hm with e | hm'
      · cases e; simp [sumSizes]; omega
      · exact absurd (List.mem_map.mpr ⟨(k0, sz), hm', rfl⟩) hh.1
    · rename_i hne
      rcases List.mem_cons.mp hm with e | hm'
      · cases e; exact absurd rfl hne
      · have := ih hh.2 hm'
        simp only [sumSizes, List.map_cons, List.sum_cons] at this ⊢
        omega

/-- `__addPackage` of a new Build-Id adds exactly its size -/
theorem sumSizes_setPkg_new (l : List (Bid × Nat)) (b : Bid) (sz : Nat) (h : b ∉ keys l) :
    sumSizes (setPkg l b sz) = sumSizes l + sz := by
  induction l with
  | nil => simp [setPkg, sumSizes]
  | cons x rest ih =>
    obtain ⟨k0, v0⟩ := x
    unfold setPkg
    split
    · rename_i he; subst he; simp [keys] at h
    · have := ih (by intro hm; apply h; simp only [keys, List.map_cons, List.mem_cons]; exact Or.inr hm)
      simp only [sumSizes, List.map_cons, List.sum_cons] at this ⊢
      omega

/-- failures that are caused by another project working on the store or by a store that is still empty -/
def Err.spurious : Err → Bool
  | .fileNotFound | .jsonDecode | .corruptMeta | .renameENOENT => true
  | _ => false

def Res.okRes (r : Res) : Prop := ∀ e, r = .err e → e.spurious = false

/-- The fixes that `no_spurious_failure` and `accounting` rest on: flush before unlock, gc on a store without repo.json,
an empty repo.json is an empty repository.  The fourth, `lostRace` (what the builder does after a lost install race),
plays no part in either property. -/
def Cfg.Fixes (cfg : Cfg) : Prop := cfg.ff = true ∧ cfg.gcMissingOk = true ∧ cfg.emptyOk = true

/-- fixed code: nothing is pending after an unlock, the "x" creation path is not taken, no spurious error is on
its way -/
def PcFF : Pc → Prop
  | .uClosePkg pend r => pend = none ∧ r.okRes
  | .iAddClose pend _ failed => pend = none ∧ failed = false
  | .gClose pend r => pend = none ∧ r.okRes
  | .iAddCreate | .iAddCreateLock => False
  | .done r => r.okRes
  | _ => True

theorem pcFF_of_exit {pc : Pc} (he : pc.isExit = true) (hd : ∀ r, pc = .done r → r.okRes) : PcFF pc := by
  cases pc
  case done r => exact hd r rfl
  case bUnlink | bSymlink | uOpen => trivial
  all_goals cases he

theorem PcFF.held {pc : Pc} {r : Res} (h : PcFF pc) (hr : pc.res = some r) : r.okRes := by
  cases pc
  case done => cases hr; exact h
  case uClosePkg | gClose => cases hr; exact h.2
  all_goals cases hr

/-- the result of an operation of the fixed code is no spurious failure, provided a gc that has found repo.json
still finds it -/
theorem Ends.okRes {prog : Prog} {g : Store} {pc : Pc} {r : Res} (he : Ends prog g pc r) (h : PcFF pc)
    (hna : pc = .gOpen → g.repo ≠ .absent) : r.okRes := by
  cases he
  case held hr => exact h.held hr
  case quiet hq => exact fun e he => absurd he (hq e)
  case refused hr =>
    intro e he
    cases he
    rcases hr with rfl | rfl | rfl | rfl <;> rfl
  case undecodable => cases h.2
  case missing ha => exact absurd ha (hna rfl)
  case lostStart | lostRename | added | cleaned => exact nofun

theorem okRes_gcRes (te : Bool) (t : Nat) : Res.okRes (if te = true then .err .typeError else .gcSize t) := by
  cases te <;> intro e he <;> cases he <;> rfl

theorem pcFF_gcPlan (prog : Prog) (g : Store) (rm : List (Bid × Nat)) (c : List Cand) (t : Nat) :
    PcFF (gcPlan prog g rm c t).2 := by
  unfold gcPlan
  simp only
  split
  · exact ⟨rfl, okRes_gcRes _ _⟩
  · trivial

theorem pcFF_gcNext (prog : Prog) (g : Store) (rm todo : List (Bid × Nat)) (c : List Cand) (t : Nat) :
    PcFF (gcNext prog g rm todo c t).2 := by
  unfold gcNext
  split
  · exact pcFF_gcPlan ..
  · trivial

theorem stepPc_pcFF (H : Nat → Nat) {cfg : Cfg} (hc : cfg.Fixes) (prog : Prog) (exO shO : Bool) (g : Store) (pc : Pc)
    (h : PcFF pc) (hna : pc = .gOpen → g.repo ≠ .absent)
    (hlock : exO = false → shO = false → (pc = .iAddLock ∨ pc = .gLock) → ∃ l, readRepo cfg g.repo = some l)
    (hinfo : ∀ b d, g.final b = some d → ∃ m, d.info = some (.valid m))
    (hscan : ∀ rm k sz rest cands total, pc = .gScanLock rm k sz rest cands total → g.final k ≠ none)
    (hmv : ∀ rm c rest t d te, pc = .gMove rm (c :: rest) t d te → g.final c.bid ≠ none) :
    PcFF (stepPc H cfg prog exO shO g pc).2 := by
  rcases stepPc_gc_cases H cfg prog exO shO g pc with ⟨hg, hs⟩ | ⟨hng, -⟩
  · generalize (stepPc H cfg prog exO shO g pc).2 = pc' at hs ⊢
    generalize (stepPc H cfg prog exO shO g pc).1 = g' at hs
    cases hs
    case planned => exact pcFF_gcPlan ..
    case locked | skipped | passed | judged => exact pcFF_gcNext ..
    case found | moved => trivial
    -- whoever gets the lock can read repo.json
    case unreadable hr =>
      rcases hg with hg | ⟨_, hfree⟩
      · cases hg
      · have hx : exO = false ∧ shO = false := by simpa using hfree
        obtain ⟨l, hl⟩ := hlock hx.1 hx.2 (.inr rfl)
        rw [hl] at hr; cases hr
    -- the scan finds every recorded package with a valid pkg.json, the move finds it in place
    case undecided he =>
      refine ⟨rfl, fun e' he' => ?_⟩
      cases he'
      rw [checkUnused_error g _ _ _ he]; rfl
    case corrupt k _ _ _ _ hne =>
      cases hf : g.final k with
      | none => exact absurd hf (hscan _ _ _ _ _ _ rfl)
      | some d =>
        obtain ⟨m, hm⟩ := hinfo _ _ hf
        obtain ⟨a, w, info, t⟩ := d
        cases hm
        exact absurd hf (hne a w m t)
    case vanished hf _ _ => exact absurd hf (hmv _ _ _ _ _ _ rfl)
    case finished hp => exact ⟨(hp hc.1).1, okRes_gcRes _ _⟩
    case movedLast hp => exact ⟨(hp hc.1).1, okRes_gcRes _ _⟩
  have hf := stepPc_flow H cfg prog exO shO g pc
  generalize hpc' : (stepPc H cfg prog exO shO g pc).2 = pc' at hf
  generalize (stepPc H cfg prog exO shO g pc).1 = g' at hf
  cases hf
  case stay => exact h
  case exit he hr => exact pcFF_of_exit he fun r e => (hr r e).okRes h hna
  case addCreate he => rw [hc.2.2] at he; cases he
  case created | createAdded => cases h
  -- `use` finds a valid pkg.json and flushes its own before it unlocks
  case useClose =>
    rw [← hpc']; unfold stepPc; simp only
    cases hf : g.final (opBid prog) with
    | none => exact ⟨rfl, nofun⟩
    | some d =>
      obtain ⟨m, hm⟩ := hinfo _ _ hf
      simp only [hm, hc.1]
      split <;> exact ⟨rfl, nofun⟩
  -- whoever gets the lock can read repo.json
  case added hfree =>
    have hx : exO = false ∧ shO = false := by simpa using hfree
    obtain ⟨l, hl⟩ := hlock hx.1 hx.2 (.inl rfl)
    rw [← hpc']; unfold stepPc; simp only [if_neg hfree, hl, hc.1]
    exact ⟨rfl, rfl⟩
  case gcLocked hfree _ => exact absurd (.inr ⟨rfl, hfree⟩) hng
  case gcGoes hex _ => exact absurd (.inl hex) hng
  all_goals trivial

/-- structural facts about what a gc carries: the in-memory copy of repo.json has unique keys, the candidates /
the plan are distinct entries of it, the entries still to scan are distinct and not yet candidates -/
def GcWf : Pc → Prop
  | .gScanOpen rm todo cands _ =>
      (keys rm).Nodup ∧ (cands.map (·.bid) ++ keys todo).Nodup ∧ (∀ x ∈ todo, x ∈ rm) ∧ ∀ c ∈ cands, c.bid ∈ keys rm
  | .gScanLock rm k sz rest cands _ =>
      (keys rm).Nodup ∧ (cands.map (·.bid) ++ k :: keys rest).Nodup ∧ (k, sz) ∈ rm ∧ (∀ x ∈ rest, x ∈ rm) ∧
        ∀ c ∈ cands, c.bid ∈ keys rm
  | .gMove rm plan _ _ _ => (keys rm).Nodup ∧ (plan.map (·.bid)).Nodup ∧ ∀ c ∈ plan, c.bid ∈ keys rm
  | _ => True

theorem gcWf_of_notEX {pc : Pc} (h : pc.holdsEX = false) : GcWf pc := by
  cases pc
  case gScanOpen | gScanLock | gMove => cases h
  all_goals trivial

theorem gcSelect_nodup (quota : Option Nat) (pun : Bool) (cands : List Cand) (total : Nat)
    (h : (cands.map (·.bid)).Nodup) : ((gcSelect quota pun cands total).1.map (·.bid)).Nodup := by
  unfold gcSelect
  obtain ⟨rest, hr⟩ := gcLoop_prefix quota pun (sortCands cands) total
  have h1 : ((sortCands cands).map (·.bid)).Nodup :=
    (List.Perm.nodup_iff ((sortCands_perm cands).map _)).mpr h
  rw [hr, List.map_append] at h1
  exact (List.nodup_append.mp h1).1

theorem gcWf_gcPlan (prog : Prog) (g : Store) (rm : List (Bid × Nat)) (cands : List Cand) (t : Nat)
    (h1 : (keys rm).Nodup) (h2 : (cands.map (·.bid)).Nodup) (h3 : ∀ c ∈ cands, c.bid ∈ keys rm) :
    GcWf (gcPlan prog g rm cands t).2 := by
  unfold gcPlan
  simp only
  split
  · trivial
  · exact ⟨h1, gcSelect_nodup _ _ _ _ h2, fun c hc => h3 c (gcSelect_sub _ _ _ _ c hc)⟩

theorem gcWf_gcNext (prog : Prog) (g : Store) (rm todo : List (Bid × Nat)) (cands : List Cand) (t : Nat)
    (h1 : (keys rm).Nodup) (h2 : (cands.map (·.bid) ++ keys todo).Nodup) (h3 : ∀ x ∈ todo, x ∈ rm)
    (h4 : ∀ c ∈ cands, c.bid ∈ keys rm) : GcWf (gcNext prog g rm todo cands t).2 := by
  unfold gcNext
  split
  · exact gcWf_gcPlan prog g rm cands t h1 (by simpa [keys] using h2) h4
  · exact ⟨h1, h2, h3, h4⟩

theorem stepPc_gcWf (H : Nat → Nat) (cfg : Cfg) (prog : Prog) (exO shO : Bool) (g : Store) (pc : Pc)
    (h : GcWf pc) (hl : ∀ l, readRepo cfg g.repo = some l → (keys l).Nodup) :
    GcWf (stepPc H cfg prog exO shO g pc).2 := by
  rcases stepPc_gc_cases H cfg prog exO shO g pc with ⟨-, hs⟩ | ⟨-, hn⟩
  · generalize (stepPc H cfg prog exO shO g pc).2 = pc' at hs ⊢
    generalize (stepPc H cfg prog exO shO g pc).1 = g' at hs
    cases hs
    case locked l hr => exact gcWf_gcNext prog g l l [] 0 (hl l hr) (by simpa using hl l hr) (fun x hx => hx) nofun
    case planned =>
      obtain ⟨h1, h2, _, h4⟩ := h
      exact gcWf_gcPlan prog g _ _ _ h1 (by simpa [keys] using h2) h4
    case skipped =>
      obtain ⟨h1, h2, h3, h4⟩ := h
      exact gcWf_gcNext prog g _ _ _ _ h1 (h2.sublist (.append_left (.cons _ (.refl _)) _)) (fun x hx => h3 x (List.mem_cons_of_mem _ hx)) h4
    case found =>
      obtain ⟨h1, h2, h3, h4⟩ := h
      exact ⟨h1, h2, h3 _ List.mem_cons_self, fun x hx => h3 x (List.mem_cons_of_mem _ hx), h4⟩
    case passed =>
      obtain ⟨h1, h2, _, h4, h5⟩ := h
      exact gcWf_gcNext prog g _ _ _ _ h1 (h2.sublist (.append_left (.cons _ (.refl _)) _)) h4 h5
    case judged c hk _ =>
      obtain ⟨h1, h2, h3, h4, h5⟩ := h
      subst hk
      refine gcWf_gcNext prog g _ _ _ _ h1 (by simpa [List.map_append, List.append_assoc] using h2) h4 fun c' hc' => ?_
      rcases List.mem_append.mp hc' with hc' | hc'
      · exact h5 c' hc'
      · cases List.mem_singleton.mp hc'; exact List.mem_map.mpr ⟨_, h3, rfl⟩
    case moved rm c c1 r2 _ _ _ _ _ _ _ =>
      obtain ⟨h1, h2, h3⟩ := h
      have hn := List.nodup_cons.mp (by simpa using h2 : (c.bid :: (c1 :: r2).map (·.bid)).Nodup)
      refine ⟨nodup_erasePkg rm c.bid h1, hn.2, fun c' hc' => ?_⟩
      exact (mem_keys_erasePkg rm c.bid c'.bid h1).mpr
        ⟨fun he => hn.1 (List.mem_map.mpr ⟨c', hc', he⟩), h3 c' (List.mem_cons_of_mem _ hc')⟩
    -- `gClose` carries nothing
    all_goals trivial
  · exact gcWf_of_notEX hn

def Pc.rmeta : Pc → Option (List (Bid × Nat))
  | .gScanOpen rm _ _ _ => some rm
  | .gScanLock rm _ _ _ _ _ => some rm
  | .gMove rm _ _ _ _ => some rm
  | _ => none

def Pc.dirty : Pc → Bool
  | .gMove _ _ _ d _ => d
  | _ => false

/-- published, not yet recorded in repo.json -/
def Pc.inWindow : Pc → Bool
  | .iAddOpen | .iAddTouch | .iAddLock | .iAddCreate | .iAddCreateLock => true
  | _ => false

theorem Pc.rmeta_of_notEX {pc : Pc} (h : pc.holdsEX = false) : pc.rmeta = none := by
  cases pc
  case gScanOpen | gScanLock | gMove => cases h
  all_goals rfl

theorem Pc.holdsEX_of_rmeta {pc : Pc} {rm : List (Bid × Nat)} (h : pc.rmeta = some rm) : pc.holdsEX = true := by
  cases pc
  case gScanOpen | gScanLock | gMove => rfl
  all_goals cases h

theorem Pc.dirty_of_notEX {pc : Pc} (h : pc.holdsEX = false) : pc.dirty = false := by
  cases pc
  case gScanOpen | gScanLock | gMove => cases h
  all_goals rfl

theorem Pc.notWindow_of_exit_or_inGc {pc : Pc} (h : pc.isExit = true ∨ pc.inGc = true) : pc.inWindow = false := by
  cases pc
  case iAddOpen | iAddTouch | iAddLock | iAddCreate | iAddCreateLock => rcases h with h | h <;> cases h
  all_goals rfl

/-- a process enters the window only by publishing -/
theorem stepPc_inWindow_enter (H : Nat → Nat) (cfg : Cfg) (prog : Prog) (exO shO : Bool) (g : Store) (pc : Pc)
    (h : (stepPc H cfg prog exO shO g pc).2.inWindow = true) (hpc : pc.inWindow = false) :
    (∃ tmp, pc = .iRename tmp) ∧ g.final (opBid prog) = none := by
  have hf := stepPc_flow H cfg prog exO shO g pc
  generalize (stepPc H cfg prog exO shO g pc).2 = pc' at hf h
  generalize (stepPc H cfg prog exO shO g pc).1 = g' at hf
  cases hf
  case stay => rw [hpc] at h; cases h
  case exit he _ => rw [Pc.notWindow_of_exit_or_inGc (.inl he)] at h; cases h
  case gcLocked hg => rw [Pc.notWindow_of_exit_or_inGc (.inr hg)] at h; cases h
  case gcGoes hg => rw [Pc.notWindow_of_exit_or_inGc (.inr hg)] at h; cases h
  case published tmp hn => exact ⟨⟨tmp, rfl⟩, hn⟩
  -- the other edges end outside the window or start inside it
  case verify | gcOpen | useLock | useLocked | usePkg | useClose | verified | gcLock => cases h
  case addTouch | addCreate | addLock | touched | added | created | createRetry | createAdded => cases hpc

/-- a process leaves the window only by recording its package -/
theorem stepPc_inWindow_stay (H : Nat → Nat) (cfg : Cfg) (prog : Prog) (exO shO : Bool) (g : Store) (pc : Pc)
    (hpc : pc.inWindow = true) :
    (stepPc H cfg prog exO shO g pc).2.inWindow = true ∨
      ((pc = .iAddLock ∨ pc = .iAddCreateLock) ∧ exO = false ∧ shO = false) := by
  cases pc
  case iAddOpen =>
    left
    unfold stepPc; simp only
    cases hr : g.repo <;> simp only <;> (try split) <;> rfl
  case iAddCreate =>
    left
    unfold stepPc; simp only
    cases hr : g.repo <;> rfl
  case iAddTouch =>
    left
    unfold stepPc; simp only
    cases hr : g.repo <;> rfl
  case iAddLock =>
    cases hex : exO <;> cases hsh : shO
    · right; exact ⟨Or.inl rfl, rfl, rfl⟩
    all_goals (left; unfold stepPc; simp; rfl)
  case iAddCreateLock =>
    cases hex : exO <;> cases hsh : shO
    · right; exact ⟨Or.inr rfl, rfl, rfl⟩
    all_goals (left; unfold stepPc; simp; rfl)
  all_goals simp [Pc.inWindow] at hpc

theorem rmeta_gcPlan (prog : Prog) (g : Store) (rm : List (Bid × Nat)) (c : List Cand) (t : Nat) (rm' : List (Bid × Nat))
    (h : (gcPlan prog g rm c t).2.rmeta = some rm') : rm' = rm ∧ (gcPlan prog g rm c t).2.dirty = false := by
  unfold gcPlan at h ⊢
  simp only at h ⊢
  split
  · rename_i hc; simp [hc, Pc.rmeta] at h
  · rename_i hc; simp [hc, Pc.rmeta] at h; exact ⟨h.symm, rfl⟩

theorem rmeta_gcNext (prog : Prog) (g : Store) (rm todo : List (Bid × Nat)) (c : List Cand) (t : Nat) (rm' : List (Bid × Nat))
    (h : (gcNext prog g rm todo c t).2.rmeta = some rm') : rm' = rm ∧ (gcNext prog g rm todo c t).2.dirty = false := by
  unfold gcNext at h ⊢
  split
  · exact rmeta_gcPlan prog g rm c t rm' h
  · simp [Pc.rmeta] at h; exact ⟨h.symm, rfl⟩

/-- taking the lock and scanning: the copy of repo.json that the gc holds afterwards is the one it held, or what it
has just read, and is clean -/
theorem GcStep.rmeta {cfg : Cfg} {prog : Prog} {g g' : Store} {pc pc' : Pc} (hs : GcStep cfg prog g pc pc' g')
    (hwp : pc.writesPkgs = false) {rm' : List (Bid × Nat)} (h : pc'.rmeta = some rm') :
    (pc.rmeta = some rm' ∨ readRepo cfg g.repo = some rm') ∧ pc'.dirty = false := by
  cases hs
  case locked hr => obtain ⟨rfl, hd⟩ := rmeta_gcNext _ _ _ _ _ _ _ h; exact ⟨.inr hr, hd⟩
  case planned => obtain ⟨rfl, hd⟩ := rmeta_gcPlan _ _ _ _ _ _ h; exact ⟨.inl rfl, hd⟩
  case skipped | passed | judged => obtain ⟨rfl, hd⟩ := rmeta_gcNext _ _ _ _ _ _ _ h; exact ⟨.inl rfl, hd⟩
  case found => cases h; exact ⟨.inl rfl, rfl⟩
  case unreadable | undecided | corrupt => cases h
  all_goals cases hwp

/-- what an entry `(b, sz)` of repo.json has to be matched by -/
def HasSize (final : Bid → Option PkgDir) (b : Bid) (sz : Nat) : Prop :=
  ∃ d m, final b = some d ∧ d.info = some (.valid m) ∧ m.size = sz

/-- how `use` may touch a package directory in the fixed code: nothing, the mtime, or a rewrite of pkg.json
that stays valid and keeps the size -/
def FinalQuiet (f f' : Bid → Option PkgDir) : Prop :=
  ∀ b, f' b = f b ∨
    (∃ d mt, f b = some d ∧ f' b = some { d with mtime := mt }) ∨
    (∃ d m m' mt, f b = some d ∧ d.info = some (.valid m) ∧ m'.size = m.size ∧
        f' b = some { d with info := some (.valid m'), mtime := mt })

theorem finalQuiet_fwd {f f' : Bid → Option PkgDir} (h : FinalQuiet f f') {b : Bid} {sz : Nat}
    (hs : HasSize f b sz) : HasSize f' b sz := by
  obtain ⟨d, m, hd, hm, hs⟩ := hs
  rcases h b with h1 | ⟨d0, mt, h1, h2⟩ | ⟨d0, m0, m', mt, h1, h2, h3, h4⟩
  · exact ⟨d, m, h1.trans hd, hm, hs⟩
  · rw [hd] at h1; cases h1; exact ⟨_, m, h2, hm, hs⟩
  · rw [hd] at h1; cases h1
    rw [hm] at h2; cases h2
    exact ⟨_, m', h4, rfl, h3.trans hs⟩

theorem finalQuiet_rev {f f' : Bid → Option PkgDir} (h : FinalQuiet f f') {b : Bid} {d' : PkgDir} (hd : f' b = some d') :
    ∃ d, f b = some d ∧ ∀ m, d.info = some (.valid m) → ∃ m', d'.info = some (.valid m') ∧ m'.size = m.size := by
  rcases h b with h1 | ⟨d0, mt, h1, h2⟩ | ⟨d0, m0, m', mt, h1, h2, h3, h4⟩
  · exact ⟨d', by rw [← h1]; exact hd, fun m hm => ⟨m, hm, rfl⟩⟩
  · rw [hd] at h2; cases h2; exact ⟨d0, h1, fun m hm => ⟨m, hm, rfl⟩⟩
  · rw [hd] at h4; cases h4
    refine ⟨d0, h1, fun m hm => ?_⟩
    rw [hm] at h2; cases h2
    exact ⟨m', rfl, h3⟩

theorem stepPc_finalQuiet (H : Nat → Nat) {cfg : Cfg} (hc : cfg.Fixes) (prog : Prog) (exO shO : Bool) (g : Store) (pc : Pc)
    (hff : PcFF pc) (hren : ∀ tmp, pc = .iRename tmp → g.final (opBid prog) ≠ none)
    (hmove : ∀ rm plan t d te, pc ≠ .gMove rm plan t d te) :
    FinalQuiet g.final (stepPc H cfg prog exO shO g pc).1.final := by
  have hw := stepPc_writes H cfg prog exO shO g pc
  generalize (stepPc H cfg prog exO shO g pc).1 = g' at hw ⊢
  intro b
  cases hw
  case keeps h _ _ _ => exact .inl (by rw [h])
  case repo h _ _ _ => exact .inl (by rw [h])
  case publish tmp hn _ _ _ _ => exact absurd hn (hren tmp rfl)
  case collect => exact absurd rfl (hmove _ _ _ _ _)
  case pkgMeta d info mt hf hok h _ _ _ =>
    by_cases e : b = opBid prog
    · subst e
      have hb : g'.final (opBid prog) = some { d with info := info, mtime := mt } := by rw [h]; simp [upd]
      rcases hok with ⟨_, rfl | ⟨_, hn⟩ | ⟨m, m', hdi, rfl, _, hs⟩⟩ | ⟨m', r, rfl, _⟩
      · exact .inr (.inl ⟨d, mt, hf, hb⟩)
      · rw [hc.1] at hn; cases hn
      · exact .inr (.inr ⟨d, m, m', mt, hf, hdi, hs, hb⟩)
      · cases hff.1
    · exact .inl (by rw [h]; simp [upd, e])

/-- the prepared directory carries a valid pkg.json with the size that will be recorded -/
def TmpOk (prog : Prog) : Pc → Prop
  | .iRename tmp => ∃ m, tmp.info = some (.valid m) ∧ m.size = opSize prog
  | _ => True

theorem tmpOk_of_exit_or_inGc {prog : Prog} {pc : Pc} (h : pc.isExit = true ∨ pc.inGc = true) : TmpOk prog pc := by
  cases pc
  case iRename => rcases h with h | h <;> cases h
  all_goals trivial

theorem stepPc_tmpOk (H : Nat → Nat) (cfg : Cfg) (prog : Prog) (exO shO : Bool) (g : Store) (pc : Pc)
    (h : TmpOk prog pc) : TmpOk prog (stepPc H cfg prog exO shO g pc).2 := by
  by_cases hv : pc = .iVerify
  · subst hv
    unfold stepPc; simp only
    cases hop : prog.op with
    | install ws b dst cl sz au lk =>
      simp only
      split
      · trivial
      · exact ⟨_, rfl, by simp [opSize, hop]⟩
    | _ => trivial
  -- no other segment prepares a directory
  have hf := stepPc_flow H cfg prog exO shO g pc
  generalize (stepPc H cfg prog exO shO g pc).2 = pc' at hf
  generalize (stepPc H cfg prog exO shO g pc).1 = g' at hf
  cases hf
  case stay => exact h
  case verified => exact absurd rfl hv
  case exit he _ => exact tmpOk_of_exit_or_inGc (.inl he)
  case gcLocked hg => exact tmpOk_of_exit_or_inGc (.inr hg)
  case gcGoes hg => exact tmpOk_of_exit_or_inGc (.inr hg)
  all_goals trivial

end Share
