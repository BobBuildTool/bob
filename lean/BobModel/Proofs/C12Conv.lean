import BobModel.Proofs.C12Checkout
/-
Convergence: a successful run of the checkout step on a workspace whose
SCM directories are untouched checkouts of the recorded specs leaves exactly the new SCM
directories, each a fresh checkout of its new spec.
-/
namespace Checkout

variable {σ κ : Type}

theorem isPrefix_nil_right (p : Comps) (h : isPrefix p [] = true) : p = [] := by
  cases p with
  | nil => rfl
  | cons a as => cases h

/-- undoes `moveLoc p n` on locations outside attic directory `n` -/
def unmoveLoc (p : Comps) (n : Nat) : Loc → Loc
  | .attic m q => if m = n then .ws (p ++ q) else .attic m q
  | l => l

theorem unmoveLoc_moveLoc (p : Comps) (n : Nat) (l : Loc) (h : ∀ q, l ≠ .attic n q) :
    unmoveLoc p n (moveLoc p n l) = l := by
  cases l with
  | attic m q => exact if_neg (fun (hm : m = n) => h q (hm ▸ rfl))
  | ws r =>
    rw [moveLoc_ws]
    split
    · rename_i hr
      exact (if_pos rfl).trans (congrArg Loc.ws (isPrefix_append_drop p r hr).symm)
    · rfl

/-- `moveLoc p n` is injective on the locations outside attic directory `n`: `unmoveLoc p n` undoes it -/
theorem nodup_move {fs : List (Loc × κ)} (hn : (locs fs).Nodup) (p : Comps) (n : Nat)
    (hb : ∀ m q k, (Loc.attic m q, k) ∈ fs → m < n) :
    (locs (fs.map (fun e => (moveLoc p n e.1, e.2)))).Nodup := by
  have hfresh : ∀ x, x ∈ locs fs → ∀ q, x ≠ .attic n q := by
    intro x hx q he
    obtain ⟨k, hk⟩ := exists_of_mem_locs (he ▸ hx)
    exact Nat.lt_irrefl n (hb n q k hk)
  rw [show locs (fs.map (fun e => (moveLoc p n e.1, e.2))) = (locs fs).map (moveLoc p n) from
    locs_applyOp (σ := Unit) fs (.moveToAttic p n) fun _ _ _ h => nomatch h]
  refine List.pairwise_map.mpr (List.Pairwise.imp_of_mem (fun {x y} hx hy hne hxy => hne ?_) hn)
  rw [← unmoveLoc_moveLoc p n x (hfresh x hx), hxy, unmoveLoc_moveLoc p n y (hfresh y hy)]

/-- `fresh s`: the content of a fresh checkout of `s` now; `Unt s k`: `k` is an untouched checkout
of `s` (made now or earlier).  Running the SCM on nothing or on an untouched checkout yields the
fresh checkout; a successful switch of an untouched checkout yields the fresh checkout of the new spec. -/
structure ScmConv (sem : ScmSem σ κ) (fresh : σ → κ) (Unt : σ → κ → Prop) : Prop where
  invoke_fresh : ∀ s, sem.invoke s none = (fresh s, true)
  fresh_unt : ∀ s, Unt s (fresh s)
  invoke_unt : ∀ s k, Unt s k → sem.invoke s (some k) = (fresh s, true)
  switch_unt : ∀ o n k, Unt o k → (sem.switch o n k).2 = true → (sem.switch o n k).1 = fresh n

/-- the workspace is consistent and untouched: every SCM directory in it is an untouched checkout of
the spec recorded for it -/
structure WsGood (Unt : σ → κ → Prop) (st : St σ κ) : Prop where
  tracked : ∀ p k, (Loc.ws p, k) ∈ st.fs → ∃ e, e ∈ st.old ∧ normComps e.dir = p ∧ ∃ s, e.spec = some s ∧ Unt s k
  nodup : (locs st.fs).Nodup
  missing : st.wsMissing = true → ∀ p k, (Loc.ws p, k) ∉ st.fs
  inj : st.old.Pairwise (fun a b => normComps a.dir ≠ normComps b.dir)
  below : AtticBelow st

/-- the directory at `p` is in its final state as far as the loop is concerned: an untouched checkout
of the spec some entry of `new` has for that path -/
def Done (Unt : σ → κ → Prop) (new : List (NewEntry σ)) (p : Comps) (k : κ) : Prop :=
  ∃ n, n ∈ new ∧ normComps n.dir = p ∧ Unt n.spec k

/-- the invariant of the loop over the sorted state entries, `es` being those still to be visited and `tr`
the `AtticTracker`: a workspace directory is an untouched checkout of the spec recorded in a pending
entry, or no pending entry has its path and it is `Done`; none is at or below a path the tracker holds -/
structure LoopInv (Unt : σ → κ → Prop) (new : List (NewEntry σ)) (st : St σ κ) (tr : List (Comps × Nat))
    (es : List (OldEntry σ)) : Prop where
  ent : ∀ p k, (Loc.ws p, k) ∈ st.fs →
      (∃ e, e ∈ es ∧ normComps e.dir = p ∧ ∃ s, e.spec = some s ∧ Unt s k) ∨
      ((∀ e, e ∈ es → normComps e.dir ≠ p) ∧ Done Unt new p k)
  nodup : (locs st.fs).Nodup
  trk : ∀ q n, (q, n) ∈ tr → ∀ p k, (Loc.ws p, k) ∈ st.fs → isPrefix q p = false
  missing : st.wsMissing = true → ∀ p k, (Loc.ws p, k) ∉ st.fs
  below : AtticBelow st
  inj : es.Pairwise (fun a b => normComps a.dir ≠ normComps b.dir)

variable {Unt : σ → κ → Prop} {new : List (NewEntry σ)} {sem : ScmSem σ κ} {fresh : σ → κ}

theorem LoopInv.consume {st st' : St σ κ} {tr tr' : List (Comps × Nat)} {e : OldEntry σ} {es : List (OldEntry σ)}
    (h : LoopInv Unt new st tr (e :: es))
    (hent : ∀ p' k', (Loc.ws p', k') ∈ st'.fs →
      ((Loc.ws p', k') ∈ st.fs ∧ p' ≠ normComps e.dir) ∨ (p' = normComps e.dir ∧ Done Unt new p' k'))
    (hnodup : (locs st'.fs).Nodup)
    (htrk : ∀ q n, (q, n) ∈ tr' → ∀ p k, (Loc.ws p, k) ∈ st'.fs → isPrefix q p = false)
    (hmiss : st'.wsMissing = true → ∀ p k, (Loc.ws p, k) ∉ st'.fs)
    (hbelow : AtticBelow st') : LoopInv Unt new st' tr' es := by
  have hinj := List.pairwise_cons.mp h.inj
  refine ⟨?_, hnodup, htrk, hmiss, hbelow, hinj.2⟩
  intro p' k' hm
  rcases hent p' k' hm with ⟨hm0, hne⟩ | ⟨hp, hd⟩
  · rcases h.ent p' k' hm0 with ⟨e0, he0, hd0, hs0⟩ | ⟨hno, hd⟩
    · rcases List.mem_cons.mp he0 with h1 | h1
      · subst h1; exact absurd hd0.symm hne
      · exact Or.inl ⟨e0, h1, hd0, hs0⟩
    · exact Or.inr ⟨fun e1 he1 => hno e1 (List.mem_cons_of_mem _ he1), hd⟩
  · subst hp
    exact Or.inr ⟨fun e1 he1 heq => hinj.1 e1 he1 heq.symm, hd⟩

theorem LoopInv.at_head {st : St σ κ} {tr : List (Comps × Nat)} {e : OldEntry σ} {es : List (OldEntry σ)}
    (h : LoopInv Unt new st tr (e :: es)) {k : κ} (hm : (Loc.ws (normComps e.dir), k) ∈ st.fs) :
    ∃ s, e.spec = some s ∧ Unt s k := by
  have hinj := List.pairwise_cons.mp h.inj
  rcases h.ent _ k hm with ⟨e0, he0, hd0, hs0⟩ | ⟨hno, _⟩
  · rcases List.mem_cons.mp he0 with h1 | h1
    · subst h1; exact hs0
    · exact absurd hd0.symm (hinj.1 e0 h1)
  · exact absurd rfl (hno e List.mem_cons_self)

theorem LoopInv.same_fs {st st' : St σ κ} {tr : List (Comps × Nat)} {e : OldEntry σ} {es : List (OldEntry σ)}
    (h : LoopInv Unt new st tr (e :: es)) (hfs : st'.fs = st.fs) (hw : st'.wsMissing = st.wsMissing)
    (hb : AtticBelow st')
    (hent : ∀ k', (Loc.ws (normComps e.dir), k') ∈ st.fs → Done Unt new (normComps e.dir) k') :
    LoopInv Unt new st' tr es := by
  refine h.consume ?_ (by rw [hfs]; exact h.nodup) (by rw [hfs]; exact h.trk) (by rw [hfs, hw]; exact h.missing) hb
  intro p' k' hm
  rw [hfs] at hm
  by_cases hp : p' = normComps e.dir
  · subst hp; exact Or.inr ⟨rfl, hent k' hm⟩
  · exact Or.inl ⟨hm, hp⟩

/-- the directory of the head entry goes to the attic with everything below it; what the switch attempt
left at its path does not matter -/
theorem LoopInv.moved {st a : St σ κ} {tr : List (Comps × Nat)} {e : OldEntry σ} {es : List (OldEntry σ)}
    (h : LoopInv Unt new st tr (e :: es)) (ha : SameOff (normComps e.dir) st a) :
    LoopInv Unt new (dropOld e.dir (moveAway e (normComps e.dir) a))
      (trackerAdd tr (normComps e.dir) a.nextAttic) es := by
  have hws : ∀ {p' k'}, (Loc.ws p', k') ∈ (dropOld e.dir (moveAway e (normComps e.dir) a)).fs →
      (Loc.ws p', k') ∈ st.fs ∧ isPrefix (normComps e.dir) p' = false := by
    intro p' k' hm
    obtain ⟨h1, h2⟩ := mem_moved_ws hm
    exact ⟨ha.off h1 (fun he => by cases he; rw [isPrefix_refl] at h2; cases h2), h2⟩
  have hab : AtticBelow a := fun m q k hm => ha.next ▸ h.below m q k (ha.off hm fun he => nomatch he)
  refine h.consume (fun p' k' hm => ?_) (nodup_move (ha.locs ▸ h.nodup) _ _ hab) ?_ ?_ (atticBelow_move _ a hab)
  · obtain ⟨h1, h2⟩ := hws hm
    exact Or.inl ⟨h1, fun hp => by rw [hp, isPrefix_refl] at h2; cases h2⟩
  · intro q m hqm p' k' hm
    obtain ⟨h1, h2⟩ := hws hm
    rcases mem_trackerAdd hqm with h3 | rfl
    · exact h.trk q m h3 p' k' h1
    · exact h2
  · intro hmiss p' k' hm
    obtain ⟨h1, h2⟩ := hws hm
    rcases (Bool.or_eq_true _ _).mp (show (a.wsMissing || (normComps e.dir).isEmpty) = true from hmiss) with hm1 | hm1
    · exact h.missing (ha.ws ▸ hm1) p' k' h1
    · rw [List.isEmpty_iff.mp hm1] at h2
      cases h2

/-- one build event: recipe SCM list, flags, and the SCM behaviour (i.e. the upstream state) at that time -/
structure Build (σ κ : Type) where
  sem : ScmSem σ κ
  fresh : σ → κ
  fl : Flags
  indet : Bool
  new : List (NewEntry σ)

/-- the hypotheses of `cook_converges` for one build.  `dig`: equal digests mean that an untouched checkout of
the old spec is one of the new spec (used where the loop keeps a directory and where the step is skipped).
`prune`: no SCM of the new list lies below an import SCM with `prune`, so pruning removes no SCM directory.
`det` is used only where the step is skipped. -/
structure BuildOk (Unt : σ → κ → Prop) (b : Build σ κ) : Prop where
  conv : ScmConv b.sem b.fresh Unt
  dig : ∀ (e : OldEntry σ) n, n ∈ b.new → e.dir = n.dir → e.digest = some n.digest →
      ∀ s k, e.spec = some s → Unt s k → Unt n.spec k
  pw : b.new.Pairwise (fun x y => normComps x.dir ≠ normComps y.dir)
  prune : ∀ n, n ∈ b.new → b.sem.prunes n.spec = true → ∀ m, m ∈ b.new →
      isPrefix (normComps n.dir) (normComps m.dir) = true → m = n
  det : b.indet = false → ∀ s k, Unt s k → k = b.fresh s

variable {b : Build σ κ}

theorem Iter.inv (hb : BuildOk Unt b) {st st' : St σ κ} {tr tr' : List (Comps × Nat)}
    {e : OldEntry σ} {es : List (OldEntry σ)} (hi : Iter b.sem b.new e st tr st' tr')
    (h : LoopInv Unt b.new st tr (e :: es)) : LoopInv Unt b.new st' tr' es := by
  have hbelow : AtticBelow st' := hi.steps.ext.2.1 h.below
  cases hi with
  | nested vis hm =>
    -- `trk`: no directory is at or below a path the tracker holds, so none is at this one
    obtain ⟨hq1, hq2⟩ := trackerMatch_some hm
    refine h.same_fs (by cases vis <;> rfl) (by cases vis <;> rfl) hbelow fun k' hk' => ?_
    rw [h.trk _ _ hq1 _ k' hk'] at hq2
    cases hq2
  | keep hun =>
    refine h.same_fs rfl rfl hbelow fun k' hk' => ?_
    obtain ⟨n, hn, hd⟩ := unchanged_some hun
    obtain ⟨hnm, hnd⟩ := findNew_mem hn
    obtain ⟨s, hs, hu⟩ := h.at_head hk'
    exact ⟨n, hnm, by rw [hnd], hb.dig e n hnm hnd.symm hd s k' hs hu⟩
  | @switched n os k _ hn hs hk hok _ hfs hws =>
    have hkm := contentAt_some_mem hk
    obtain ⟨s, hs', hu⟩ := h.at_head hkm
    cases hs.symm.trans hs'
    obtain ⟨hnm, hnd⟩ := findNew_mem hn
    refine h.consume ?_ (hfs ▸ nodup_setContent h.nodup _ _) ?_
      (fun hmiss => absurd hkm (h.missing (hws ▸ hmiss) _ k)) hbelow
    · intro p' k' hm'
      rcases mem_setContent_nodup h.nodup (hfs ▸ hm') with ⟨h1, h2⟩ | ⟨h1, h2⟩
      · cases h1
        refine Or.inr ⟨rfl, n, hnm, by rw [hnd], ?_⟩
        rw [h2, hb.conv.switch_unt os n.spec k hu hok]
        exact hb.conv.fresh_unt _
      · exact Or.inl ⟨h1, fun hp => h2 (by rw [hp])⟩
    · intro q m hqm p' k' hm'
      rcases mem_setContent_inv (hfs ▸ hm') with h1 | h1
      · exact h.trk q m hqm p' k' h1
      · cases h1.1; exact h.trk q m hqm _ k hkm
  | moved _ ha => exact h.moved ha
  | gone hex =>
    refine h.same_fs (fs_invalidate e st).1 (fs_invalidate e st).2.1 hbelow fun k hk => ?_
    cases hw : st.wsMissing with
    | true => exact absurd hk (h.missing hw _ k)
    | false => exact absurd (existsWs_of_mem hk hw (isPrefix_refl _)) (Bool.eq_false_iff.mp hex)

theorem loopAll_inv (hb : BuildOk Unt b) (ae : Bool) :
    ∀ (es : List (OldEntry σ)) (st : St σ κ) (tr : List (Comps × Nat)), LoopInv Unt b.new st tr es →
      (loopAll b.sem ae b.new es st tr).2 = none → ∃ tr', LoopInv Unt b.new (loopAll b.sem ae b.new es st tr).1 tr' [] := by
  intro es
  induction es with
  | nil => intro st tr h _; exact ⟨tr, h⟩
  | cons e rest ih =>
    intro st tr h hok
    unfold loopAll at hok ⊢
    cases hl : loopStep b.sem ae b.new st tr e with
    | error x => rw [hl] at hok; cases hok
    | ok v =>
      obtain ⟨st', tr'⟩ := v
      rw [hl] at hok
      exact ih st' tr' ((loopStep_iter hl).inv hb h) hok

/-- the state while the SCMs of `new` run: the new list is recorded, every workspace directory is an
untouched checkout of its new spec, and those of the SCMs in `done` are fresh -/
structure RunInv (Unt : σ → κ → Prop) (new : List (NewEntry σ)) (fresh : σ → κ) (st : St σ κ)
    (done : List (NewEntry σ)) : Prop where
  ent : ∀ p k, (Loc.ws p, k) ∈ st.fs → Done Unt new p k
  nodup : (locs st.fs).Nodup
  got : ∀ n, n ∈ done → n ∈ new ∧ contentAt st.fs (.ws (normComps n.dir)) = some (fresh n.spec)
  below : AtticBelow st
  missing : st.wsMissing = true → ∀ p k, (Loc.ws p, k) ∉ st.fs
  old : st.old = new.map asOld

/-- every SCM directory belongs to the new list and an import SCM with `prune` has none below its own:
pruning removes nothing -/
theorem prune_noop {fs : List (Loc × κ)} (hent : ∀ p k, (Loc.ws p, k) ∈ fs → Done Unt new p k)
    (hprune : ∀ n, n ∈ new → sem.prunes n.spec = true → ∀ m, m ∈ new →
      isPrefix (normComps n.dir) (normComps m.dir) = true → m = n)
    {n : NewEntry σ} (hn : n ∈ new) (hp : sem.prunes n.spec = true) :
    fs.filter (fun e => !(e.1.under (.ws (normComps n.dir)) && e.1 != .ws (normComps n.dir))) = fs := by
  refine List.filter_eq_self.mpr fun ⟨l, k⟩ hm => ?_
  cases l with
  | attic m q => rfl
  | ws q =>
    obtain ⟨m, hm', rfl, _⟩ := hent q k hm
    by_cases hpre : isPrefix (normComps n.dir) (normComps m.dir) = true
    · rw [hprune n hn hp m hm' hpre, bne_self_eq_false, Bool.and_false]; rfl
    · rw [show (Loc.ws (normComps m.dir)).under (.ws (normComps n.dir)) = false from Bool.eq_false_iff.mpr hpre]; rfl

theorem runScm_inv (hb : BuildOk Unt b)
    {n : NewEntry σ} (hn : n ∈ b.new) {st : St σ κ} {done : List (NewEntry σ)} (h : RunInv Unt b.new b.fresh st done) :
    (runScm b.sem n st).2 = true ∧ RunInv Unt b.new b.fresh (runScm b.sem n st).1 (n :: done) := by
  have hinv : b.sem.invoke n.spec (contentAt st.fs (.ws (normComps n.dir))) = (b.fresh n.spec, true) := by
    cases hk : contentAt st.fs (.ws (normComps n.dir)) with
    | none => exact hb.conv.invoke_fresh _
    | some k =>
      obtain ⟨n', hn', hd', hu⟩ := h.ent _ k (contentAt_some_mem hk)
      cases SortKey.eq_of_pairwise_ne hb.pw hn' hn hd'
      exact hb.conv.invoke_unt _ k hu
  have hrun : (runScm b.sem n st).1.fs = setContent st.fs (.ws (normComps n.dir)) (b.fresh n.spec) ∧
      (runScm b.sem n st).2 = true ∧ (runScm b.sem n st).1.wsMissing = false ∧ (runScm b.sem n st).1.old = st.old := by
    unfold runScm
    dsimp only
    by_cases hp : b.sem.prunes n.spec = true
    · rw [if_pos hp]
      simp only [emit, applyOp, emitSet]
      rw [prune_noop h.ent hb.prune hn hp, hinv]
      exact ⟨rfl, rfl, trivial, trivial⟩
    · rw [if_neg hp, hinv]
      exact ⟨rfl, rfl, rfl, rfl⟩
  obtain ⟨hfs, hok, hw, hold⟩ := hrun
  refine ⟨hok, ?_, hfs ▸ nodup_setContent h.nodup _ _, ?_, (steps_runScm n hn st).ext.2.1 h.below,
    (fun hm => nomatch hw.symm.trans hm), hold.trans h.old⟩
  · intro p k hm
    rcases mem_setContent_nodup h.nodup (hfs ▸ hm) with ⟨h1, h2⟩ | ⟨h1, _⟩
    · cases h1
      exact ⟨n, hn, rfl, h2 ▸ hb.conv.fresh_unt _⟩
    · exact h.ent p k h1
  · intro m hm
    rw [hfs]
    rcases List.mem_cons.mp hm with rfl | h1
    · exact ⟨hn, contentAt_setContent_same _ _ _⟩
    · obtain ⟨hm', hg⟩ := h.got m h1
      refine ⟨hm', ?_⟩
      by_cases hmn : normComps m.dir = normComps n.dir
      · cases SortKey.eq_of_pairwise_ne hb.pw hm' hn hmn
        exact contentAt_setContent_same _ _ _
      · rw [contentAt_setContent_other _ _ _ _ fun he => hmn (Loc.ws.inj he)]
        exact hg

theorem runScms_inv (hb : BuildOk Unt b) :
    ∀ (ns : List (NewEntry σ)) (st : St σ κ) (done : List (NewEntry σ)), (∀ m, m ∈ ns → m ∈ b.new) →
      RunInv Unt b.new b.fresh st done →
      (runScms b.sem ns st).2 = none ∧ RunInv Unt b.new b.fresh (runScms b.sem ns st).1 (ns.reverse ++ done) := by
  intro ns
  induction ns with
  | nil => exact fun st done _ h => ⟨rfl, h⟩
  | cons n rest ih =>
    intro st done hsub h
    obtain ⟨hok, hinv⟩ := runScm_inv hb (hsub n List.mem_cons_self) h
    unfold runScms
    cases hr : runScm b.sem n st with
    | mk st' ok =>
      rw [hr] at hok hinv
      cases hok
      rw [List.reverse_cons, List.append_assoc]
      exact ih st' (n :: done) (fun m hm => hsub m (List.mem_cons_of_mem _ hm)) hinv

/-- the workspace equals a fresh checkout of `new`: every new SCM directory holds the fresh checkout
of its spec, nothing else is in the workspace, and the recorded state describes it -/
structure Converged (Unt : σ → κ → Prop) (fresh : σ → κ) (new : List (NewEntry σ)) (st : St σ κ) : Prop where
  contents : ∀ n, n ∈ new → contentAt st.fs (.ws (normComps n.dir)) = some (fresh n.spec)
  only : ∀ p k, (Loc.ws p, k) ∈ st.fs → ∃ n, n ∈ new ∧ normComps n.dir = p
  good : WsGood Unt st
  full : ∀ e, e ∈ st.old → ∃ k, (Loc.ws (normComps e.dir), k) ∈ st.fs
  state : ∀ e, e ∈ st.old → ∃ n, n ∈ new ∧ e.dir = n.dir ∧ e.digest = some n.digest

/-- what `cleanInvalidate` (`--clean-checkout`) does to one state entry -/
def invalidateEntry (sem : ScmSem σ κ) (new : List (NewEntry σ)) (st : St σ κ) (e : OldEntry σ) : OldEntry σ :=
  match findNew new e.dir with
  | none => e
  | some n =>
    if e.digest == some n.digest && existsWs st (normComps e.dir) &&
       sem.dirty n.spec (contentAt st.fs (.ws (normComps e.dir)))
    then { e with digest := none } else e

theorem invalidateEntry_same (sem : ScmSem σ κ) (new : List (NewEntry σ)) (st : St σ κ) (e : OldEntry σ) :
    (invalidateEntry sem new st e).dir = e.dir ∧ (invalidateEntry sem new st e).spec = e.spec := by
  unfold invalidateEntry
  cases findNew new e.dir with
  | none => exact ⟨rfl, rfl⟩
  | some n => simp only; split <;> exact ⟨rfl, rfl⟩

theorem cleanInvalidate_eq (sem : ScmSem σ κ) (new : List (NewEntry σ)) (st : St σ κ) :
    cleanInvalidate sem new st = { st with old := st.old.map (invalidateEntry sem new st) } := rfl

theorem prepared_old (sem : ScmSem σ κ) (fl : Flags) (new : List (NewEntry σ)) (st0 : St σ κ) :
    ∃ f : OldEntry σ → OldEntry σ, (∀ e, (f e).dir = e.dir ∧ (f e).spec = e.spec) ∧
      (prepared sem fl new st0).old = if st0.wsMissing then [] else st0.old.map f := by
  unfold prepared
  cases st0.wsMissing <;> cases fl.cleanCheckout
  · exact ⟨id, fun _ => ⟨rfl, rfl⟩, (List.map_id _).symm⟩
  · exact ⟨invalidateEntry sem new st0, invalidateEntry_same sem new st0, rfl⟩
  · exact ⟨id, fun _ => ⟨rfl, rfl⟩, rfl⟩
  · exact ⟨id, fun _ => ⟨rfl, rfl⟩, rfl⟩

variable {fl : Flags} {st0 : St σ κ}

/-- `_constructDir` and `--clean-checkout` leave a consistent untouched workspace whose directory exists -/
theorem prepared_good (sem : ScmSem σ κ) (fl : Flags) (new : List (NewEntry σ)) (hW : WsGood Unt st0)
    (hfull : ∀ e, e ∈ st0.old → ∃ k, (Loc.ws (normComps e.dir), k) ∈ st0.fs) :
    WsGood Unt (prepared sem fl new st0) ∧ (prepared sem fl new st0).wsMissing = false ∧
    ∀ e, e ∈ (prepared sem fl new st0).old → ∃ k, (Loc.ws (normComps e.dir), k) ∈ (prepared sem fl new st0).fs := by
  obtain ⟨f, hf, hold⟩ := prepared_old sem fl new st0
  obtain ⟨_, pfs, pna⟩ := prepared_same sem fl new st0
  have hw : (prepared sem fl new st0).wsMissing = false := by
    unfold prepared
    cases hm : st0.wsMissing with
    | true => cases fl.cleanCheckout <;> rfl
    | false => cases fl.cleanCheckout <;> exact hm
  have hbelow : AtticBelow (prepared sem fl new st0) := fun n p k hk => pna ▸ hW.below n p k (pfs ▸ hk)
  rw [pfs]
  cases hm : st0.wsMissing with
  | true =>
    rw [hm, if_pos rfl] at hold
    exact ⟨⟨fun p k hk => absurd (pfs ▸ hk) (hW.missing hm p k), pfs ▸ hW.nodup, (fun h => nomatch hw.symm.trans h),
      by rw [hold]; exact List.Pairwise.nil, hbelow⟩, hw, fun e he => nomatch hold ▸ he⟩
  | false =>
    rw [hm, if_neg Bool.false_ne_true] at hold
    refine ⟨⟨fun p k hk => ?_, pfs ▸ hW.nodup, (fun h => nomatch hw.symm.trans h), ?_, hbelow⟩, hw, fun e' he' => ?_⟩
    · obtain ⟨e, he, hd, s, hs, hu⟩ := hW.tracked p k (pfs ▸ hk)
      exact ⟨f e, hold ▸ List.mem_map_of_mem he, (hf e).1 ▸ hd, s, (hf e).2 ▸ hs, hu⟩
    · rw [hold, List.pairwise_map]
      exact hW.inj.imp fun {a b} hab => by rw [(hf a).1, (hf b).1]; exact hab
    · obtain ⟨e, he, rfl⟩ := List.mem_map.mp (hold ▸ he')
      rw [(hf e).1]
      exact hfull e he

theorem loopInv_start (new : List (NewEntry σ)) {st : St σ κ} (hW : WsGood Unt st) (hw : st.wsMissing = false) :
    LoopInv Unt new st [] (sortedOld st.old) := by
  have hperm := List.mergeSort_perm st.old (fun a b => compsLe (normComps a.dir) (normComps b.dir))
  refine ⟨fun p k hm => ?_, hW.nodup, (fun q n h => nomatch h), (fun h => nomatch hw.symm.trans h), hW.below,
    (hperm.pairwise_iff (fun h => h.symm)).mpr hW.inj⟩
  obtain ⟨e, he, hd, hs⟩ := hW.tracked p k hm
  exact Or.inl ⟨e, hperm.mem_iff.mpr he, hd, hs⟩

/-- the step is skipped: nothing changed and the SCMs are deterministic, so the untouched workspace is
the fresh one already -/
theorem converged_of_sameDirs (hb : BuildOk Unt b) (hdet : b.indet = false) {st : St σ κ} (hW : WsGood Unt st)
    (hfull : ∀ e, e ∈ st.old → ∃ k, (Loc.ws (normComps e.dir), k) ∈ st.fs)
    (hsame : sameDirs st.old b.new = true) : Converged Unt b.fresh b.new st := by
  unfold sameDirs at hsame
  simp only [Bool.and_eq_true, List.all_eq_true, List.any_eq_true, beq_iff_eq] at hsame
  obtain ⟨hs1, hs2⟩ := hsame
  have key : ∀ e, e ∈ st.old → ∃ n k, n ∈ b.new ∧ e.dir = n.dir ∧ e.digest = some n.digest ∧
      (Loc.ws (normComps e.dir), k) ∈ st.fs ∧ Unt n.spec k := by
    intro e he
    obtain ⟨n, hn, hd⟩ := unchanged_some (hs1 e he)
    obtain ⟨hnm, hnd⟩ := findNew_mem hn
    obtain ⟨k, hk⟩ := hfull e he
    obtain ⟨e1, he1, hd1, s, hs, hu⟩ := hW.tracked _ k hk
    cases SortKey.eq_of_pairwise_ne hW.inj he1 he hd1
    exact ⟨n, k, hnm, hnd.symm, hd, hk, hb.dig e n hnm hnd.symm hd s k hs hu⟩
  refine ⟨fun n hn => ?_, fun p k hm => ?_, hW, hfull, fun e he => ?_⟩
  · obtain ⟨e, he, hde⟩ := hs2 n hn
    obtain ⟨n', k, hn', hd', _, hk, hu⟩ := key e he
    cases SortKey.eq_of_pairwise_ne hb.pw hn' hn (by rw [← hd', hde])
    rw [← hd', contentAt_of_mem hW.nodup hk, hb.det hdet _ _ hu]
  · obtain ⟨e, he, hd, _⟩ := hW.tracked p k hm
    obtain ⟨n, _, hn, hd', _⟩ := key e he
    exact ⟨n, hn, hd' ▸ hd⟩
  · obtain ⟨n, _, hn, hd, hdg, _⟩ := key e he
    exact ⟨n, hn, hd, hdg⟩

theorem RunInv.converged (hpw : new.Pairwise (fun a b => normComps a.dir ≠ normComps b.dir))
    {st : St σ κ} {done : List (NewEntry σ)} (h : RunInv Unt new fresh st done) (hall : ∀ n, n ∈ new → n ∈ done)
    (c : Bool) : Converged Unt fresh new { st with complete := c } := by
  have hmem : ∀ e, e ∈ st.old → ∃ n, n ∈ new ∧ e = asOld n := fun e he =>
    (List.mem_map.mp (h.old ▸ he)).imp fun n hn => ⟨hn.1, hn.2.symm⟩
  refine ⟨fun n hn => (h.got n (hall n hn)).2, fun p k hm => (h.ent p k hm).imp fun n hn => ⟨hn.1, hn.2.1⟩,
    ⟨?_, h.nodup, h.missing, ?_, h.below⟩, ?_, ?_⟩
  · intro p k hm
    obtain ⟨n, hn, hd, hu⟩ := h.ent p k hm
    exact ⟨asOld n, h.old ▸ List.mem_map_of_mem (f := asOld) hn, hd, n.spec, rfl, hu⟩
  · exact h.old ▸ List.pairwise_map.mpr hpw
  · intro e he
    obtain ⟨n, hn, rfl⟩ := hmem e he
    exact ⟨fresh n.spec, contentAt_some_mem (h.got n (hall n hn)).2⟩
  · intro e he
    obtain ⟨n, hn, rfl⟩ := hmem e he
    exact ⟨n, hn, rfl, rfl⟩

/-- `hfull` (every state entry has its directory) is used only where the step is skipped: there the new
SCM directories are known to exist only through the state entries -/
theorem cook_converges (hb : BuildOk Unt b) (st0 : St σ κ) (hW : WsGood Unt st0)
    (hfull : ∀ e, e ∈ st0.old → ∃ k, (Loc.ws (normComps e.dir), k) ∈ st0.fs)
    (hok : (cook b.sem b.fl b.indet b.new st0).2 = none) :
    Converged Unt b.fresh b.new (cook b.sem b.fl b.indet b.new st0).1 := by
  rw [cook_eq] at hok ⊢
  obtain ⟨hWp, hwp, hfullp⟩ := prepared_good b.sem b.fl b.new hW hfull
  split at hok
  · rename_i hskip
    rw [if_pos hskip]
    simp only [Bool.and_eq_true, Bool.not_eq_true'] at hskip
    exact converged_of_sameDirs hb hskip.2.1.2 hWp hfullp hskip.2.2
  · rename_i hskip
    rw [if_neg hskip]
    have hL := loopAll_inv hb b.fl.atticEnabled _ _ [] (loopInv_start b.new hWp hwp)
    cases hl : loopAll b.sem b.fl.atticEnabled b.new (sortedOld (prepared b.sem b.fl b.new st0).old)
        (prepared b.sem b.fl b.new st0) [] with
    | mk st1 err =>
      rw [hl] at hok hL
      cases err with
      | some x => cases hok
      | none =>
        obtain ⟨tr', hL⟩ := hL rfl
        dsimp only at hok ⊢
        cases hcol : collision b.new st1 with
        | some d => rw [hcol] at hok; cases hok
        | none =>
          have hR0 : RunInv Unt b.new b.fresh
              (emit (.setDirState (b.new.map (·.dir))) { st1 with old := b.new.map asOld, complete := false }) [] :=
            ⟨fun p k hm => (hL.ent p k hm).elim (fun ⟨_, he, _⟩ => nomatch he) (fun h => h.2), hL.nodup,
              (fun n h => nomatch h), hL.below, hL.missing, rfl⟩
          obtain ⟨hnone, hR⟩ := runScms_inv hb b.new _ [] (fun _ h => h) hR0
          unfold markComplete
          rw [hnone]
          exact hR.converged hb.pw (fun n hn => List.mem_append_left _ (List.mem_reverse.mpr hn)) true

def runBuilds : List (Build σ κ) → St σ κ → St σ κ
  | [], st => st
  | b :: rest, st => runBuilds rest (cook b.sem b.fl b.indet b.new st).1

def AllOk : List (Build σ κ) → St σ κ → Prop
  | [], _ => True
  | b :: rest, st => (cook b.sem b.fl b.indet b.new st).2 = none ∧ AllOk rest (cook b.sem b.fl b.indet b.new st).1

theorem builds_converge : ∀ (bs : List (Build σ κ)) (st : St σ κ), WsGood Unt st →
    (∀ e, e ∈ st.old → ∃ k, (Loc.ws (normComps e.dir), k) ∈ st.fs) →
    (∀ b, b ∈ bs → BuildOk Unt b) → AllOk bs st → ∀ b, bs.getLast? = some b →
    Converged Unt b.fresh b.new (runBuilds bs st) := by
  intro bs
  induction bs with
  | nil => intro st _ _ _ _ b hb; simp at hb
  | cons b0 rest ih =>
    intro st hW hfull hok hall b hb
    obtain ⟨h1, h2⟩ := hall
    have hconv := cook_converges (hok b0 List.mem_cons_self) st hW hfull h1
    cases rest with
    | nil =>
      simp only [List.getLast?_singleton, Option.some.injEq] at hb
      subst hb
      exact hconv
    | cons b1 rest' =>
      have hb' : (b1 :: rest').getLast? = some b := by simpa [List.getLast?_cons_cons] using hb
      exact ih _ hconv.good hconv.full (fun x hx => hok x (List.mem_cons_of_mem _ hx)) h2 b hb'

end Checkout
