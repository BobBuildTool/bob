import BobModel.Proofs.C08Step
/-
One checked member: what `__checkMember` and `_tarExtractFilter` establish (`checkMember_facts`,
`tarFilter_facts`), and that the extraction of a member that passed them is a confined step
(`extractMember_conf`).

The re-extraction fallback of `TarFile.makelink` for hard link members (`reextract`, `linkFallback`)
re-creates an *earlier* member of the archive (possibly a symbolic link with any target) at the
place of the hard link and then applies the attributes of the hard link member through that name,
so it is not a confined step in general (this is how the dispatch before commit 8ba1640 is refuted).
For the checked dispatch it cannot do anything: `__checkMember` has seen the link source as an
existing regular file and the link's own name as missing; `os.makedirs` of the upper directories in
between only adds directories at prefixes of the resolved parent (`OnlyNew`, `makedirs_good`), so
both facts survive (`walk_strict_onlyNew`, `dst_missing_transport`) and `os.link` can only fail because
the link's own path does not resolve (`ENOENT`/`ENOTDIR`/`ELOOP`) — and then no operation of the
re-extraction resolves it either (`linkFallback_nochange`, `link_checked`).
-/
namespace TarExtract

section Fallback
variable {dest : Path} {cfg : Cfg}

/-- the link's own name, seen as missing by `__checkMember`, is still missing after a `makedirs` that has
either not run or has created the parent directory `P` -/
theorem dst_missing_transport {a a1 : FS} {P : Path} {c : Name} {full : List Name}
    (hwf : WF a) (hon : OnlyNew P a a1) (hnew : a1 = a ∨ a.look P = none)
    (hD : ∀ d, kres a cfg false full = .ok d → a.look d = none)
    (hk1 : kres a1 cfg false full = .ok (P ++ [c])) : a1.look (P ++ [c]) = none := by
  rcases hnew with rfl | hP
  · exact hD _ hk1
  · rcases hon.2 (P ++ [c]) with h | ⟨_, hpre, _⟩
    · rw [h]; exact look_child_none hwf hP c
    · have := hpre.length_le
      simp at this
      omega

theorem reextract_nochange {fs : FS} {full : List Name} {e : WErr} (hk : kres fs cfg false full = .error e) :
    ∀ (prev : List Member) (ln : Str),
      (reextract cfg fs full prev ln).1 = fs ∧ (reextract cfg fs full prev ln).2 ≠ none := by
  have hmk : ∀ mode, kMkdir fs cfg full mode = (fs, .fail) := by
    intro mode; simp [kMkdir, hk]
  have hmn : ∀ o, kMknod fs cfg full o = (fs, .fail) := by
    intro o; simp [kMknod, hk]
  have hsy : ∀ t, kSymlink fs cfg full t = (fs, .unsup) := by
    intro t; unfold kSymlink; split <;> simp [hk]
  intro prev
  induction prev with
  | nil => intro ln; exact ⟨rfl, nofun⟩
  | cons t before ih =>
    intro ln
    rw [reextract]
    split
    · exact ih ln
    · cases ht : t.type with
      | reg => exact ⟨rfl, nofun⟩
      | dir => simp [hmk]
      | sym => simp [hsy]
      | fifo => simp [hmn]
      | chr => simp [hmn]
      | lnk =>
        obtain ⟨h1, h2⟩ := ih t.linkname
        dsimp only
        cases hr : (reextract cfg fs full before t.linkname).2 with
        | none => exact absurd hr h2
        | some e' => cases e' <;> simp [h1]

theorem linkFallback_nochange {fs : FS} {full : List Name} {e : WErr} (hk : kres fs cfg false full = .error e)
    (prev : List Member) (m : Member) (nf : Err) : (linkFallback cfg fs full prev m nf).1 = fs := by
  obtain ⟨h1, h2⟩ := reextract_nochange hk prev m.linkname
  unfold linkFallback
  dsimp only
  cases hr : (reextract cfg fs full prev m.linkname).2 with
  | none => exact absurd hr h2
  | some e' => cases e' <;> exact h1
end Fallback

theorem splitSlash_ne_nil (s : Str) : splitSlash s ≠ [] := by
  cases s with
  | nil => simp [splitSlash]
  | cons c r =>
    simp only [splitSlash]
    split
    · simp
    · split <;> simp

theorem comps_lstripSlash (s : Str) : comps (lstripSlash s) = comps s := by
  induction s with
  | nil => rfl
  | cons c r ih =>
    simp only [lstripSlash]
    split
    · rename_i hc
      rw [ih]
      simp [comps, splitSlash, hc]
    · rfl

theorem canonical_comps {s : Str} (h : canonical s = true) :
    comps s ≠ [] ∧ ∀ c ∈ comps s, Plain c := by
  unfold canonical at h
  rw [List.all_eq_true] at h
  have hall : ∀ c ∈ splitSlash s, Plain c := by
    intro c hc
    have := h c hc
    simpa [Plain] using this
  have hcomps : comps s = splitSlash s := by
    unfold comps
    rw [List.filter_eq_self]
    intro c hc
    simpa using (hall c hc).1
  rw [hcomps]
  exact ⟨splitSlash_ne_nil s, hall⟩

section Member
variable {dest : Path} {cfg : Cfg}

/-- where `os.link` takes its source from -/
def linkSrc (dest : List Name) (linkname : Str) : List Name :=
  if isAbs linkname then comps linkname else dest ++ comps linkname

/-- what `__checkMember` establishes about a hard link source, in the terms of `os.path.realpath` (kept by
every `Good` step) -/
def LinkOk (dest : Path) (cfg : Cfg) (a : FS) (linkname : Str) : Prop :=
  ∃ s rsrc, walk a false false cfg.fuel [] (linkSrc dest linkname) = .ok s ∧ symTarget a s = none ∧
    walk a false true cfg.fuel [] (linkSrc dest linkname) = .ok rsrc ∧ Inside dest rsrc

/-- what `__checkMember` has seen with the kernel's eyes (kept by `OnlyNew`): the link source is an existing
non-link file object, and the link's own path `full` is missing as far as it resolves -/
def LinkStrict (dest : Path) (cfg : Cfg) (a : FS) (full : List Name) (linkname : Str) : Prop :=
  (∃ s i, kres a cfg false (linkSrc dest linkname) = .ok s ∧ a.look s = some (.ref i)) ∧
  (∀ d, kres a cfg false full = .ok d → a.look d = none)

theorem LinkOk.transport {a b : FS} (h : SameSym a b) {ln : Str} (hl : LinkOk dest cfg a ln) : LinkOk dest cfg b ln := by
  obtain ⟨s, rsrc, h1, h2, h3, h4⟩ := hl
  exact ⟨s, rsrc, by rw [← walk_lenient_sameSym h false]; exact h1, by rw [← h s]; exact h2,
    by rw [← walk_lenient_sameSym h true]; exact h3, h4⟩

/-- `os.link` for a hard link member in a tree where the checked facts hold: the source exists, and
either the link is made, or the link's own path `up/c` does not resolve and the re-extraction
changes nothing -/
theorem link_checked {a : FS} (hinv : Inv dest a) {up : List Name} {c : Name} (hc : c ≠ dot ∧ c ≠ dotdot) {P : Path}
    (hP : walk a false true cfg.fuel [] up = .ok P) (hPin : Inside dest P) {ln : Str} (hok : LinkOk dest cfg a ln)
    {s0 : Path} {i0 : Nat} (hks : kres a cfg false (linkSrc dest ln) = .ok s0) (hls : a.look s0 = some (.ref i0))
    (hmiss : kres a cfg false (up ++ [c]) = .ok (P ++ [c]) → a.look (P ++ [c]) = none) :
    kexists a cfg (linkSrc dest ln) = true ∧
    (((kLink a cfg (linkSrc dest ln) (up ++ [c])).2 = .ok ∧ Good dest a (kLink a cfg (linkSrc dest ln) (up ++ [c])).1) ∨
     (kLink a cfg (linkSrc dest ln) (up ++ [c]) = (a, .unsup) ∧
        ∀ prev m nf, (linkFallback cfg a (up ++ [c]) prev m nf).1 = a)) := by
  obtain ⟨s, rsrc, h1, h2, h3, h4⟩ := hok
  cases walk_strict_eq_lenient hks h1
  have hfol : kres a cfg true (linkSrc dest ln) = .ok s0 := walk_nofollow_follow h2 hks
  refine ⟨?_, ?_⟩
  · unfold kexists
    rw [hfol]
    dsimp only
    rw [hls]; rfl
  · cases hk : kres a cfg false (up ++ [c]) with
    | ok L =>
      obtain ⟨rfl, hD, hin⟩ := nofollow_location hinv hc hP hPin hk
      have hl := hmiss hk
      have : kLink a cfg (linkSrc dest ln) (up ++ [c]) = (a.setName (P ++ [c]) (.ref i0), .ok) := by
        unfold kLink
        simp only [hks, hk, hls, hl]
      rw [this]
      exact Or.inl ⟨rfl, step_link hinv hin hD hl (walk_strict_eq_lenient hfol h3 ▸ h4) hls h2⟩
    | error e =>
      refine Or.inr ⟨?_, linkFallback_nochange hk⟩
      unfold kLink
      simp only [hks, hk]

/-- the dispatch performs `_tarExtractFilter` and all checks of `TarHelper.__checkMember` -/
structure Cfg.Checked (cfg : Cfg) : Prop where
  filter : cfg.filter = true
  canonNames : cfg.canonNames = true
  parentCheck : cfg.parentCheck = true
  lnkCheck : cfg.lnkCheck = 2

/-- the current source performs them all; this stops building when one of them disappears from the
source (the flags of `Cfg.current` are the regenerated constants) -/
theorem Cfg.current_checked (fuel : Nat) : (Cfg.current fuel).Checked := ⟨rfl, rfl, rfl, rfl⟩

theorem realpath_dest {a : FS} (hinv : Inv dest a) (hdp : ∀ c ∈ dest, c ≠ dot ∧ c ≠ dotdot)
    (hfuel : dest.length ≤ cfg.fuel) : realpath a cfg dest = .ok dest :=
  walk_dest hinv hdp hfuel false true

theorem checkMember_facts (hall : cfg.Checked)
    {a : FS} (hinv : Inv dest a) (hdp : ∀ c ∈ dest, c ≠ dot ∧ c ≠ dotdot) (hfuel : dest.length ≤ cfg.fuel)
    {m : Member} (h : checkMember cfg a dest m = .ok ()) :
    canonical m.name = true ∧
    (∃ P, walk a false true cfg.fuel [] (dest ++ (comps m.name).dropLast) = .ok P ∧ Inside dest P) ∧
    (m.type = .lnk → LinkOk dest cfg a m.linkname ∧ LinkStrict dest cfg a (dest ++ comps m.name) m.linkname) := by
  unfold checkMember at h
  rw [realpath_dest hinv hdp hfuel] at h
  simp only [hall.canonNames, hall.parentCheck, hall.lnkCheck, true_and, if_true, and_true] at h
  -- every rejection is a contradiction; what remains are the facts the passed tests have seen
  by_cases hcan : canonical m.name = false
  · rw [if_pos hcan] at h; cases h
  rw [if_neg hcan] at h
  split at h
  · cases h
  rename_i hpar
  split at hpar
  · cases hpar
  rename_i par hrp
  split at hpar
  case isFalse => cases hpar
  rename_i hin
  refine ⟨by simpa using hcan, ⟨par, hrp, List.isPrefixOf_iff_prefix.mp hin⟩, fun hty => ?_⟩
  rw [if_pos hty] at h
  split at h
  · cases h
  rename_i rsrc hrs
  split at h
  · cases h
  rename_i hri
  split at h
  · cases h
  rename_i s hks
  split at h
  case h_2 => cases h
  rename_i i hls
  split at h
  case h_2 => cases h
  rename_i d md hi
  refine ⟨⟨s, rsrc, walk_strict_lenient hks, by simp [symTarget, hls, hi], hrs,
    List.isPrefixOf_iff_prefix.mp (by simpa using hri)⟩, ⟨s, i, hks, hls⟩, fun d' hd' => ?_⟩
  rw [hd'] at h
  dsimp only at h
  split at h
  · cases h
  · simpa using ‹¬ (a.look d').isSome = true›

theorem tarFilter_facts (hall : cfg.Checked) {a : FS} (hinv : Inv dest a)
    (hdp : ∀ c ∈ dest, c ≠ dot ∧ c ≠ dotdot) (hfuel : dest.length ≤ cfg.fuel)
    {m m' : Member} (h : tarFilter cfg a dest m = .ok m') :
    m' = { m with name := lstripSlash m.name } ∧
    ∃ R, walk a false true cfg.fuel [] (dest ++ comps m.name) = .ok R ∧ Inside dest R := by
  unfold tarFilter at h
  rw [realpath_dest hinv hdp hfuel] at h
  simp only [hall.filter, true_and, comps_lstripSlash] at h
  split at h
  · cases h
  rename_i full hr
  split at h
  · cases h
  rename_i hin
  exact ⟨(Except.ok.inj h).symm, full, hr, List.isPrefixOf_iff_prefix.mp (by simpa using hin)⟩

theorem extractMember_conf (hall : cfg.Checked) (hdne : dest ≠ []) (hdp : ∀ c ∈ dest, c ≠ dot ∧ c ≠ dotdot)
    (hfuel : dest.length ≤ cfg.fuel) {a : FS} (hinv : Inv dest a) {m m' : Member}
    (hck : checkMember cfg a dest m = .ok ()) (hft : tarFilter cfg a dest m = .ok m') (prev : List Member) :
    Conf dest a (extractMember cfg a dest prev m').1 := by
  obtain ⟨hcan, ⟨P, hP, hPin⟩, hlnk⟩ := checkMember_facts hall hinv hdp hfuel hck
  obtain ⟨rfl, R, hR, hRin⟩ := tarFilter_facts hall hinv hdp hfuel hft
  obtain ⟨hne, hplain⟩ := canonical_comps hcan
  obtain ⟨ups, c, hnc⟩ := (eq_nil_or_snoc (comps m.name)).resolve_left hne
  have hups : ∀ x ∈ ups, Plain x := fun x hx => hplain x (by rw [hnc]; simp [hx])
  have hc : Plain c := hplain c (by rw [hnc]; simp)
  have hcd : c ≠ dot ∧ c ≠ dotdot := hc.2
  rw [hnc] at hP hR hlnk
  rw [List.dropLast_concat] at hP
  rw [← List.append_assoc] at hR hlnk
  unfold extractMember
  simp only [comps_lstripSlash, hnc, ← List.append_assoc, List.dropLast_concat]
  generalize hr1 : (if dest ++ ups ≠ [] ∧ kexists a cfg (dest ++ ups) = false
      then makedirs a cfg (dest ++ ups).length (dest ++ ups) else (a, KRes.ok)) = r1
  obtain ⟨hg1, hon1, hnew1⟩ := makedirs_good hdp hfuel hups hPin _ ups [] a (by simp) hinv hP hr1
  obtain ⟨a1, res⟩ := r1
  dsimp only at hg1 hon1 hnew1 ⊢
  have hinv1 := hg1.inv
  have hP1 : walk a1 false true cfg.fuel [] (dest ++ ups) = .ok P := by
    rw [← walk_lenient_sameSym hg1.sym true]; exact hP
  have hR1 : walk a1 false true cfg.fuel [] (dest ++ ups ++ [c]) = .ok R := by
    rw [← walk_lenient_sameSym hg1.sym true]; exact hR
  -- an operation that realpath does not see, alone or followed by the attribute calls
  have hstop : ∀ {b : FS}, Good dest a1 b → Conf dest a b := fun hb => hg1.toConf.trans hb.toConf
  have hattr : ∀ {b : FS}, Good dest a1 b → ∀ mode, Conf dest a (chmodFollow b cfg (dest ++ ups ++ [c]) mode) := by
    intro b hb mode
    have hRb : walk b false true cfg.fuel [] (dest ++ ups ++ [c]) = .ok R := by
      rw [← walk_lenient_sameSym hb.sym true]; exact hR1
    exact (hstop hb).trans (chmodFollow_good hb.inv hRb hRin hdne mode).toConf
  cases res with
  | fail => exact hg1.toConf
  | eexist => exact hg1.toConf
  | unsup => exact hg1.toConf
  | ok =>
    dsimp only
    cases hty : m.type with
    | reg =>
      have hw := kWrite_good (cfg := cfg) hinv1 hR1 hRin m.data
      cases (kWrite a1 cfg (dest ++ ups ++ [c]) m.data).2 with
      | ok => exact hattr hw _
      | _ => exact hstop hw
    | dir =>
      have hw := kMkdir_good hinv1 hc hR1 hRin 0o700
      cases (kMkdir a1 cfg (dest ++ ups ++ [c]) 0o700).2 with
      | ok => exact hattr hw _
      | eexist => exact hattr hw _
      | _ => exact hstop hw
    | sym =>
      have hw := hg1.toConf.trans (kSymlink_conf hinv1 hcd hP1 hPin m.linkname)
      cases (kSymlink a1 cfg (dest ++ ups ++ [c]) m.linkname).2 <;> exact hw
    | fifo =>
      have hw := kMknod_good hinv1 hcd hP1 hPin .fifo rfl
      cases (kMknod a1 cfg (dest ++ ups ++ [c]) .fifo).2 with
      | ok => exact hattr hw _
      | _ => exact hstop hw
    | chr =>
      have hw := kMknod_good hinv1 hcd hP1 hPin .chr rfl
      cases (kMknod a1 cfg (dest ++ ups ++ [c]) .chr).2 with
      | ok => exact hattr hw _
      | _ => exact hstop hw
    | lnk =>
      by_cases hsl : m.linkname.getLast? = some slash
      · rw [if_pos hsl]; exact hg1.toConf
      rw [if_neg hsl]
      obtain ⟨⟨s0, i0, hks, hls⟩, hD⟩ := (hlnk hty).2
      have hnew : a1 = a ∨ a.look P = none :=
        (hnew1 rfl).imp_right fun ⟨L, hPL, hl⟩ => by rwa [hPL, List.append_nil]
      -- source and missing link name have survived `makedirs`
      obtain ⟨hex, hlink⟩ := link_checked hinv1 hcd hP1 hPin ((hlnk hty).1.transport hg1.sym)
        (walk_strict_onlyNew hon1 hls hks) (hon1.look_some hls) (dst_missing_transport hinv.wf hon1 hnew hD)
      rw [show (if isAbs m.linkname = true then comps m.linkname else dest ++ comps m.linkname) =
        linkSrc dest m.linkname from rfl, if_pos hex]
      rcases hlink with ⟨hok, hgood⟩ | ⟨hun, hfb⟩
      · rw [hok]; exact hattr hgood _
      · rw [hun, hfb]; exact hg1.toConf

end Member

end TarExtract
