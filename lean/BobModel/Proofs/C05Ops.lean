import BobModel.Proofs.C01Base
/-
C05: what the cook functions are made of.  Every cook function is a composition (`pure`, `>>=`,
`getSt`, `abort`, conditionals) of micro-operations `prim op f` whose update `f` is confined to the
step's own workspace path, and only `_runShell` contains script boundaries.  A family `C` of
programs that is closed under the composition (`Closed P C`) therefore contains a cook function as
soon as it contains its micro-operations; this is shown once per cook function and instantiated
for `FrameAt` and `LogMono` (below) and for `LogSafe` (C05Log).
-/
namespace Builder

variable {E : Env} {P Q : Op → (St → St) → Prop} {C : {α : Type} → M α → Prop}

/-- `C` contains the micro-operations satisfying `P` and is closed under composition -/
structure Closed (P : Op → (St → St) → Prop) (C : {α : Type} → M α → Prop) : Prop where
  pure {α : Type} (a : α) : C (pure a : M α)
  bind {α β : Type} {m : M α} {f : α → M β} : C m → (∀ a, C (f a)) → C (m >>= f)
  getSt : C getSt
  abort {α : Type} : C (abort : M α)
  prim {op : Op} {f : St → St} : P op f → C (prim op f)

theorem Closed.mono (h : Closed P C) (hq : ∀ op f, Q op f → P op f) : Closed Q C :=
  ⟨h.pure, h.bind, h.getSt, h.abort, fun hp => h.prim (hq _ _ hp)⟩

-- holds of any family; the first argument is there for the dot notation
theorem Closed.ite (_ : Closed P C) {α : Type} {c : Prop} [Decidable c] {m1 m2 : M α} (h1 : C m1) (h2 : C m2) :
    C (if c then m1 else m2) := by
  split
  · exact h1
  · exact h2

theorem Closed.whenM (h : Closed P C) (b : Bool) {m : M Unit} (hm : C m) : C (whenM b m) :=
  h.ite hm (h.pure ())

/-- `if c then abort` in the middle of a `do` block: the rest of the block follows both branches -/
theorem Closed.orAbort (h : Closed P C) {β : Type} {c : Prop} [Decidable c] {k : PUnit → M β} (hk : C (k ())) :
    C (if c then Builder.abort >>= k else k ()) :=
  h.ite (h.bind h.abort fun _ => hk) hk

def isScriptOp : Op → Bool
  | .scriptBegin _ => true
  | .scriptEnd _ _ => true
  | _ => false

/-- a micro-operation that writes only the components of path `p` (and clock / attic list) -/
def OwnOp (p : Path) (_ : Op) (f : St → St) : Prop := ∀ s, AgreeOff p s (f s)

/-- ... and is not a script boundary -/
def PlainOp (p : Path) (op : Op) (f : St → St) : Prop := isScriptOp op = false ∧ OwnOp p op f

theorem Closed.plain {p : Path} (h : Closed (OwnOp p) C) : Closed (PlainOp p) C := h.mono fun _ _ hq => hq.2

theorem Closed.constructDir_mem {p : Path} (h : Closed (PlainOp p) C) : C (constructDir p) :=
  h.bind h.getSt fun _ => h.ite (h.bind (h.prim ⟨rfl, (agree_setDisk · _ _)⟩) fun _ => h.pure _) (h.pure _)

theorem Closed.runScript_mem (i : Info) (h : Closed (OwnOp i.path) C) (clean : Bool) (ins : List Content) :
    C (runScript E i clean ins) :=
  h.bind h.getSt fun _ => h.bind (h.prim (agree_setDisk · _ _)) fun _ => by
    split
    · exact h.prim (agree_setDisk · _ _)
    · exact h.bind (h.prim (agree_setDisk · _ _)) fun _ => h.abort

theorem Closed.runRecord_mem (i : Info) (h : Closed (OwnOp i.path) C) (clean : Bool) (st : St) (ins : List Step)
    (inH : Inputs) (iv : St → Vid) : C (runRecord E i clean st ins inH iv) :=
  h.bind (h.prim (agree_delInputs · _)) fun _ => h.bind (h.prim (agree_forge · _)) fun _ =>
  h.bind (h.runScript_mem i clean _) fun _ => h.bind h.getSt fun _ =>
  h.bind (h.prim (agree_setResult · _ _)) fun _ => h.bind (h.prim (agree_setVid · _ _)) fun _ =>
  h.prim (agree_setInputs · _ _)

theorem agree_atticMove (E : Env) (p : Path) (d : Dir) (s : St) : AgreeOff p s
    (if d = "." then { s with disk := upd s.disk p none } else s.setDisk p (E.rmDir d ((s.disk p).getD emptyC))) := by
  split
  · intro q hq
    simp only [upd_other _ _ _ _ hq, and_self]
  · exact agree_setDisk s p _

theorem Closed.atticLoop_mem {p : Path} (h : Closed (PlainOp p) C) (cfg : Cfg) (new : List (Dir × Digest)) (ov : Option Vid)
    (ob : Option BoState) (old keep : List (Dir × Digest)) : C (atticLoop E cfg p new ov ob old keep) := by
  induction old generalizing keep with
  | nil => exact h.pure _
  | cons x rest ih =>
    have next : ∀ k, C (Builder.prim (.setDir p (.co k ov ob)) (fun s => s.setDir p (.co k ov ob)) >>= fun _ =>
        atticLoop E cfg p new ov ob rest k) :=
      fun k => h.bind (h.prim ⟨rfl, (agree_setDir · _ _)⟩) fun _ => ih k
    exact h.ite
      (h.bind (h.whenM _ (h.prim ⟨rfl, (agree_setDir · _ _)⟩)) fun _ => h.bind h.getSt fun _ =>
        h.ite
          (h.orAbort (h.bind (h.prim ⟨rfl, agree_atticMove E p _⟩) fun _ =>
            h.bind (h.prim ⟨rfl, fun _ _ _ => ⟨rfl, rfl, rfl, rfl, rfl⟩⟩) fun _ => next _))
          (next _))
      (ih keep)

theorem Closed.checkoutRun_mem (i : Info) (h : Closed (OwnOp i.path) C) (cfg : Cfg) (ds : List Step) (old : OldCo)
    (oldHash : Option RH) (inH : Inputs) : C (checkoutRun E cfg i ds old oldHash inH) :=
  h.bind (h.plain.atticLoop_mem cfg _ _ _ _ _) fun _ => h.bind h.getSt fun _ => h.orAbort <|
  h.bind (h.prim (agree_setDir · _ _)) fun _ => h.bind h.getSt fun _ =>
  h.bind (h.ite (h.bind (h.prim (agree_forge · _)) fun _ => h.pure _) (h.pure _)) fun _ =>
  h.bind (h.runScript_mem i false _) fun _ => h.bind (h.prim (agree_setDir · _ _)) fun _ =>
  h.bind (h.prim (agree_setInputs · _ _)) fun _ => h.bind h.getSt fun _ =>
  h.bind (h.prim (agree_setVid · _ _)) fun _ => h.pure _

/-- `_cookCheckoutStep` around its run branch -/
theorem Closed.cookCheckout_mem (i : Info) (h : Closed (PlainOp i.path) C) (cfg : Cfg) (ds : List Step)
    (hrun : ∀ old oh inH, C (checkoutRun E cfg i ds old oh inH)) : C (cookCheckout E cfg i ds) :=
  h.bind h.constructDir_mem fun _ => h.bind h.getSt fun _ =>
  h.bind (h.whenM _ (h.prim ⟨rfl, (agree_reset · _ _)⟩)) fun _ => h.bind h.getSt fun _ =>
  h.bind (h.ite (hrun _ _ _) (h.pure _)) fun _ => h.bind h.getSt fun _ =>
  h.whenM _ (h.prim ⟨rfl, (agree_setResult · _ _)⟩)

/-- `_cookBuildStep` around `runRecord` -/
theorem Closed.cookBuild_mem (i : Info) (h : Closed (PlainOp i.path) C) (cfg : Cfg) (ds : List Step)
    (hrun : ∀ st inH iv, C (runRecord E i cfg.cleanBuild st ds inH iv)) : C (cookBuild E cfg i ds) :=
  h.bind h.getSt fun _ => h.bind h.constructDir_mem fun _ => h.bind h.getSt fun _ =>
  h.bind (h.ite
    (h.bind (h.ite
        (h.bind (h.whenM _ (h.prim ⟨rfl, (agree_reset · _ _)⟩)) fun _ =>
          h.bind (h.prim ⟨rfl, (agree_setDisk · _ _)⟩) fun _ => h.pure _)
        (h.pure _)) fun _ =>
      h.bind (h.prim ⟨rfl, (agree_reset · _ _)⟩) fun _ => h.pure _)
    (h.pure _)) fun _ =>
  h.bind h.getSt fun _ => h.ite (h.whenM _ (h.prim ⟨rfl, (agree_setResult · _ _)⟩)) (hrun _ _ _)

theorem Closed.preparePackage_mem (i : Info) (h : Closed (PlainOp i.path) C) (ds : List Step) : C (preparePackage i ds) :=
  h.bind h.getSt fun _ =>
  h.bind (h.ite
    (h.bind (h.whenM _ (h.prim ⟨rfl, (agree_reset · _ _)⟩)) fun _ =>
      h.bind (h.prim ⟨rfl, (agree_setDisk · _ _)⟩) fun _ => h.pure _)
    (h.pure _)) fun _ =>
  h.whenM _ (h.prim ⟨rfl, (agree_reset · _ _)⟩)

/-- `_cookPackageStep` around `runRecord` -/
theorem Closed.cookPackage_mem (i : Info) (h : Closed (PlainOp i.path) C) (cfg : Cfg) (pre ds : List Step)
    (hrun : ∀ st inH iv, C (runRecord E i true st (pre ++ ds) inH iv)) : C (cookPackage E cfg i pre ds) :=
  h.bind h.constructDir_mem fun _ => h.bind h.getSt fun _ => h.ite (h.pure _) (hrun _ _ _)

/-- `m` is composed of micro-operations confined to path `p`: it lies in every family that contains
these and is closed under composition -/
def Confined (p : Path) {α : Type} (m : M α) : Prop :=
  ∀ {C : {α : Type} → M α → Prop}, Closed (OwnOp p) C → C m

theorem confined_cookCheckout (cfg : Cfg) (i : Info) (ds : List Step) : Confined i.path (cookCheckout E cfg i ds) :=
  fun h => h.plain.cookCheckout_mem i cfg ds fun _ _ _ => h.checkoutRun_mem i cfg ds _ _ _

theorem confined_cookBuild (cfg : Cfg) (i : Info) (ds : List Step) : Confined i.path (cookBuild E cfg i ds) :=
  fun h => h.plain.cookBuild_mem i cfg ds fun _ _ _ => h.runRecord_mem i _ _ _ _ _

theorem confined_preparePackage (i : Info) (ds : List Step) : Confined i.path (preparePackage i ds) :=
  fun h => h.plain.preparePackage_mem i ds

theorem confined_cookPackage (cfg : Cfg) (i : Info) (pre ds : List Step) :
    Confined i.path (cookPackage E cfg i pre ds) :=
  fun h => h.plain.cookPackage_mem i cfg pre ds fun _ _ _ => h.runRecord_mem i _ _ _ _ _

/-- `m` writes only the components of workspace path `p` (and clock / attic list) and leaves the
in-memory bookkeeping alone -/
def FrameAt (p : Path) {α : Type} (m : M α) : Prop :=
  ∀ r, wp m (fun _ r' => AgreeOff p r.st r'.st ∧ r'.mem = r.mem) (fun _ => True) r

theorem frame_closed (p : Path) : Closed (OwnOp p) (FrameAt p) where
  pure a r := (wp_pure _ _ _ _).mpr ⟨AgreeOff.refl _ _, rfl⟩
  bind h1 h2 r := by
    rw [wp_bind]
    refine wp_post ?_ (h1 r)
    intro a r1 ⟨a1, m1⟩
    refine wp_post ?_ (h2 a r1)
    intro b r2 ⟨a2, m2⟩
    exact ⟨a1.trans a2, m2.trans m1⟩
  getSt r := (wp_getSt _ _ _).mpr ⟨AgreeOff.refl _ _, rfl⟩
  abort r := (wp_abort _ _ _).mpr trivial
  prim hf r := (wp_prim _ _ _ _ _).mpr ⟨fun _ => trivial, fun _ _ => ⟨hf _, rfl⟩⟩

def LogMono {α : Type} (m : M α) : Prop :=
  ∀ r, wp m (fun _ r' => ∃ l, r'.log = r.log ++ l) (fun _ => True) r

theorem logmono_closed : Closed (fun _ _ => True) LogMono where
  pure a r := (wp_pure _ _ _ _).mpr ⟨[], (List.append_nil _).symm⟩
  bind h1 h2 r := by
    rw [wp_bind]
    refine wp_post ?_ (h1 r)
    intro a r1 ⟨l1, e1⟩
    refine wp_post ?_ (h2 a r1)
    intro b r2 ⟨l2, e2⟩
    exact ⟨l1 ++ l2, by rw [e2, e1, List.append_assoc]⟩
  getSt r := (wp_getSt _ _ _).mpr ⟨[], (List.append_nil _).symm⟩
  abort r := (wp_abort _ _ _).mpr trivial
  prim _ r := (wp_prim _ _ _ _ _).mpr ⟨fun _ => trivial, fun _ _ => ⟨[_], rfl⟩⟩

theorem logmono_own (p : Path) : Closed (OwnOp p) LogMono := logmono_closed.mono fun _ _ _ => trivial

end Builder
