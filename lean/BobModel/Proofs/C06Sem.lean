import BobModel.Model.JobSem
/-
Invariants of the semaphore models (Model/JobSem.lean): `BInv` for asyncio.BoundedSemaphore, `LockOK` for
asyncio.Lock, `SemInv` for the job server semaphore in both modes.  Each is preserved by every operation of its
model, and under it `release` does not raise.
-/
namespace JobSem

theorem inflight_append (a b : List (Nat × Bool)) : inflight (a ++ b) = inflight a + inflight b := by
  simp [inflight, List.filter_append]

theorem notDone_append (a b : List (Nat × Bool)) : notDone (a ++ b) = notDone a + notDone b := by
  simp [notDone, List.filter_append]

@[simp] theorem inflight_nil : inflight [] = 0 := rfl
@[simp] theorem notDone_nil : notDone [] = 0 := rfl

@[simp] theorem inflight_cons (t : Nat) (d : Bool) (w : List (Nat × Bool)) :
    inflight ((t, d) :: w) = (if d then 1 else 0) + inflight w := by
  cases d <;> simp [inflight] <;> omega

@[simp] theorem notDone_cons (t : Nat) (d : Bool) (w : List (Nat × Bool)) :
    notDone ((t, d) :: w) = (if d then 0 else 1) + notDone w := by
  cases d <;> simp [notDone] <;> omega

theorem inflight_add_notDone (w : List (Nat × Bool)) : inflight w + notDone w = w.length := by
  induction w with
  | nil => rfl
  | cons a w ih => obtain ⟨t, d⟩ := a; cases d <;> simp <;> omega

theorem wakeFirst_some (w : List (Nat × Bool)) (h : 0 < notDone w) :
    ∃ w', wakeFirst w = some w' ∧ inflight w' = inflight w + 1 ∧ notDone w' + 1 = notDone w ∧ w'.length = w.length := by
  induction w with
  | nil => simp at h
  | cons a w ih =>
    obtain ⟨t, d⟩ := a
    cases d with
    | false => exact ⟨(t, true) :: w, by simp [wakeFirst], by simp; omega, by simp; omega, by simp⟩
    | true =>
      have h' : 0 < notDone w := by simpa using h
      obtain ⟨w', e, h1, h2, h3⟩ := ih h'
      exact ⟨(t, true) :: w', by simp [wakeFirst, e], by simp [h1]; omega, by simp; omega, by simp [h3]⟩

theorem wakeFirst_none (w : List (Nat × Bool)) (h : notDone w = 0) : wakeFirst w = none := by
  induction w with
  | nil => rfl
  | cons a w ih =>
    obtain ⟨t, d⟩ := a
    cases d with
    | false => simp at h
    | true => simp at h; simp [wakeFirst, ih h]

theorem erase_done (w : List (Nat × Bool)) (t : Nat) (h : w.contains (t, true) = true) :
    inflight (w.erase (t, true)) + 1 = inflight w ∧ notDone (w.erase (t, true)) = notDone w ∧
    (w.erase (t, true)).length + 1 = w.length := by
  induction w with
  | nil => simp at h
  | cons a w ih =>
    by_cases e : a = (t, true)
    · subst e; simp; omega
    · have hc : w.contains (t, true) = true := by
        simp only [List.contains_cons, Bool.or_eq_true, beq_iff_eq] at h
        rcases h with h | h
        · exact absurd h.symm e
        · exact h
      obtain ⟨h1, h2, h3⟩ := ih hc
      rw [List.erase_cons_tail (by simpa using e)]
      obtain ⟨u, d⟩ := a
      cases d <;> simp <;> omega

theorem wakeLoop_zero (fuel : Nat) (s : ASem) (h : s.value = 0) : ASem.wakeLoop fuel s = s := by
  cases fuel with
  | zero => rfl
  | succ f => simp [ASem.wakeLoop, h]

theorem wakeNext_inv (s : ASem) (hv : 0 < s.value) :
    s.wakeNext.1.value + inflight s.wakeNext.1.waiters = s.value + inflight s.waiters ∧
    s.wakeNext.1.waiters.length = s.waiters.length := by
  unfold ASem.wakeNext
  by_cases h : 0 < notDone s.waiters
  · obtain ⟨w', e, h1, _, h3⟩ := wakeFirst_some _ h
    simp [e, h1, h3]; omega
  · have : notDone s.waiters = 0 := by omega
    simp [wakeFirst_none _ this]

theorem wakeLoop_inv (fuel : Nat) (s : ASem) :
    (ASem.wakeLoop fuel s).value + inflight (ASem.wakeLoop fuel s).waiters = s.value + inflight s.waiters ∧
    (ASem.wakeLoop fuel s).waiters.length = s.waiters.length := by
  induction fuel generalizing s with
  | zero => simp [ASem.wakeLoop]
  | succ f ih =>
    unfold ASem.wakeLoop
    by_cases hv : 0 < s.value
    · simp only [hv, ↓reduceIte]
      have hn := wakeNext_inv s hv
      rcases hw : s.wakeNext with ⟨s', b⟩
      rw [hw] at hn
      cases b with
      | true => simp only; have := ih s'; simp only at hn; omega
      | false => simp
    · simp [hv]

/-- `h` owners, `b` slots: asyncio.BoundedSemaphore -/
def BInv (b h : Nat) (s : ASem) : Prop := s.value + h + inflight s.waiters = b

theorem BInv.acquire {b h : Nat} {s : ASem} (t : Nat) (hi : BInv b h s) :
    ((s.acquire t).2 = .got → BInv b (h + 1) (s.acquire t).1 ∧ (s.acquire t).1.waiters = s.waiters) ∧
    ((s.acquire t).2 = .blocked → BInv b h (s.acquire t).1 ∧ (s.acquire t).1.waiters = s.waiters ++ [(t, false)]) := by
  unfold ASem.acquire
  by_cases hl : s.locked = true
  · simp [hl, BInv, inflight_append] at *; exact hi
  · simp only [hl]
    have hv : 0 < s.value := by
      simp [ASem.locked] at hl; omega
    simp [BInv] at *; omega

theorem BInv.resume {b h : Nat} {s : ASem} (t : Nat) (hi : BInv b h s) (hw : s.woken t = true) :
    BInv b (h + 1) (s.resume t) ∧ (s.resume t).waiters.length + 1 = s.waiters.length := by
  unfold ASem.resume
  obtain ⟨h1, _, h3⟩ := erase_done s.waiters t hw
  have := wakeLoop_inv ({ s with waiters := s.waiters.erase (t, true) } : ASem).value { s with waiters := s.waiters.erase (t, true) }
  simp only [BInv] at *
  omega

theorem release_inv (s : ASem) :
    s.release.value + inflight s.release.waiters = s.value + 1 + inflight s.waiters ∧
    s.release.waiters.length = s.waiters.length := by
  unfold ASem.release
  have := wakeNext_inv ({ s with value := s.value + 1 } : ASem) (by simp)
  simpa using this

theorem BInv.release {b h : Nat} {s : ASem} (hi : BInv b (h + 1) s) :
    ∃ s', s.releaseBounded b = .ok s' ∧ BInv b h s' ∧ s'.waiters.length = s.waiters.length := by
  unfold ASem.releaseBounded
  have hv : ¬ s.value ≥ b := by simp [BInv] at hi; omega
  rw [if_neg hv]
  refine ⟨_, rfl, ?_, (release_inv s).2⟩
  have := (release_inv s).1
  simp only [BInv] at *; omega

/-- the lock agrees with `h` tasks inside `async with` and `w` tasks suspended in `acquire`: it is locked iff
one task is inside; at most one waiter has been woken, and only while the lock is free -/
def LockOK (l : ALock) (h w : Nat) : Prop :=
  (l.locked = true → h = 1 ∧ inflight l.waiters = 0) ∧ (l.locked = false → h = 0 ∧ inflight l.waiters ≤ 1) ∧
    l.waiters.length = w

theorem LockOK.acquire_got {l l' : ALock} {h w t : Nat} (hi : LockOK l h w) (e : l.acquire t = (l', .got)) :
    LockOK l' (h + 1) w := by
  obtain ⟨_, h2, h3⟩ := hi
  unfold ALock.acquire at e
  split at e <;> cases e
  rename_i hc
  simp only [Bool.and_eq_true, Bool.not_eq_true', List.isEmpty_iff] at hc
  have := h2 hc.1
  exact ⟨fun _ => ⟨by omega, by rw [hc.2]; rfl⟩, fun hf => Bool.noConfusion hf, h3⟩

theorem LockOK.acquire_blocked {l l' : ALock} {h w t : Nat} (hi : LockOK l h w) (e : l.acquire t = (l', .blocked)) :
    LockOK l' h (w + 1) := by
  obtain ⟨h1, h2, h3⟩ := hi
  unfold ALock.acquire at e
  split at e <;> cases e
  exact ⟨by simpa [inflight_append] using h1, by simpa [inflight_append] using h2, by simp [h3]⟩

/-- only a free lock has a woken waiter; when that waiter continues it is inside -/
theorem LockOK.resume {l : ALock} {h w t : Nat} (hi : LockOK l h w) (hw : l.woken t = true) :
    LockOK (l.resume t) (h + 1) (w - 1) ∧ 0 < w := by
  obtain ⟨h1, h2, h3⟩ := hi
  obtain ⟨e1, _, e3⟩ := erase_done _ t hw
  have hf : l.locked = false := by
    cases hl : l.locked
    · rfl
    · have := (h1 hl).2; omega
  have := h2 hf
  exact ⟨⟨fun _ => ⟨by omega, by simp only [ALock.resume]; omega⟩, fun hc => Bool.noConfusion hc,
    by simp only [ALock.resume]; omega⟩, by omega⟩

theorem inflight_wakeHead (w : List (Nat × Bool)) (h : inflight w = 0) :
    inflight (wakeHead w) ≤ 1 ∧ (wakeHead w).length = w.length := by
  cases w with
  | nil => simp [wakeHead]
  | cons a r =>
    obtain ⟨t, d⟩ := a
    cases d <;> simp_all [wakeHead]

/-- a task inside the lock finds it locked: `release` does not raise -/
theorem LockOK.release {l : ALock} {h w : Nat} (hi : LockOK l (h + 1) w) :
    ∃ l', l.release = .ok l' ∧ LockOK l' h w := by
  obtain ⟨h1, h2, h3⟩ := hi
  have hl : l.locked = true := by
    cases hl : l.locked
    · have := (h2 hl).1; omega
    · rfl
  obtain ⟨k1, k2⟩ := inflight_wakeHead _ (h1 hl).2
  have := (h1 hl).1
  exact ⟨{ locked := false, waiters := wakeHead l.waiters }, by simp [ALock.release, hl],
    fun hc => Bool.noConfusion hc, fun _ => ⟨by omega, k1⟩, h3 ▸ k2⟩

/-- the implicit slot of the parent `make` is in use -/
def imp (s : St) : Nat := if s.recursive && decide (0 < s.acquired) then 1 else 0

/-- invariant of the job server semaphore; `n` = tokens that circulate (pipe, `__tokens`, child makes).
`__acquired` counts the owners including those a slot was handed over to and who have not continued yet. -/
def SemInv (n : Nat) (s : St) : Prop :=
  s.pipe + s.tokens + s.envHeld = n ∧
  s.tokens + imp s = s.acquired ∧
  s.waitersCnt = notDone s.sem.waiters ∧ s.sem.value = 0 ∧ (s.reader = true ↔ 0 < s.waitersCnt) ∧
  (s.recursive = true → 0 < s.waitersCnt → 0 < s.acquired)

theorem SemInv.init (r : Bool) (n : Nat) : SemInv n (St.init r n) := by
  simp [SemInv, St.init, imp]

theorem sem_acquire_blocked (s : ASem) (t : Nat) (h : s.value = 0) :
    s.acquire t = ({ s with waiters := s.waiters ++ [(t, false)] }, .blocked) := by
  simp [ASem.acquire, ASem.locked, h]

theorem SemInv.acquire {n : Nat} {s : St} (t : Nat) (h : SemInv n s) :
    SemInv n (s.acquire t).1 ∧
    ((s.acquire t).2 = .got → (s.acquire t).1.acquired = s.acquired + 1 ∧ (s.acquire t).1.sem.waiters = s.sem.waiters) ∧
    ((s.acquire t).2 = .blocked → (s.acquire t).1.acquired = s.acquired ∧
      (s.acquire t).1.sem.waiters = s.sem.waiters ++ [(t, false)]) := by
  obtain ⟨h1, h2, h3, h4, h5, h6⟩ := h
  unfold St.acquire
  by_cases e0 : (s.recursive && s.acquired == 0) = true
  · simp only [e0, ↓reduceIte]
    have hr : s.recursive = true := by simp at e0; exact e0.1
    have ha : s.acquired = 0 := by simp at e0; exact e0.2
    have ht : s.tokens = 0 := by simp [imp, ha] at h2; exact h2
    refine ⟨⟨h1, ?_, h3, h4, h5, ?_⟩, ?_, ?_⟩
    · simp [imp, hr, ht]
    · intro _ _; simp
    · intro _; simp [ha]
    · intro hc; simp at hc
  · have e0' : (s.recursive && s.acquired == 0) = false := by simpa using e0
    simp only [e0', Bool.false_eq_true, ↓reduceIte]
    by_cases hp : s.pipe > 0
    · simp only [hp, ↓reduceIte]
      refine ⟨⟨by simp only; omega, ?_, h3, h4, h5, ?_⟩, ?_, ?_⟩
      · simp only [imp] at *
        cases hr : s.recursive <;> simp [hr] at e0' h2 ⊢
        · omega
        · have : 0 < s.acquired := by omega
          simp [this] at h2; omega
      · intro _ _; simp
      · intro _; simp
      · intro hc; simp at hc
    · simp only [hp, ↓reduceIte, sem_acquire_blocked _ t h4]
      refine ⟨⟨h1, ?_, ?_, h4, ?_, ?_⟩, ?_, ?_⟩
      · simpa [imp] using h2
      · simp [notDone_append]; exact h3
      · simp; by_cases hz : s.waitersCnt = 0 <;> simp [hz]
        have := h5.2 (by omega); exact this
      · intro hr _
        have hr' : s.recursive = true := hr
        simp only
        cases ha : s.acquired with
        | zero => simp [hr', ha] at e0'
        | succ k => omega
      · intro hc; simp at hc
      · intro _; simp

theorem SemInv.resume {n : Nat} {s : St} (t : Nat) (h : SemInv n s) (hw : s.woken t = true) :
    SemInv n (s.resume t) ∧ (s.resume t).acquired = s.acquired ∧
    (s.resume t).sem.waiters.length + 1 = s.sem.waiters.length ∧
    inflight (s.resume t).sem.waiters + 1 = inflight s.sem.waiters := by
  obtain ⟨h1, h2, h3, h4, h5, h6⟩ := h
  obtain ⟨e1, e2, e3⟩ := erase_done s.sem.waiters t hw
  have hres : s.sem.resume t = { s.sem with waiters := s.sem.waiters.erase (t, true) } := by
    unfold ASem.resume
    exact wakeLoop_zero _ _ h4
  unfold St.resume
  rw [hres]
  refine ⟨⟨h1, h2, ?_, h4, h5, h6⟩, rfl, e3, e1⟩
  simp only; omega

theorem sem_release_handover (s : ASem) (hv : s.value = 0) (hn : 0 < notDone s.waiters) :
    s.release.value = 0 ∧ inflight s.release.waiters = inflight s.waiters + 1 ∧
    notDone s.release.waiters + 1 = notDone s.waiters ∧ s.release.waiters.length = s.waiters.length := by
  obtain ⟨w', e, h1, h2, h3⟩ := wakeFirst_some _ hn
  simp [ASem.release, ASem.wakeNext, e, hv, h1, h3]; omega

/-- `release` by an owner: never raises; the number of owners that are not in flight drops by one -/
theorem SemInv.release {n : Nat} {s : St} (h : SemInv n s) (ha : 0 < s.acquired) :
    ∃ s', s.release = .ok s' ∧ SemInv n s' ∧
      s'.acquired + inflight s.sem.waiters + 1 = s.acquired + inflight s'.sem.waiters ∧
      s'.sem.waiters.length = s.sem.waiters.length := by
  obtain ⟨h1, h2, h3, h4, h5, h6⟩ := h
  unfold St.release
  have ha' : (s.acquired == 0) = false := by simp; omega
  simp only [ha', Bool.false_eq_true, ↓reduceIte]
  by_cases hw : s.waitersCnt = 0
  · have hne : (s.waitersCnt != 0) = false := by simp [hw]
    simp only [hne, Bool.false_eq_true, ↓reduceIte]
    by_cases e1 : (!s.recursive || decide (s.acquired > 1)) = true
    · simp only [e1, ↓reduceIte]
      have ht : s.tokens ≠ 0 := by
        simp only [imp] at h2
        cases hr : s.recursive <;> simp [hr] at e1 h2
        · omega
        · have : 0 < s.acquired := by omega
          simp [this] at h2; omega
      have ht' : (s.tokens == 0) = false := by simpa using ht
      simp only [ht', Bool.false_eq_true, ↓reduceIte]
      refine ⟨_, rfl, ⟨by simp only; omega, ?_, h3, h4, h5, ?_⟩, by simp only; omega, rfl⟩
      · simp only [imp] at *
        cases hr : s.recursive <;> simp [hr] at e1 h2 ⊢
        · omega
        · have p1 : 0 < s.acquired := by omega
          have p2 : 0 < s.acquired - 1 := by omega
          simp [p1] at h2; simp [p2]; omega
      · intro _ hc; simp only at hc; omega
    · have e1' : (!s.recursive || decide (s.acquired > 1)) = false := by simpa using e1
      simp only [e1', Bool.false_eq_true, ↓reduceIte]
      have hr : s.recursive = true := by simp at e1'; exact e1'.1
      have h1a : s.acquired = 1 := by simp at e1'; omega
      refine ⟨_, rfl, ⟨h1, ?_, h3, h4, h5, ?_⟩, by simp only; omega, rfl⟩
      · simp [imp, hr, h1a] at h2 ⊢; exact h2
      · intro _ hc; simp only at hc; omega
  · have hne : (s.waitersCnt != 0) = true := by simp [hw]
    simp only [hne, ↓reduceIte]
    obtain ⟨r1, r2, r3, r4⟩ := sem_release_handover s.sem h4 (by omega)
    refine ⟨_, rfl, ⟨h1, ?_, ?_, r1, ?_, ?_⟩, ?_, r4⟩
    · simpa [imp] using h2
    · simp only; omega
    · simp only
      by_cases hz : s.waitersCnt - 1 = 0
      · simp [hz]
      · have : (s.waitersCnt - 1 == 0) = false := by simpa using hz
        simp only [this, Bool.false_eq_true, ↓reduceIte]
        constructor
        · intro _; omega
        · intro _; exact h5.2 (by omega)
    · intro _ _; simp only; exact ha
    · simp only; omega

theorem release_zero (s : St) (h : s.acquired = 0) : s.release = .error .valueError := by
  simp [St.release, h]

/-- `SemInv` without its clause about `reader`: the loop of `jobavailableCallback` lowers `__waitersCnt` and the
reader is only removed after it -/
def CbPre (n : Nat) (s : St) : Prop :=
  s.pipe + s.tokens + s.envHeld = n ∧ s.tokens + imp s = s.acquired ∧
    s.waitersCnt = notDone s.sem.waiters ∧ s.sem.value = 0 ∧ (s.recursive = true → 0 < s.waitersCnt → 0 < s.acquired)

theorem cbLoop_inv {n : Nat} (fuel : Nat) (s : St) (h : CbPre n s) :
    CbPre n (cbLoop fuel s) ∧
    (cbLoop fuel s).acquired + inflight s.sem.waiters = s.acquired + inflight (cbLoop fuel s).sem.waiters ∧
    (cbLoop fuel s).sem.waiters.length = s.sem.waiters.length ∧
    (cbLoop fuel s).reader = s.reader ∧ (cbLoop fuel s).waitersCnt ≤ s.waitersCnt ∧
    (0 < fuel → 0 < s.waitersCnt → 0 < s.pipe → (cbLoop fuel s).waitersCnt < s.waitersCnt) := by
  induction fuel generalizing s with
  | zero => exact ⟨h, rfl, rfl, rfl, Nat.le_refl _, fun h0 => absurd h0 (by omega)⟩
  | succ f ih =>
    obtain ⟨h1, h2, h3, h4, h6⟩ := h
    unfold cbLoop
    by_cases hw : s.waitersCnt = 0
    · have hw' : (s.waitersCnt == 0) = true := by simpa using hw
      simp only [hw', ↓reduceIte]
      exact ⟨⟨h1, h2, h3, h4, h6⟩, trivial, trivial, trivial, Nat.le_refl _, by intros; omega⟩
    · have hw' : (s.waitersCnt == 0) = false := by simpa using hw
      simp only [hw', Bool.false_eq_true, ↓reduceIte]
      by_cases hp : s.pipe = 0
      · have hp' : (s.pipe == 0) = true := by simpa using hp
        simp only [hp', ↓reduceIte]
        exact ⟨⟨h1, h2, h3, h4, h6⟩, trivial, trivial, trivial, Nat.le_refl _, by intros; omega⟩
      · have hp' : (s.pipe == 0) = false := by simpa using hp
        simp only [hp', Bool.false_eq_true, ↓reduceIte]
        obtain ⟨r1, r2, r3, r4⟩ := sem_release_handover s.sem h4 (by omega)
        have himp : s.tokens + 1 + (if (s.recursive && decide (0 < s.acquired + 1)) = true then 1 else 0) = s.acquired + 1 := by
          simp only [imp] at h2
          cases hr : s.recursive <;> simp [hr] at h2 h6 ⊢
          · omega
          · have : 0 < s.acquired := h6 (by omega)
            simp [this] at h2; omega
        have := ih { s with pipe := s.pipe - 1, tokens := s.tokens + 1, waitersCnt := s.waitersCnt - 1, acquired := s.acquired + 1, sem := s.sem.release }
          ⟨by simp only; omega, by simpa only [imp] using himp, by simp only; omega, r1, by intro _ _; simp only; omega⟩
        obtain ⟨i1, i2, i3, i4, i5, _⟩ := this
        simp only at i2 i3 i4 i5
        refine ⟨i1, by omega, by omega, i4, by omega, ?_⟩
        intro _ _ _; omega

theorem SemInv.callback {n : Nat} {s : St} (h : SemInv n s) :
    SemInv n s.callback ∧
    s.callback.acquired + inflight s.sem.waiters = s.acquired + inflight s.callback.sem.waiters ∧
    s.callback.sem.waiters.length = s.sem.waiters.length := by
  obtain ⟨h1, h2, h3, h4, h5, h6⟩ := h
  have := cbLoop_inv (n := n) s.waitersCnt s ⟨h1, h2, h3, h4, h6⟩
  obtain ⟨⟨c1, c2, c3, c4, c6⟩, a1, a2, a3, a4, _⟩ := this
  unfold St.callback
  simp only
  by_cases hz : (cbLoop s.waitersCnt s).waitersCnt = 0
  · have : ((cbLoop s.waitersCnt s).waitersCnt == 0) = true := by simpa using hz
    simp only [this, ↓reduceIte]
    refine ⟨⟨c1, ?_, c3, c4, ?_, ?_⟩, a1, a2⟩
    · simpa [imp] using c2
    · simp [hz]
    · intro _ hc; simp only at hc; omega
  · have : ((cbLoop s.waitersCnt s).waitersCnt == 0) = false := by simpa using hz
    simp only [this, Bool.false_eq_true, ↓reduceIte]
    refine ⟨⟨c1, c2, c3, c4, ?_, c6⟩, a1, a2⟩
    rw [a3]
    constructor
    · intro _; omega
    · intro _; exact h5.2 (by omega)

/-- the callback serves waiters as long as tokens are in the pipe -/
theorem SemInv.callback_serves {n : Nat} {s : St} (h : SemInv n s) (hw : 0 < s.waitersCnt) (hp : 0 < s.pipe) :
    s.callback.waitersCnt < s.waitersCnt := by
  obtain ⟨h1, h2, h3, h4, h5, h6⟩ := h
  have := cbLoop_inv (n := n) s.waitersCnt s ⟨h1, h2, h3, h4, h6⟩
  obtain ⟨_, _, _, _, _, a5⟩ := this
  have := a5 hw hw hp
  unfold St.callback
  simp only
  split <;> (try simp only) <;> omega

theorem SemInv.envTake {n : Nat} {s s' : St} (h : SemInv n s) (e : s.envTake = some s') :
    SemInv n s' ∧ s'.acquired = s.acquired ∧ s'.sem.waiters = s.sem.waiters := by
  obtain ⟨h1, h2, h3, h4, h5, h6⟩ := h
  unfold St.envTake at e
  split at e
  · cases e
    exact ⟨⟨by simp only; omega, by simpa [imp] using h2, h3, h4, h5, h6⟩, rfl, rfl⟩
  · cases e

theorem SemInv.envReturn {n : Nat} {s s' : St} (h : SemInv n s) (e : s.envReturn = some s') :
    SemInv n s' ∧ s'.acquired = s.acquired ∧ s'.sem.waiters = s.sem.waiters := by
  obtain ⟨h1, h2, h3, h4, h5, h6⟩ := h
  unfold St.envReturn at e
  split at e
  · cases e
    exact ⟨⟨by simp only; omega, by simpa [imp] using h2, h3, h4, h5, h6⟩, rfl, rfl⟩
  · cases e

theorem SemInv.acquired_le {n : Nat} {s : St} (h : SemInv n s) :
    s.acquired ≤ n + (if s.recursive then 1 else 0) := by
  obtain ⟨h1, h2, _⟩ := h
  simp only [imp] at h2
  cases hr : s.recursive <;> simp [hr] at h2 ⊢
  · omega
  · by_cases hp : 0 < s.acquired
    · simp [hp] at h2; omega
    · omega

/-- safety form of "no lost wake-up": a waiter that has not been served implies that the reader
callback of the pipe is registered (so a token arriving in the pipe is noticed) -/
theorem SemInv.no_lost_wakeup {n : Nat} {s : St} (h : SemInv n s) (hw : 0 < notDone s.sem.waiters) :
    s.reader = true := by
  obtain ⟨_, _, h3, _, h5, _⟩ := h
  exact h5.2 (by omega)

end JobSem
