import BobModel.Model.ArchiveFS
/-
C09: the inductive invariant of the archive transition system.

One operation of a process is analysed program counter by program counter (`exec_shape`): what it does to
the name table, the inode table, the counters and the process records (`Shape`), and how the program counter
moves (`Flow`).  Every field of the invariant but one is then preserved by an argument over the three shapes
(`Inv.step`); what the stepping process has read (`readerOk`) is a hypothesis there, and `exec_reader_self`
looks into `exec` a second time for the reader's two operations.
-/
namespace ArchiveFS

theorem upd_apply {α β : Type} [DecidableEq α] (f : α → β) (a : α) (b : β) (x : α) :
    upd f a b x = if x = a then b else f x := rfl

theorem upd_self {α β : Type} [DecidableEq α] (f : α → β) (a : α) (b : β) : upd f a b a = b := by
  simp [upd]

theorem upd_some {α β : Type} [DecidableEq α] {f : α → Option β} {a x : α} {b : Option β} {i : β}
    (h : upd f a b x = some i) : x = a ∧ b = some i ∨ x ≠ a ∧ f x = some i := by
  rw [upd_apply] at h
  split at h
  · exact .inl ⟨‹_›, h⟩
  · exact .inr ⟨‹_›, h⟩

theorem upd_ne {α β : Type} [DecidableEq α] (f : α → β) {a x : α} (b : β) (h : x ≠ a) : upd f a b x = f x := by
  simp [upd, h]

/-- the process works on its temporary file -/
@[simp] def PC.working : PC → Bool
  | .fetch _ | .write _ | .flush | .close _ | .chmod | .publish | .fClose | .fUnlink | .unlink _ => true
  | _ => false

/-- the process has not reached `create` yet -/
@[simp] def PC.early : PC → Bool
  | .mOpen | .statDest | .ensureDir | .create | .rOpen | .rRead _ => true
  | _ => false

/-- where a process can be once its `link()`/`replace()` has bound the name; `.done .failed`: the `unlink` after a
successful `link()` raised -/
@[simp] def PC.postLink : PC → Bool
  | .unlink .linked | .done .ok | .done .failed => true
  | _ => false

@[simp] def PC.readerPc : PC → Bool
  | .rOpen | .rRead _ | .done _ => true
  | _ => false

/-- the pcs at which `readerOk` says something -/
@[simp] def PC.reads : PC → Bool
  | .rRead _ | .done .read => true
  | _ => false

/-- the process is on the failure edge of `__exit__`, has lost the race, or has returned -/
@[simp] def PC.gaveUp : PC → Bool
  | .fClose | .fUnlink | .done _ | .close false | .unlink .lost | .unlink .err => true
  | _ => false

def contentOk (pr : Params) (pc : PC) (n : Inode) : Prop :=
  match pc with
  | .fetch k => k ≤ pr.nPack ∧ n.chunks = (written pr).take k
  | .write k => k < pr.nPack ∧ n.chunks = (written pr).take k
  | .flush => n.chunks = (written pr).take pr.nPack
  | .close true => n.chunks = written pr
  | .chmod => n.chunks = written pr ∧ n.closed = true
  | .publish => n.chunks = written pr ∧ n.closed = true
  | _ => True

def readerOk (s : State) (q : Proc) : Prop :=
  match q.pc with
  | .rRead pos => s.names .art = some q.rino ∧ q.acc = (s.inodes q.rino).chunks.take pos
  | .done .read => s.names .art = some q.rino ∧ q.acc = (s.inodes q.rino).chunks
  | _ => True

/-- Every inode has a ghost owner, its creator, and a process knows its one inode and temporary name (`own`, `created`).
`names_own` is what the property theorems read: a name is bound to an inode only as the owner's temporary name, or as
the owner's destination once the owner's own `link()`/`replace()` has set its ghost flag; by `linked` the inode is
then closed, complete and no longer written (`postLink`). -/
structure Inv (prog : Pid → Params) (s : State) : Prop where
  names_lt : ∀ n i, s.names n = some i → i < s.nextIno
  tmp_lt : ∀ k i, s.names (.tmp k) = some i → k < s.nextTmp
  own : ∀ i, i < s.nextIno →
    (s.procs (s.inodes i).owner).created = true ∧ (s.procs (s.inodes i).owner).ino = i
  created : ∀ p, (s.procs p).created = true →
    (s.procs p).ino < s.nextIno ∧ (s.inodes (s.procs p).ino).owner = p
  working : ∀ p, (s.procs p).pc.working = true → (s.procs p).created = true
  early : ∀ p, (s.procs p).pc.early = true → (s.procs p).created = false
  content : ∀ p, (s.procs p).created = true →
    contentOk (prog p) (s.procs p).pc (s.inodes (s.procs p).ino)
  linked : ∀ p, (s.procs p).linked = true →
    (s.procs p).created = true ∧ (s.procs p).pc.postLink = true ∧
    (s.inodes (s.procs p).ino).chunks = written (prog p) ∧ (s.inodes (s.procs p).ino).closed = true
  names_own : ∀ n i, s.names n = some i →
    n = .tmp (s.procs (s.inodes i).owner).tmp ∨
    (n = dest (prog (s.inodes i).owner).kind ∧ (s.procs (s.inodes i).owner).linked = true)
  reader : ∀ p, readerOk s (s.procs p)
  readers : ∀ p, (prog p).kind = .reader → (s.procs p).created = false ∧ (s.procs p).pc.readerPc = true

theorem inv_init (prog : Pid → Params) : Inv prog (init prog) where
  names_lt := by simp [init]
  tmp_lt := by simp [init]
  own := by simp [init]
  created := by simp [init]
  working := by intro p; cases h : (prog p).kind <;> simp [init, h, startPc, PC.working]
  early := by simp [init]
  content := by simp [init]
  linked := by simp [init]
  names_own := by simp [init]
  reader := by intro p; cases h : (prog p).kind <;> simp [init, h, startPc, readerOk]
  readers := by intro p h; simp [init, h, startPc]

/-- `replace()` is only ever used on a metadata name: the `overwrite` flag of the current source is
set at no call site that publishes under the artifact name -/
theorem overwrite_kind (k : Kind) (h : overwrite k = true) : ∃ x, k = .md x := by
  cases k <;> simp_all [overwrite, Consts.C09.overwritePackage, Consts.C09.overwriteCache]

theorem dest_ne_tmp (k : Kind) (t : Nat) : dest k ≠ .tmp t := by
  cases k <;> simp [dest]

theorem finalResult_ne_read (st : LinkSt) : finalResult st ≠ .read := by
  cases st <;> simp [finalResult]

/-- How the program counter of a process moves in one operation, as far as the invariant cares;
`n`, `n'` are the inode of its temporary file before and after. -/
structure Flow (pr : Params) (pc pc' : PC) (n n' : Inode) : Prop where
  working : pc'.working = true → pc.working = true
  early : pc'.early = true → pc.early = true
  content : contentOk pr pc n → contentOk pr pc' n'
  postLink : pc.postLink = true → pc'.postLink = true ∧ n' = n
  readerPc : pc.readerPc = true → pc'.readerPc = true
  reads : pc'.reads = true → pc = .rOpen ∨ (∃ pos, pc = .rRead pos) ∨ pc = .done .read
  gaveUp : pc.gaveUp = true → pc'.gaveUp = true

theorem Flow.refl {pr : Params} {pc : PC} {n : Inode} : Flow pr pc pc n n :=
  ⟨id, id, id, fun h => ⟨h, rfl⟩, id, fun h => .inr (by cases pc with | done r => cases r <;> simp_all | _ => simp_all), id⟩

/-- an operation that raises with nothing left to clean up -/
theorem Flow.failed {pr : Params} {pc : PC} {n : Inode} : Flow pr pc (.done .failed) n n := by
  constructor <;> simp [contentOk]

def Proc.sameIds (q q' : Proc) : Prop :=
  q'.created = q.created ∧ q'.tmp = q.tmp ∧ q'.ino = q.ino

/-- `NamedTemporaryFile`: a fresh inode under a fresh temporary name -/
structure Created (s : State) (p : Pid) (s' : State) : Prop where
  pc : (s.procs p).pc = .create
  pc' : (s'.procs p).pc = .fetch 0
  names : s'.names = upd s.names (.tmp s.nextTmp) (some s.nextIno)
  inodes : s'.inodes = upd s.inodes s.nextIno { owner := p }
  nextIno : s'.nextIno = s.nextIno + 1
  nextTmp : s'.nextTmp = s.nextTmp + 1
  ids : (s'.procs p).created = true ∧ (s'.procs p).tmp = s.nextTmp ∧ (s'.procs p).ino = s.nextIno
  linked : (s'.procs p).linked = (s.procs p).linked
  frame : ∀ p', p' ≠ p → s'.procs p' = s.procs p'

/-- What one operation of `p` does to the name table, the inode table and the ghost fields of `p`; the records of
the other processes stay as they are.
`quiet`: no name is bound, at most the process' own temporary name is unbound (`unlink`); the process may
write into its own temporary file, but only while `working`.  The other two are the calls that bind a name:
`NamedTemporaryFile` and `link`/`replace`.
`f`: the step is not a `run` choice (it raises, or is a kill); only `publish.hrun` uses it: a step that binds a
destination name is a `run`. -/
inductive Shape (pr : Params) (s : State) (p : Pid) (f : Bool) (s' : State) : Prop
  | quiet (hn : s'.names = s.names ∨ s'.names = upd s.names (.tmp (s.procs p).tmp) none) (hi : s'.nextIno = s.nextIno) (ht : s'.nextTmp = s.nextTmp)
      (hq : (s.procs p).sameIds (s'.procs p)) (hl : (s'.procs p).linked = (s.procs p).linked)
      (hino : s'.inodes = s.inodes ∨ (s.procs p).pc.working = true ∧
        s'.inodes = upd s.inodes (s.procs p).ino (s'.inodes (s.procs p).ino) ∧
        (s'.inodes (s.procs p).ino).owner = (s.inodes (s.procs p).ino).owner)
      (hf : Flow pr (s.procs p).pc (s'.procs p).pc (s.inodes (s.procs p).ino) (s'.inodes (s.procs p).ino))
      (ho : ∀ p', p' ≠ p → s'.procs p' = s.procs p')
  | create (hc : Created s p s')
  | publish (hrun : f = false) (hpc : (s.procs p).pc = .publish) (hpc' : (s'.procs p).pc.postLink = true)
      (hn : overwrite pr.kind = true ∧
          s'.names = upd (upd s.names (dest pr.kind) (some (s.procs p).ino)) (.tmp (s.procs p).tmp) none ∨
        s.names (dest pr.kind) = none ∧ s'.names = upd s.names (dest pr.kind) (some (s.procs p).ino))
      (hino : s'.inodes = s.inodes) (hi : s'.nextIno = s.nextIno) (ht : s'.nextTmp = s.nextTmp)
      (hq : (s.procs p).sameIds (s'.procs p)) (hl : (s'.procs p).linked = true)
      (ho : ∀ p', p' ≠ p → s'.procs p' = s.procs p')

section Step
variable {prog : Pid → Params} {pr : Params} {s : State} {p : Pid} {f : Bool}

theorem Shape.goto {pc' : PC} (hf : Flow pr (s.procs p).pc pc' (s.inodes (s.procs p).ino) (s.inodes (s.procs p).ino)) :
    Shape pr s p f (setPc s p pc') :=
  .quiet (.inl rfl) rfl rfl (by simp [Proc.sameIds, setPc, upd_self]) (by simp [setPc, upd_self]) (.inl rfl)
    (by simpa [setPc, upd_self] using hf) (fun _ h => upd_ne _ _ h)

theorem Shape.write {g : Inode → Inode} {pc' : PC} (hw : (s.procs p).pc.working = true)
    (hg : ∀ n, (g n).owner = n.owner)
    (hf : Flow pr (s.procs p).pc pc' (s.inodes (s.procs p).ino) (g (s.inodes (s.procs p).ino))) :
    Shape pr s p f (setPc (modInode s (s.procs p).ino g) p pc') :=
  .quiet (.inl rfl) rfl rfl (by simp [Proc.sameIds, setPc, modInode, upd_self]) (by simp [setPc, modInode, upd_self])
    (.inr ⟨hw, by simp [setPc, modInode, upd_self], by simp [setPc, modInode, upd_self, hg]⟩)
    (by simpa [setPc, modInode, upd_self] using hf) (fun _ h => upd_ne _ _ h)

theorem exec_shape (pr : Params) (s : State) (p : Pid) (f : Bool) : Shape pr s p f (exec pr s p f) := by
  cases hpc : (s.procs p).pc <;> simp only [exec, hpc]
  case mOpen =>
    split
    · exact .goto .failed
    · exact .goto (by rw [hpc]; constructor <;> simp [contentOk])
  case statDest => (repeat' split) <;> exact .goto (by rw [hpc]; constructor <;> simp [contentOk])
  case ensureDir =>
    split
    · exact .goto .failed
    · exact .quiet (.inl rfl) rfl rfl (by simp [Proc.sameIds, setPc, upd_self]) (by simp [setPc, upd_self]) (.inl rfl)
        (by simp only [setPc, upd_self, hpc]; constructor <;> simp [contentOk]) (fun _ h => upd_ne _ _ h)
  case create =>
    split
    · exact .goto .failed
    · exact .create ⟨hpc, by simp [upd_self], rfl, rfl, rfl, rfl, by simp [upd_self], by simp [upd_self], fun _ h => upd_ne _ _ h⟩
  case fetch k =>
    split
    · exact .goto (by rw [hpc]; constructor <;> simp [contentOk])
    · refine .goto ?_
      rw [hpc]; unfold afterFetch
      split <;> constructor <;> simp_all [contentOk] <;> omega
  case write k =>
    split
    · exact .goto (by rw [hpc]; constructor <;> simp [contentOk])
    · refine .write (by rw [hpc]; rfl) (by intro; rfl) ?_
      rw [hpc]; constructor <;> simp [contentOk]
      intro h1 h2; exact ⟨h1, by rw [h2, List.take_add]⟩
  case flush =>
    split
    · exact .goto (by rw [hpc]; constructor <;> simp [contentOk])
    · refine .write (by rw [hpc]; rfl) (by intro; rfl) ?_
      rw [hpc]; constructor <;> simp [contentOk]
      intro h; rw [h, List.take_append_drop]
  case close ok =>
    split
    · exact .goto .failed
    · refine .write (by rw [hpc]; rfl) (by intro; rfl) ?_
      rw [hpc]; cases ok <;> (repeat' split) <;> constructor <;> simp_all [contentOk]
  case chmod =>
    split
    · exact .goto .failed
    · exact .write (by rw [hpc]; rfl) (by intro; rfl) (by rw [hpc]; constructor <;> simp_all [contentOk])
  case publish =>
    split
    · split
      · exact .goto .failed
      · next ho _ =>
        exact .publish (by simpa using ‹¬f = true›) hpc (by simp [upd_self]) (.inl ⟨ho, rfl⟩) rfl rfl rfl (by simp [Proc.sameIds, upd_self])
          (by simp [upd_self]) (fun _ h => upd_ne _ _ h)
    · split
      · exact .goto (by rw [hpc]; constructor <;> simp [contentOk])
      · split
        · exact .goto (by rw [hpc]; constructor <;> simp [contentOk])
        · next hn =>
          exact .publish (by simpa using ‹¬f = true›) hpc (by simp [upd_self]) (.inr ⟨hn, rfl⟩) rfl rfl rfl (by simp [Proc.sameIds, upd_self])
            (by simp [upd_self]) (fun _ h => upd_ne _ _ h)
  case unlink st =>
    split
    · exact .goto .failed
    · exact .quiet (.inr rfl) rfl rfl (by simp [Proc.sameIds, upd_self]) (by simp [upd_self]) (.inl rfl)
        (by simp only [upd_self, hpc]; cases st <;> constructor <;> simp [contentOk, finalResult]) (fun _ h => upd_ne _ _ h)
  case fClose =>
    split
    · exact .goto .failed
    · exact .write (by rw [hpc]; rfl) (by intro; rfl) (by rw [hpc]; constructor <;> simp [contentOk])
  case fUnlink =>
    split
    · exact .goto .failed
    · exact .quiet (.inr rfl) rfl rfl (by simp [Proc.sameIds, upd_self]) (by simp [upd_self]) (.inl rfl)
        (by simp only [upd_self, hpc]; constructor <;> simp [contentOk]) (fun _ h => upd_ne _ _ h)
  case rOpen =>
    split
    · exact .goto .failed
    · split
      · exact .goto (by rw [hpc]; constructor <;> simp [contentOk])
      · exact .quiet (.inl rfl) rfl rfl (by simp [Proc.sameIds, upd_self]) (by simp [upd_self]) (.inl rfl)
          (by simp only [upd_self, hpc]; constructor <;> simp [contentOk]) (fun _ h => upd_ne _ _ h)
  case rRead =>
    split
    · exact .goto .failed
    · split
      · exact .quiet (.inl rfl) rfl rfl (by simp [Proc.sameIds, upd_self]) (by simp [upd_self]) (.inl rfl)
          (by simp only [upd_self, hpc]; constructor <;> simp [contentOk]) (fun _ h => upd_ne _ _ h)
      · exact .goto (by rw [hpc]; constructor <;> simp [contentOk])
  case done => exact .quiet (.inl rfl) rfl rfl ⟨rfl, rfl, rfl⟩ rfl (.inl rfl) Flow.refl (fun _ _ => rfl)

end Step

section Preserve
variable {prog : Pid → Params} {s s' : State} {p : Pid} {f : Bool}

theorem Shape.nextIno_le {pr : Params} (hs : Shape pr s p f s') : s.nextIno ≤ s'.nextIno := by
  cases hs with
  | create hc => have := hc.nextIno; omega
  | quiet | publish _ => omega

theorem Shape.frame {pr : Params} (hs : Shape pr s p f s') : ∀ p', p' ≠ p → s'.procs p' = s.procs p' := by
  cases hs with
  | quiet _ _ _ _ _ _ _ ho | publish _ _ _ _ _ _ _ _ _ ho => exact ho
  | create hc => exact hc.frame

theorem Shape.owner {pr : Params} (hs : Shape pr s p f s') {i : Ino} (hi : i < s.nextIno) :
    (s'.inodes i).owner = (s.inodes i).owner := by
  cases hs with
  | quiet _ _ _ _ _ hino =>
    rcases hino with e | ⟨_, e, eo⟩
    · rw [e]
    · by_cases hq : i = (s.procs p).ino
      · rw [hq, eo]
      · rw [e, upd_ne _ _ hq]
  | create hc => rw [hc.inodes, upd_ne _ _ (Nat.ne_of_lt hi)]
  | publish _ _ _ _ hino => rw [hino]

theorem Shape.ids (h : Inv prog s) (hs : Shape (prog p) s p f s')
    {p' : Pid} (hc : (s.procs p').created = true) :
    (s'.procs p').created = true ∧ (s'.procs p').ino = (s.procs p').ino ∧ (s'.procs p').tmp = (s.procs p').tmp := by
  by_cases hp : p' = p
  · subst hp
    cases hs with
    | quiet _ _ _ hq => exact ⟨hq.1.trans hc, hq.2.2, hq.2.1⟩
    | publish _ _ _ _ _ _ _ hq => exact ⟨hq.1.trans hc, hq.2.2, hq.2.1⟩
    | create hc' => have := h.early p' (by rw [hc'.pc]; rfl); rw [hc] at this; cases this
  · rw [hs.frame p' hp]; exact ⟨hc, rfl, rfl⟩

theorem Shape.linked_mono {pr : Params} (hs : Shape pr s p f s')
    {p' : Pid} (hl : (s.procs p').linked = true) : (s'.procs p').linked = true := by
  by_cases hp : p' = p
  · subst hp
    cases hs with
    | quiet _ _ _ _ e => rw [e, hl]
    | create hc => rw [hc.linked, hl]
    | publish _ _ _ _ _ _ _ _ e => exact e
  · rw [hs.frame p' hp]; exact hl

theorem Inv.publish_ino (h : Inv prog s) (hpc : (s.procs p).pc = .publish) :
    (s.procs p).ino < s.nextIno ∧ (s.inodes (s.procs p).ino).owner = p :=
  h.created p (h.working p (by rw [hpc]; rfl))

/-- where a binding in the new name table comes from -/
theorem Shape.names_cases {pr : Params} (hs : Shape pr s p f s') {n : Name} {i : Ino} (hn : s'.names n = some i) :
    s.names n = some i ∨
    Created s p s' ∧ n = .tmp s.nextTmp ∧ i = s.nextIno ∨
    (s.procs p).pc = .publish ∧ (s'.procs p).linked = true ∧ n = dest pr.kind ∧ i = (s.procs p).ino := by
  cases hs with
  | quiet e =>
    rcases e with e | e
    · exact .inl (e ▸ hn)
    · rcases upd_some (e ▸ hn) with ⟨_, hb⟩ | ⟨_, hn⟩
      · cases hb
      · exact .inl hn
  | create hc =>
    rcases upd_some (hc.names ▸ hn) with ⟨hx, hb⟩ | ⟨_, hn⟩
    · cases hb; exact .inr (.inl ⟨hc, hx, rfl⟩)
    · exact .inl hn
  | publish _ hpc _ e _ _ _ _ hl =>
    have new {n i} (hn : upd s.names (dest pr.kind) (some (s.procs p).ino) n = some i) :
        s.names n = some i ∨ n = dest pr.kind ∧ i = (s.procs p).ino := by
      rcases upd_some hn with ⟨hx, hb⟩ | ⟨_, hn⟩
      · cases hb; exact .inr ⟨hx, rfl⟩
      · exact .inl hn
    rcases e with ⟨_, e⟩ | ⟨_, e⟩
    · rcases upd_some (e ▸ hn) with ⟨_, hb⟩ | ⟨_, hn⟩
      · cases hb
      · exact (new hn).imp_right fun hx => .inr ⟨hpc, hl, hx⟩
    · exact (new (e ▸ hn)).imp_right fun hx => .inr ⟨hpc, hl, hx⟩

theorem Shape.inodes_frame (h : Inv prog s) (hs : Shape (prog p) s p f s') {i : Ino} (hi : i < s.nextIno)
    (hne : (s.inodes i).owner ≠ p) : s'.inodes i = s.inodes i := by
  cases hs with
  | quiet _ _ _ _ _ hino =>
    rcases hino with e | ⟨hw, e, _⟩
    · rw [e]
    · rw [e, upd_ne]
      intro hq
      exact hne (hq ▸ (h.created p (h.working p hw)).2)
  | create hc => rw [hc.inodes, upd_ne _ _ (Nat.ne_of_lt hi)]
  | publish _ _ _ _ e => rw [e]

theorem PC.early_of_postLink {pc : PC} (h : pc.postLink = true) : pc.early = false := by
  cases pc <;> simp_all

theorem PC.reads_of_postLink {pc : PC} (h : pc.postLink = true) : pc.reads = false := by
  cases pc with
  | done r => cases r <;> simp_all
  | _ => simp_all

theorem contentOk_of_postLink {pr : Params} {pc : PC} (n : Inode) (h : pc.postLink = true) : contentOk pr pc n := by
  cases pc <;> simp_all [contentOk]

/-- a bound artifact name is never rebound (`link()` does not replace; `replace()` targets metadata names),
and the inode behind it is never modified (its owner is past `link()`) -/
theorem Shape.art_stable (h : Inv prog s) (hs : Shape (prog p) s p f s') {i : Ino} (ha : s.names .art = some i) :
    s'.names .art = some i ∧ s'.inodes i = s.inodes i := by
  have hlt := h.names_lt _ _ ha
  have hl : ((s.procs (s.inodes i).owner).linked = true) := by
    rcases h.names_own _ _ ha with h1 | h1
    · cases h1
    · exact h1.2
  cases hs with
  | quiet hn _ _ _ _ hino hf =>
    have hn' : s'.names .art = some i := by
      rcases hn with e | e
      · rw [e]; exact ha
      · rw [e, upd_ne _ _ (by simp)]; exact ha
    refine ⟨hn', ?_⟩
    rcases hino with e | ⟨hw, e, _⟩
    · rw [e]
    · by_cases hq : i = (s.procs p).ino
      · have : (s.inodes i).owner = p := hq ▸ (h.created p (h.working p hw)).2
        rw [this] at hl
        rw [hq]; exact (hf.postLink (h.linked p hl).2.1).2
      · rw [e, upd_ne _ _ hq]
  | create hc => exact ⟨by rw [hc.names, upd_ne _ _ (by simp)]; exact ha, by rw [hc.inodes, upd_ne _ _ (Nat.ne_of_lt hlt)]⟩
  | publish _ _ _ hn hino =>
    refine ⟨?_, hino ▸ rfl⟩
    rcases hn with ⟨ho, e⟩ | ⟨hd, e⟩
    · obtain ⟨x, hx⟩ := overwrite_kind _ ho
      rw [e, upd_ne _ _ (by simp), upd_ne _ _ (by simp [hx, dest])]; exact ha
    · rw [e, upd_ne _ _ (fun hx => by rw [← hx, ha] at hd; cases hd)]; exact ha

theorem readerOk_of_art_stable {q : Proc} (hq : readerOk s q)
    (ha : ∀ i, s.names .art = some i → s'.names .art = some i ∧ s'.inodes i = s.inodes i) : readerOk s' q := by
  unfold readerOk at hq ⊢
  split
  · next hpc => rw [hpc] at hq; rw [(ha _ hq.1).2]; exact ⟨(ha _ hq.1).1, hq.2⟩
  · next hpc => rw [hpc] at hq; rw [(ha _ hq.1).2]; exact ⟨(ha _ hq.1).1, hq.2⟩
  · trivial

theorem Inv.step (h : Inv prog s) (hs : Shape (prog p) s p f s')
    (hr : readerOk s' (s'.procs p)) : Inv prog s' := by
  have ho := hs.frame
  have other {p'} (hp : p' ≠ p) (hc : (s.procs p').created = true) :
      s'.inodes (s.procs p').ino = s.inodes (s.procs p').ino :=
    hs.inodes_frame h (h.created p' hc).1 (by rw [(h.created p' hc).2]; exact hp)
  constructor
  case names_lt =>
    intro n i hn
    rcases hs.names_cases hn with hn | ⟨hc, _, hi⟩ | ⟨hpc, _, _, hi⟩
    · exact Nat.lt_of_lt_of_le (h.names_lt n i hn) hs.nextIno_le
    · rw [hi, hc.nextIno]; exact Nat.lt_succ_self _
    · exact hi ▸ Nat.lt_of_lt_of_le (h.publish_ino hpc).1 hs.nextIno_le
  case tmp_lt =>
    intro k i hn
    rcases hs.names_cases hn with hn | ⟨hc, hk, _⟩ | ⟨_, _, hk, _⟩
    · refine Nat.lt_of_lt_of_le (h.tmp_lt k i hn) ?_
      cases hs with
      | create hc => have := hc.nextTmp; omega
      | quiet | publish _ => omega
    · cases hk; rw [hc.nextTmp]; exact Nat.lt_succ_self _
    · exact absurd hk.symm (dest_ne_tmp _ _)
  case own =>
    intro i hi
    by_cases hlt : i < s.nextIno
    · have h1 := h.own i hlt
      have h2 := hs.ids h h1.1
      rw [hs.owner hlt]
      exact ⟨h2.1, h2.2.1.trans h1.2⟩
    · cases hs with
      | create hc =>
        have : i = s.nextIno := by have := hc.nextIno; omega
        rw [this, hc.inodes, upd_self]
        exact ⟨hc.ids.1, hc.ids.2.2⟩
      | quiet | publish _ => omega
  case created =>
    intro p' hc'
    by_cases hc : (s.procs p').created = true
    · have h1 := h.created p' hc
      rw [(hs.ids h hc).2.1, hs.owner h1.1]
      exact ⟨Nat.lt_of_lt_of_le h1.1 hs.nextIno_le, h1.2⟩
    · by_cases hp : p' = p
      · subst hp
        cases hs with
        | create hc => rw [hc.ids.2.2, hc.inodes, upd_self, hc.nextIno]; exact ⟨Nat.lt_succ_self _, rfl⟩
        | quiet _ _ _ hq => exact absurd (hq.1 ▸ hc') hc
        | publish _ _ _ _ _ _ _ hq => exact absurd (hq.1 ▸ hc') hc
      · exact absurd (ho p' hp ▸ hc') hc
  case names_own =>
    intro n i hn
    rcases hs.names_cases hn with hn | ⟨hc, hx, hi⟩ | ⟨hpc, hl, hx, hi⟩
    · have hlt := h.names_lt n i hn
      rw [hs.owner hlt, (hs.ids h (h.own i hlt).1).2.2]
      exact (h.names_own n i hn).imp_right fun hr => ⟨hr.1, hs.linked_mono hr.2⟩
    · rw [hi, hc.inodes, upd_self, hc.ids.2.1]; exact .inl hx
    · have hq := h.publish_ino hpc
      rw [hi, hs.owner hq.1, hq.2]
      exact .inr ⟨hx, hl⟩
  case working =>
    intro p'
    by_cases hp : p' = p
    · rw [hp]
      intro hw
      cases hs with
      | quiet _ _ _ hq _ _ hf => exact hq.1.trans (h.working p (hf.working hw))
      | create hc => exact hc.ids.1
      | publish _ hpc _ _ _ _ _ hq => exact hq.1.trans (h.working p (by rw [hpc]; rfl))
    · rw [ho p' hp]; exact h.working p'
  case early =>
    intro p'
    by_cases hp : p' = p
    · rw [hp]
      intro he
      cases hs with
      | quiet _ _ _ hq _ _ hf => exact hq.1.trans (h.early p (hf.early he))
      | create hc => rw [hc.pc'] at he; cases he
      | publish _ _ hpc' => rw [PC.early_of_postLink hpc'] at he; cases he
    · rw [ho p' hp]; exact h.early p'
  case content =>
    intro p'
    by_cases hp : p' = p
    · rw [hp]
      intro hc'
      cases hs with
      | quiet _ _ _ hq _ _ hf => rw [hq.2.2]; exact hf.content (h.content p (hq.1 ▸ hc'))
      | create hc => rw [hc.pc', hc.ids.2.2, hc.inodes, upd_self]; simp [contentOk]
      | publish _ _ hpc' => exact contentOk_of_postLink _ hpc'
    · rw [ho p' hp]; intro hc; rw [other hp hc]; exact h.content p' hc
  case linked =>
    intro p'
    by_cases hp : p' = p
    · rw [hp]
      intro hl'
      cases hs with
      | quiet _ _ _ hq hl _ hf =>
        obtain ⟨h1, h2, h3⟩ := h.linked p (hl ▸ hl')
        obtain ⟨h4, h5⟩ := hf.postLink h2
        rw [hq.2.2, h5]; exact ⟨hq.1.trans h1, h4, h3⟩
      | create hc =>
        have := h.early p (by rw [hc.pc]; rfl)
        rw [(h.linked p (hc.linked ▸ hl')).1] at this; cases this
      | publish _ hpc hpc' _ hino _ _ hq =>
        have hc := h.working p (by rw [hpc]; rfl)
        have := h.content p hc
        rw [hpc] at this
        rw [hq.2.2, hino]; exact ⟨hq.1.trans hc, hpc', this⟩
    · rw [ho p' hp]; intro hl; rw [other hp (h.linked p' hl).1]; exact h.linked p' hl
  case reader =>
    intro p'
    by_cases hp : p' = p
    · exact hp ▸ hr
    · rw [ho p' hp]; exact readerOk_of_art_stable (h.reader p') fun _ => hs.art_stable h
  case readers =>
    intro p' hk
    by_cases hp : p' = p
    · rw [hp] at hk ⊢
      obtain ⟨h1, h2⟩ := h.readers p hk
      cases hs with
      | quiet _ _ _ hq _ _ hf => exact ⟨hq.1.trans h1, hf.readerPc h2⟩
      | create hc => rw [hc.pc] at h2; cases h2
      | publish _ hpc => rw [hpc] at h2; cases h2
    · rw [ho p' hp]; exact h.readers p' hk

theorem exec_nextIno_le : s.nextIno ≤ (exec (prog p) s p f).nextIno :=
  (exec_shape (prog p) s p f).nextIno_le

theorem readerOk_of_not_reads {q : Proc} (hq : q.pc.reads = false) : readerOk s q := by
  unfold readerOk
  split <;> simp_all

/-- what the reader has read is a prefix of the artifact: `open` and `read` are the only operations
that lead to a pc at which `readerOk` says something -/
theorem exec_reader_self (h : Inv prog s) : readerOk (exec (prog p) s p f) ((exec (prog p) s p f).procs p) := by
  by_cases hr' : ((exec (prog p) s p f).procs p).pc.reads = true
  · have hpc : (s.procs p).pc = .rOpen ∨ (∃ pos, (s.procs p).pc = .rRead pos) ∨ (s.procs p).pc = .done .read := by
      cases exec_shape (prog p) s p f with
      | quiet _ _ _ _ _ _ hf => exact hf.reads hr'
      | create hc => rw [hc.pc'] at hr'; cases hr'
      | publish _ _ hpc' => rw [PC.reads_of_postLink hpc'] at hr'; cases hr'
    have hr := h.reader p
    rcases hpc with hq | ⟨pos, hq⟩ | hq <;> simp only [exec, hq]
    · split
      · exact readerOk_of_not_reads (by simp [setPc, upd_self])
      · split
        · exact readerOk_of_not_reads (by simp [setPc, upd_self])
        · next i hi => simp [readerOk, upd_self, hi]
    · simp only [readerOk, hq] at hr
      split
      · exact readerOk_of_not_reads (by simp [setPc, upd_self])
      · split
        · next c hc => simp [readerOk, upd_self, hr.1, hr.2, List.take_add_one, hc]
        · next hc => simp [readerOk, setPc, upd_self, hr.1, hr.2, List.take_of_length_le (List.getElem?_eq_none_iff.mp hc)]
    · exact hr
  · exact readerOk_of_not_reads (by simpa using hr')

theorem exec_inv (h : Inv prog s) : Inv prog (exec (prog p) s p f) :=
  h.step (exec_shape ..) (exec_reader_self h)

end Preserve

theorem Shape.kill {pr : Params} {s : State} {p : Pid} {f : Bool} :
    Shape pr s p f { s with procs := upd s.procs p { s.procs p with killed := true } } :=
  .quiet (.inl rfl) rfl rfl (by simp [Proc.sameIds, upd_self]) (by simp [upd_self]) (.inl rfl)
    (by simp only [upd_self]; exact Flow.refl) (fun _ h => upd_ne _ _ h)

theorem kill_inv {prog : Pid → Params} {s : State} (p : Pid) (h : Inv prog s) :
    Inv prog { s with procs := upd s.procs p { s.procs p with killed := true } } :=
  h.step (.kill (f := true)) (by simpa [readerOk, upd_self] using h.reader p)

theorem step_inv {prog : Pid → Params} {s : State} (p : Pid) (c : Choice) (h : Inv prog s) :
    Inv prog (step prog s p c) := by
  unfold step
  split
  · exact h
  · cases c with
    | run => exact exec_inv h
    | fail => exact exec_inv h
    | kill => exact kill_inv p h

theorem run_inv {prog : Pid → Params} {s : State} (sched : Sched) (h : Inv prog s) :
    Inv prog (run prog s sched) := by
  induction sched generalizing s with
  | nil => exact h
  | cons pc rest ih => exact ih (step_inv pc.1 pc.2 h)

theorem reachable_inv (prog : Pid → Params) (sched : Sched) : Inv prog (run prog (init prog) sched) :=
  run_inv sched (inv_init prog)

end ArchiveFS
