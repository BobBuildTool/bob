import BobModel.Proofs.C10Fault
/-
Runs without I/O errors.  An invocation `runInv` is the invocation `runInvF` with no fault chosen
(`runInvF_clean`), so what holds at every prefix of `runInvF` holds at every prefix of `runHist`: the crash-stable
invariant `Inv` along `Ghost`, and `K` along `Dur`.  Then: single writer (`W2Inv`),
asynchronous sections.
-/
namespace StateFS

section
variable {σ μ : Type}

def InvF.clean (calls : List (Call μ)) : InvF μ := ⟨InitFault.none, calls.map (·, none), FinFault.none⟩

/-- whatever `vu`: the `finalize()` of the error path finds no uncommitted file, the start-up commit has just
removed or committed it -/
theorem initF_clean (c : Cfg σ μ) (vu : Bool) (fs : FS) :
    (initF c vu fs InitFault.none).evs = (initRun c fs).evs ∧
    (∀ x, (initF c vu fs InitFault.none).res = .ok x ↔ (initRun c fs).res = .ok x) ∧
    (∀ x, (initRun c fs).res = .ok x → (initF c vu fs InitFault.none).locked = true) := by
  cases hl : fs .lock with
  | some f => simp [initRun, initF, hl, InitFault.none]
  | none =>
    have hn := commitOps_new (applyOp fs (.createExcl .lock)) true
    cases hld : loadDisk c (applyOps (applyOp fs (.createExcl .lock)) (commitOps (applyOp fs (.createExcl .lock)) true)) <;>
      simp [initRun, initF, hl, hld, InitFault.none, commitF_none, finVerify, finOpsF, FinFault.none,
        commitOps_absent _ hn]

theorem callStepF_clean (c : Cfg σ μ) (mem : Mem σ) (cl : Call μ) :
    (callStepF c mem none cl).1 = (callStep c mem cl).1 ∧ (callStepF c mem none cl).2.1 = (callStep c mem cl).2.1 := by
  cases cl <;> simp only [callStepF, callStep, saveF, apply_ite Prod.fst, apply_ite Prod.snd, and_self]

theorem runCallsF_clean (c : Cfg σ μ) (mem : Mem σ) (t : Bool) (cls : List (Call μ)) :
    (runCallsF c mem t (cls.map (·, none))).1 = (runCalls c mem cls).1 ∧
      (runCallsF c mem t (cls.map (·, none))).2.1 = (runCalls c mem cls).2 := by
  induction cls generalizing mem t with
  | nil => exact ⟨rfl, rfl⟩
  | cons cl rest ih =>
    obtain ⟨e1, e2⟩ := callStepF_clean c mem cl
    simp only [List.map_cons, runCallsF, runCalls, e1, e2, ih, and_self]

/-- the skeleton of the calls once more, with nothing to keep on the way: a performed save ends the claim, a failed one
touches `.dirty` only -/
theorem runCallsF_untrusted (c : Cfg σ μ) (mem : Mem σ) (t : Bool) (cls : List (Call μ × Option SaveFault))
    (h : (runCallsF c mem t cls).2.2 = false) (fs : FS) :
    (applyEvs fs (runCallsF c mem t cls).2.1) .new = fs .new :=
  (callsF_pre (st := fun (g : Unit) _ => g) (P := fun _ _ => True)
    (Q := fun t fs' _ => t = false → fs' .new = fs .new) c (fun _ _ _ => rfl) (fun _ _ _ _ _ _ => trivial)
    (fun _ _ _ _ _ hn h ht => hn ▸ h ht) (fun _ _ _ _ => trivial)
    (fun _ _ _ _ _ => ⟨⟨trivial, trivial, trivial, trivial, trivial⟩, nofun⟩) fs () mem t cls fun _ => rfl).2 h

theorem initRun_ok_fs (c : Cfg σ μ) (fs : FS) (x : Option σ) (h : (initRun c fs).res = .ok x) :
    fs .lock = none ∧ ((applyEvs fs (initRun c fs).evs) .lock).isSome = true ∧
      (applyEvs fs (initRun c fs).evs) .new = none := by
  cases hl : fs .lock with
  | some f => simp [initRun, hl] at h
  | none =>
    refine ⟨rfl, ?_⟩
    unfold initRun at h ⊢
    simp only [hl] at h ⊢
    generalize hfs2 :
      applyOps (applyOp fs (.createExcl .lock)) (commitOps (applyOp fs (.createExcl .lock)) true) = fs2 at h ⊢
    cases hld : loadDisk c fs2 with
    | error e => simp [hld] at h
    | ok y =>
      rw [applyEvs_append, ← List.map_cons, applyEvs_mapop]
      show (applyOps (applyOp fs _) (_ ++ loadOps fs2) .lock).isSome = true ∧
        applyOps (applyOp fs _) (_ ++ loadOps fs2) .new = none
      rw [applyOps_append, hfs2, applyOps_loadOps, ← hfs2, commitOps_new, ← commitF_none, commitF_lock]
      simp [applyOp, hl]

theorem finalizeF_clean (vu : Bool) (fs : FS) (mem : Mem σ) (t : Bool) (h : t = false → fs .new = none) :
    finalizeF vu fs mem true t FinFault.none = finalizeEvs fs mem := by
  cases t with
  | true =>
    simp [finalizeEvs, finalizeF, finalizeCore, finVerify, finOpsF, FinFault.none, commitF_none,
      show CF.none.pos = none from rfl]
  | false =>
    have hn := h rfl
    simp [finalizeEvs, finalizeF, finalizeCore, finOpsF, FinFault.none, commitF_none, commitOps_absent _ hn, hn]

/-- the two machines of the model agree, for either mode of `finalize`: the flag is looked at by `finalizeF` only, and
an instance that is still untrusted finds no uncommitted file (its start committed or removed it and no call has
written one) -/
theorem runInvF_clean (c : Cfg σ μ) (vu : Bool) (fs : FS) (calls : List (Call μ)) :
    runInvF c vu fs (.clean calls) = runInv c fs calls := by
  obtain ⟨e1, e2, e3⟩ := initF_clean c vu fs
  unfold runInvF runInv InvF.clean
  simp only [e1]
  cases hr : (initRun c fs).res with
  | error e =>
    cases hf : (initF c vu fs InitFault.none).res with
    | error _ => rfl
    | ok x => rw [(e2 x).mp hf] at hr; cases hr
  | ok x =>
    obtain ⟨m1, m2⟩ := runCallsF_clean c (memOf c x) false calls
    simp only [(e2 x).mpr hr, e3 x hr, m1, m2]
    refine congrArg _ (finalizeF_clean vu _ _ _ fun ht => ?_)
    rw [applyEvs_append, ← m2, runCallsF_untrusted c _ _ _ ht]
    exact (initRun_ok_fs c fs x hr).2.2

theorem runHist_pre {γ : Type} {st : γ → Ev σ → γ} {P : FS → γ → Prop} (c : Cfg σ μ)
    (hinv : ∀ fs g calls, P fs g → Pre st P fs g (runInv c fs calls)) (fs : FS) (g : γ)
    (hist : List (List (Call μ))) (h : P fs g) : Pre st P fs g (runHist c fs hist) := by
  induction hist generalizing fs g with
  | nil => exact h
  | cons calls rest ih => exact Pre_append (hinv fs g calls h) (ih _ _ (Pre_end (hinv fs g calls h)))

theorem runInv_inv (c : Cfg σ μ) (hc : c.Lawful) (fs : FS) (G : Ghost σ) (calls : List (Call μ))
    (h : Inv c fs G) : Pre Ghost.step (Inv c) fs G (runInv c fs calls) :=
  runInvF_clean c true fs calls ▸ runInvF_inv c hc fs G _ h

theorem runHist_inv (c : Cfg σ μ) (hc : c.Lawful) (fs : FS) (G : Ghost σ) (hist : List (List (Call μ)))
    (h : Inv c fs G) : Pre Ghost.step (Inv c) fs G (runHist c fs hist) :=
  runHist_pre c (runInv_inv c hc) fs G hist h

/-- the last step of every recovery theorem: `Inv` on an unlocked directory is what `Inv_recover` leaves -/
theorem Inv_start (c : Cfg σ μ) (hc : c.Lawful) (fs : FS) (G : Ghost σ) (h : Inv c fs G) (hl : fs .lock = none) :
    ∃ x, (initRun c fs).res = .ok x ∧ Adm G x := by
  obtain ⟨_, h2, h3⟩ := initF_inv c hc false fs G InitFault.none (fun hl => nomatch hl) h
  obtain ⟨x, hx⟩ := h3 hl rfl
  exact ⟨x, ((initF_clean c false fs).2.1 x).mp hx, (h2 x hx).2⟩

def Session.Det : Session μ → Prop
  | .complete _ => True
  | .crashed _ _ g => Detectable g

theorem runSessions_crashed (c : Cfg σ μ) (hc : c.Lawful) (ss : List (Session μ)) (calls : List (Call μ)) (cut : Nat)
    (g : Garble) (fs : FS) (G : Ghost σ) (hd : ∀ s ∈ ss, s.Det) (hg : Detectable g) (h : Inv c fs G) :
    let r := runSessions c fs G (ss ++ [.crashed calls cut g])
    Inv c r.1 r.2 ∧ r.1 .lock = none := by
  have step : ∀ (fs : FS) (G : Ghost σ) (s : Session μ), Inv c fs G → s.Det →
      Inv c (runSession c fs s).2 (G.run (runSession c fs s).1) := by
    intro fs G s h hs
    cases s with
    | complete calls => exact Pre_end (runInv_inv c hc fs G calls h)
    | crashed calls cut g => exact Inv_recover c _ _ g hs (Pre_take (runInv_inv c hc fs G calls h) cut)
  induction ss generalizing fs G with
  | nil => exact ⟨step fs G _ h hg, recover_lock (applyEvs fs ((runInv c fs calls).take cut)) g⟩
  | cons s rest ih =>
    exact ih _ _ (fun t ht => hd t (List.mem_cons_of_mem _ ht)) (step fs G s h (hd s List.mem_cons_self))

theorem runHistK (c : Cfg σ μ) (hc : c.Lawful) (fs : FS) (D : Dur σ) (hist : List (List (Call μ)))
    (h : K c fs D) : Pre Dur.step (K c) fs D (runHist c fs hist) :=
  runHist_pre c (fun fs D calls h => runInvF_clean c true fs calls ▸ runInvF_K c hc true _ rfl rfl rfl fs D h)
    fs D hist h

theorem K_start (c : Cfg σ μ) (hc : c.Lawful) (fs : FS) (D : Dur σ) (h : K c fs D) (hl : fs .lock = none) :
    (initRun c fs).res = .ok D.durable := by
  obtain ⟨_, h2, h3⟩ := initF_pre Dur.quiet (K_local c) c false fs D InitFault.none
    (fun _ ⟨x, hp, _⟩ => ⟨x, loadDisk_ok c hc _ x hp⟩) (fun _ _ h => h) (fun _ => commitK c true rfl)
    (fun hl => nomatch hl) h
  obtain ⟨e1, e2, _⟩ := initF_clean c false fs
  obtain ⟨x, hx⟩ := h3 hl rfl
  have hx' := (e2 x).mp hx
  obtain ⟨hld, ⟨x', hp, hn⟩, _⟩ := h2 x hx
  rw [e1] at hld hp hn
  rcases hn with ⟨_, hd⟩ | ⟨s, b, hn, _⟩
  · cases (loadDisk_ok c hc _ x' hp).symm.trans hld
    rw [hx', hd]
  · rw [(initRun_ok_fs c fs x hx').2.2] at hn; cases hn

/-- a kill changes nothing but the lock -/
theorem recover_kill (fs : FS) {n : Name} (hn : n ≠ .lock) : recover fs (fun _ d => d) n = fs n := by
  simp only [recover, FS.set_ne _ _ hn, crash]
  cases fs n with
  | none => rfl
  | some f => obtain ⟨d, b⟩ := f; cases b <;> rfl

theorem K_kill (c : Cfg σ μ) (fs : FS) (D : Dur σ) (h : K c fs D) : K c (recover fs (fun _ d => d)) D :=
  K_local c _ _ _ (recover_kill fs nofun) (recover_kill fs nofun) h

theorem save_fin_durable (c : Cfg σ μ) (hc : c.Lawful) (fs : FS) (s : σ) (locked : Bool) (g : Garble) :
    let fs1 := applyEvs fs (saveEvs c s)
    let fs2 := applyOps fs1 (finOpsF fs1 locked false FinFault.none)
    fs2 .pickle = some ⟨encS c s, true⟩ ∧ fs2 .new = none ∧ (locked = true → fs2 .lock = none) ∧
      (initRun c (recover fs2 g)).res = .ok (some s) := by
  intro fs1 fs2
  have hn1 : fs1 .new = some ⟨encS c s, false⟩ := by
    simp [fs1, saveEvs, applyEvs, applyEv, applyOp, FS.set]
  have hu := unlockOps_harmless locked FinFault.none
  have e : fs2 = applyOps (applyOps fs1 (commitOps fs1 false)) (unlockOps locked FinFault.none) := by
    show applyOps fs1 (commitF fs1 false CF.none ++ unlockOps locked FinFault.none) = _
    rw [applyOps_append, commitF_none]
  have hp : fs2 .pickle = some ⟨encS c s, true⟩ := by
    rw [e, harmless_pickle hu, commitOps_pickle, hn1]; rfl
  have hn : fs2 .new = none := by rw [e, harmless_new hu, commitOps_new]
  refine ⟨hp, hn, ?_, ?_⟩
  · rintro rfl
    rw [e]
    exact FS.set_same (applyOps fs1 (commitOps fs1 false)) .lock none
  · refine K_start c hc _ ⟨none, some s⟩ ⟨some s, ?_, Or.inl ⟨?_, rfl⟩⟩ (recover_lock _ g)
    · simp [recover, crash, FS.set, hp, PickleOK]
    · simp [recover, crash, FS.set, hn]

def W2Inv (w : World2 σ) : Prop :=
  ¬ (w.ma.isSome = true ∧ w.mb.isSome = true) ∧
    ((w.ma.isSome = true ∨ w.mb.isSome = true) → (w.fs .lock).isSome = true)

theorem callStep_lock (c : Cfg σ μ) (fs : FS) (m : Mem σ) (cl : Call μ) :
    (applyEvs fs (callStep c m cl).2.1) .lock = fs .lock :=
  (callStepF_clean c m cl).2 ▸ callStepF_lock c fs m none cl

theorem initRun_locked (c : Cfg σ μ) (fs : FS) (h : (fs .lock).isSome = true) :
    (initRun c fs).res = .error .locked ∧ (initRun c fs).evs = [.op (.createExcl .lock)] ∧
      applyEvs fs (initRun c fs).evs = fs := by
  cases hl : fs .lock with
  | none => simp [hl] at h
  | some f => simp [initRun, hl, applyEvs, applyEv, applyOp]

def Who.other : Who → Who
  | .a => .b
  | .b => .a

/-- `W2Inv` seen from either instance -/
theorem W2Inv_iff (w : World2 σ) (i : Who) : W2Inv w ↔
    ¬ ((w.get i).isSome = true ∧ (w.get i.other).isSome = true) ∧
      ((w.get i).isSome = true ∨ (w.get i.other).isSome = true → (w.fs .lock).isSome = true) := by
  cases i
  · exact Iff.rfl
  · simp only [W2Inv, World2.get, Who.other, and_comm, or_comm]

theorem World2.put_get (w : World2 σ) (i : Who) (m : Option (Mem σ)) (fs : FS) :
    (w.put i m fs).get i = m ∧ (w.put i m fs).get i.other = w.get i.other ∧ (w.put i m fs).fs = fs := by
  cases i <;> exact ⟨rfl, rfl, rfl⟩

theorem step2_inv (c : Cfg σ μ) (w : World2 σ) (a : Act μ) (h : W2Inv w) : W2Inv (step2 c w a).1 := by
  have key : ∀ i m fs, (m.isSome = true → (w.get i.other).isSome = false ∧ (fs .lock).isSome = true) →
      ((w.get i.other).isSome = true → (fs .lock).isSome = true) → W2Inv (w.put i m fs) := by
    intro i m fs h1 h2
    obtain ⟨e1, e2, e3⟩ := w.put_get i m fs
    rw [W2Inv_iff _ i, e1, e2, e3]
    refine ⟨fun ⟨hm, ho⟩ => ?_, fun hm => hm.elim (fun hm => (h1 hm).2) h2⟩
    rw [(h1 hm).1] at ho; cases ho
  cases a with
  | init i =>
    cases hg : w.get i with
    | some m => simpa only [step2, hg] using h
    | none =>
      simp only [step2, hg]
      have hlock := (W2Inv_iff w i).mp h |>.2
      cases hr : (initRun c w.fs).res with
      | ok x =>
        refine key i _ _ (fun _ => ⟨?_, (initRun_ok_fs c w.fs x hr).2.1⟩) fun ho => ?_
        · cases ho : (w.get i.other).isSome with
          | false => rfl
          | true => rw [(initRun_locked c w.fs (hlock (Or.inr ho))).1] at hr; cases hr
        · rw [(initRun_locked c w.fs (hlock (Or.inr ho))).1] at hr; cases hr
      | error e =>
        refine key i none _ (fun hm => nomatch hm) fun ho => ?_
        rw [(initRun_locked c w.fs (hlock (Or.inr ho))).2.2]
        exact hlock (Or.inr ho)
  | call i cl =>
    cases hg : w.get i with
    | none => simpa only [step2, hg] using h
    | some m =>
      simp only [step2, hg]
      obtain ⟨hex, hlock⟩ := (W2Inv_iff w i).mp h
      rw [hg] at hex hlock
      refine key i _ _ (fun _ => ⟨?_, ?_⟩) fun ho => ?_
      · cases ho : (w.get i.other).isSome with
        | false => rfl
        | true => exact absurd ⟨rfl, ho⟩ hex
      · rw [callStep_lock]; exact hlock (Or.inl rfl)
      · rw [callStep_lock]; exact hlock (Or.inr ho)
  | fin i =>
    cases hg : w.get i with
    | none => simpa only [step2, hg] using h
    | some m =>
      simp only [step2, hg]
      by_cases hok : finalizeOk m = true
      · rw [if_pos hok]
        obtain ⟨hex, _⟩ := (W2Inv_iff w i).mp h
        rw [hg] at hex
        exact key i none _ (fun hm => nomatch hm) fun ho => absurd ⟨rfl, ho⟩ hex
      · rw [if_neg hok]; exact h

theorem run2_inv (c : Cfg σ μ) (w : World2 σ) (acts : List (Act μ)) (h : W2Inv w) : W2Inv (run2 c w acts) := by
  induction acts generalizing w with
  | nil => exact h
  | cons a rest ih => exact ih _ (step2_inv c w a h)

theorem runCalls_append (c : Cfg σ μ) (mem : Mem σ) (a b : List (Call μ)) :
    runCalls c mem (a ++ b) =
      ((runCalls c (runCalls c mem a).1 b).1, (runCalls c mem a).2 ++ (runCalls c (runCalls c mem a).1 b).2) := by
  induction a generalizing mem with
  | nil => simp [runCalls]
  | cons x xs ih => simp [runCalls, ih, List.append_assoc]

/-- inside an asynchronous section nothing is emitted; the memory just accumulates -/
theorem async_inside (c : Cfg σ μ) (mem : Mem σ) (cs : List (Call μ)) (h : Inside mem.async cs) :
    (runCalls c mem cs).2 = [] ∧
    (runCalls c mem cs).1 = ⟨(foldMuts c mem.cur mem.dirty cs).1, depthAfter mem.async cs, (foldMuts c mem.cur mem.dirty cs).2⟩ := by
  induction cs generalizing mem with
  | nil => simp [runCalls, foldMuts, depthAfter]
  | cons cl rest ih =>
    cases cl with
    | «mut» m =>
      obtain ⟨h0, h1⟩ := h
      have hne : mem.async ≠ 0 := by omega
      cases hs : (c.step mem.cur m).2 with
      | true =>
        have := ih ⟨(c.step mem.cur m).1, mem.async, true⟩ h1
        simp [runCalls, callStep, hs, hne, foldMuts, depthAfter] at this ⊢
        exact this
      | false =>
        have := ih ⟨(c.step mem.cur m).1, mem.async, mem.dirty⟩ h1
        simp [runCalls, callStep, hs, foldMuts, depthAfter] at this ⊢
        exact this
    | setAsync =>
      obtain ⟨h0, h1⟩ := h
      have := ih ⟨mem.cur, mem.async + 1, mem.dirty⟩ h1
      simp [runCalls, callStep, foldMuts, depthAfter] at this ⊢
      exact this
    | setSync =>
      obtain ⟨h0, h1⟩ := h
      have := ih ⟨mem.cur, mem.async - 1, mem.dirty⟩ h1
      have hn1 : ¬ (mem.async - 1 < 0) := by omega
      have hn2 : ¬ (mem.async - 1 = 0) := by omega
      simp [runCalls, callStep, foldMuts, depthAfter, hn1, hn2] at this ⊢
      exact this

end
end StateFS
