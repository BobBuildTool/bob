import BobModel.Model.PathSpec
/-
Lists as finite sets, transitive closures, a loop rule for `foldl`, and the worklist loop of
`__evalAxisDescendant` / `__evalAxisAncestor`: it computes exactly the transitive closure of its
successor function without exhausting its fuel.
-/
namespace PathSpec

@[simp] theorem mem_dedup {l : List Node} {x : Node} : x ∈ dedup l ↔ x ∈ l := by
  induction l with
  | nil => simp [dedup]
  | cons y ys ih =>
    simp only [dedup]
    split
    · rename_i h
      have hy : y ∈ ys := by simpa using h
      rw [ih, List.mem_cons]
      exact ⟨Or.inr, fun hx => hx.elim (· ▸ hy) id⟩
    · simp [ih]

theorem dedup_nodup (l : List Node) : (dedup l).Nodup := by
  induction l with
  | nil => simp [dedup]
  | cons y ys ih =>
    simp only [dedup]
    split
    · exact ih
    · rename_i h
      have hy : y ∉ ys := by simpa using h
      exact List.nodup_cons.mpr ⟨by simpa using hy, ih⟩

@[simp] theorem mem_union {a b : List Node} {x : Node} : x ∈ union a b ↔ x ∈ a ∨ x ∈ b := by
  simp only [union, List.mem_append, List.mem_filter, mem_dedup]
  by_cases h : x ∈ a <;> simp [h]

@[simp] theorem mem_inter {a b : List Node} {x : Node} : x ∈ inter a b ↔ x ∈ a ∧ x ∈ b := by
  simp [inter]

@[simp] theorem mem_diff {a b : List Node} {x : Node} : x ∈ diff a b ↔ x ∈ a ∧ x ∉ b := by
  simp [diff]

theorem superset_iff {a b : List Node} : superset a b = true ↔ ∀ x ∈ b, x ∈ a := by
  simp [superset]

theorem mem_allNodes {g : Graph} {x : Node} : x ∈ allNodes g ↔ x < g.size := List.mem_range

theorem transGen_head {α : Type} {r : α → α → Prop} {a b c : α}
    (h : r a b) (t : Relation.TransGen r b c) : Relation.TransGen r a c :=
  (Relation.TransGen.single h).trans t

theorem transGen_head_iff {α : Type} {r : α → α → Prop} {a t : α} :
    Relation.TransGen r a t ↔ ∃ c, r a c ∧ (c = t ∨ Relation.TransGen r c t) := by
  constructor
  · intro h
    induction h with
    | single h => exact ⟨_, h, Or.inl rfl⟩
    | tail _ h2 ih =>
      obtain ⟨c, hc, hct⟩ := ih
      refine ⟨c, hc, Or.inr ?_⟩
      rcases hct with rfl | hct
      · exact .single h2
      · exact .tail hct h2
  · rintro ⟨c, hc, rfl | hct⟩
    · exact .single hc
    · exact transGen_head hc hct

theorem transGen_closed {α : Type} {r : α → α → Prop} {S : α → Prop} (h : ∀ a b, S a → r a b → S b)
    {a b : α} (ha : S a) (t : Relation.TransGen r a b) : S b := by
  induction t with
  | single e => exact h _ _ ha e
  | tail _ e ih => exact h _ _ ih e

theorem transGen_mono {α : Type} {r s : α → α → Prop} (h : ∀ a b, r a b → s a b) {a b : α}
    (t : Relation.TransGen r a b) : Relation.TransGen s a b := by
  induction t with
  | single h' => exact .single (h _ _ h')
  | tail _ h' ih => exact .tail ih (h _ _ h')

theorem transGen_flip {α : Type} (r : α → α → Prop) (a b : α) :
    Relation.TransGen (fun x y => r y x) a b ↔ Relation.TransGen r b a := by
  constructor
  · intro t
    induction t with
    | single h => exact .single h
    | tail _ h ih => exact transGen_head h ih
  · intro t
    induction t with
    | single h => exact .single h
    | tail _ h ih => exact transGen_head (r := fun x y => r y x) h ih

/-- loop rule for `foldl`: the invariant may mention the elements processed so far -/
theorem foldl_inv {α β : Type} (I : List α → β → Prop) (f : β → α → β) (l : List α)
    (step : ∀ pre a b, a ∈ l → I pre b → I (pre ++ [a]) (f b a)) {b : β} (h : I [] b) :
    I l (l.foldl f b) := by
  suffices ∀ (suf pre : List α) (b : β), (∀ a ∈ suf, a ∈ l) → I pre b → I (pre ++ suf) (suf.foldl f b) from
    this l [] b (fun _ h => h) h
  intro suf
  induction suf with
  | nil => intro pre b _ h; simpa using h
  | cons a suf ih =>
    intro pre b hl h
    have := ih (pre ++ [a]) (f b a) (fun x hx => hl x (List.mem_cons_of_mem _ hx))
      (step pre a b (hl a List.mem_cons_self) h)
    simpa using this

/-- number of keys below `size` that are not yet in `ret`: the measure of all loops that collect
nodes -/
def unseen (size : Nat) (ret : List Node) : Nat := (diff (List.range size) ret).length

theorem unseen_nil (size : Nat) : unseen size [] = size := by
  rw [unseen, diff, List.filter_eq_self.mpr (by simp), List.length_range]

theorem unseen_lt {size : Nat} {ret ret' : List Node} {x : Node}
    (hsub : ∀ y ∈ ret, y ∈ ret') (hx : x ∈ ret') (hlt : x < size) (hnot : x ∉ ret) :
    unseen size ret' < unseen size ret := by
  -- `x` and the keys unseen after `ret'` are distinct keys unseen after `ret`
  have hnd : (x :: diff (List.range size) ret').Nodup :=
    List.nodup_cons.mpr ⟨fun h => (mem_diff.mp h).2 hx, List.nodup_range.sublist List.filter_sublist⟩
  apply List.Nodup.length_le_of_subset hnd
  intro y hy
  rcases List.mem_cons.mp hy with rfl | hy
  · exact mem_diff.mpr ⟨List.mem_range.mpr hlt, hnot⟩
  · exact mem_diff.mpr ⟨(mem_diff.mp hy).1, fun h => (mem_diff.mp hy).2 (hsub _ h)⟩

/-- every iteration but the last adds an unseen key to `ret` -/
theorem worklist_some (succ : Node → List Node) (size : Nat)
    (hsucc : ∀ a b, b ∈ succ a → b < size) :
    ∀ (fuel : Nat) (todo ret : List Node), unseen size ret + 2 ≤ fuel →
      ∃ r, worklist succ fuel todo ret = some r := by
  intro fuel
  induction fuel with
  | zero => intro _ _ h; omega
  | succ fuel ih =>
    intro todo ret hfuel
    simp only [worklist]
    split
    · exact ⟨ret, rfl⟩
    · generalize hc : dedup (todo.flatMap succ) = childs
      by_cases hempty : diff childs ret = []
      · -- the next call returns at once
        rw [hempty]
        cases fuel with
        | zero => omega
        | succ f => exact ⟨ret ++ [], by simp [worklist]⟩
      · obtain ⟨x, hx⟩ := List.exists_mem_of_ne_nil _ hempty
        obtain ⟨hxc, hxr⟩ := mem_diff.mp hx
        obtain ⟨a, _, hxa⟩ := List.mem_flatMap.mp (mem_dedup.mp (hc ▸ hxc))
        have := unseen_lt (fun y hy => List.mem_append_left _ hy) (List.mem_append_right ret hx)
          (hsucc a x hxa) hxr
        exact ih _ _ (by omega)

/-- if `ret` is closed under `succ` except at the nodes of `todo`, a path that starts in `ret`
stays there until it meets `todo` -/
theorem closed_upto_todo {succ : Node → List Node} {todo ret : List Node}
    (hfr : ∀ y ∈ ret, y ∈ todo ∨ ∀ z ∈ succ y, z ∈ ret) {c x : Node} (hc : c ∈ ret)
    (t : Relation.TransGen (fun a b => b ∈ succ a) c x) :
    x ∈ ret ∨ ∃ t ∈ todo, Relation.TransGen (fun a b => b ∈ succ a) t x := by
  refine transGen_closed (S := fun x => x ∈ ret ∨ ∃ t ∈ todo, Relation.TransGen (fun a b => b ∈ succ a) t x)
    (fun b z hb hz => ?_) (Or.inl hc) t
  rcases hb with hb | ⟨t, ht, htb⟩
  · exact (hfr b hb).elim (fun h => Or.inr ⟨b, h, .single hz⟩) (fun h => Or.inl (h z hz))
  · exact Or.inr ⟨t, ht, .tail htb hz⟩

theorem worklist_sound (succ : Node → List Node) :
    ∀ (fuel : Nat) (todo ret r : List Node), worklist succ fuel todo ret = some r →
      (∀ x ∈ ret, x ∈ r) ∧
      (∀ x ∈ r, x ∈ ret ∨ ∃ t ∈ todo, Relation.TransGen (fun a b => b ∈ succ a) t x) := by
  intro fuel
  induction fuel with
  | zero => intro _ _ _ h; simp [worklist] at h
  | succ fuel ih =>
    intro todo ret r h
    simp only [worklist] at h
    split at h
    · cases h; exact ⟨fun _ hx => hx, fun _ hx => .inl hx⟩
    · obtain ⟨h1, h2⟩ := ih _ _ _ h
      refine ⟨fun x hx => h1 x (List.mem_append_left _ hx), fun x hx => ?_⟩
      have hch : ∀ z ∈ diff (dedup (todo.flatMap succ)) ret, ∃ t ∈ todo, z ∈ succ t := fun z hz =>
        List.mem_flatMap.mp (mem_dedup.mp (mem_diff.mp hz).1)
      rcases h2 x hx with hx | ⟨t, ht, htx⟩
      · rcases List.mem_append.mp hx with hx | hx
        · exact .inl hx
        · obtain ⟨t, ht, hz⟩ := hch x hx
          exact .inr ⟨t, ht, .single hz⟩
      · obtain ⟨t0, ht0, hz⟩ := hch t ht
        exact .inr ⟨t0, ht0, transGen_head hz htx⟩

/-- `hfr` is the loop invariant: `ret` is closed under `succ` except at the nodes still in `todo`
(`closed_upto_todo`); it holds of the initial `ret = []` -/
theorem worklist_mem (succ : Node → List Node) :
    ∀ (fuel : Nat) (todo ret r : List Node), worklist succ fuel todo ret = some r →
      (∀ y ∈ ret, y ∈ todo ∨ ∀ z ∈ succ y, z ∈ ret) →
      ∀ x, x ∈ r ↔ x ∈ ret ∨ ∃ t ∈ todo, Relation.TransGen (fun a b => b ∈ succ a) t x := by
  intro fuel todo ret r h hfr x
  refine ⟨(worklist_sound succ fuel todo ret r h).2 x, ?_⟩
  induction fuel generalizing todo ret with
  | zero => simp [worklist] at h
  | succ fuel ih =>
    simp only [worklist] at h
    split at h
    · rename_i hte
      obtain rfl : todo = [] := by simpa using hte
      cases h
      simp
    · generalize hc : dedup (todo.flatMap succ) = childs at h
      have hch : ∀ z, z ∈ childs ↔ ∃ t ∈ todo, z ∈ succ t := by
        intro z; rw [← hc, mem_dedup, List.mem_flatMap]
      have hret : ∀ z, z ∈ ret ++ diff childs ret ↔ z ∈ ret ∨ z ∈ childs := by
        intro z; rw [List.mem_append, mem_diff]; by_cases hz : z ∈ ret <;> simp [hz]
      have hfr' : ∀ y ∈ ret ++ diff childs ret,
          y ∈ diff childs ret ∨ ∀ z ∈ succ y, z ∈ ret ++ diff childs ret := by
        intro y hy
        rcases List.mem_append.mp hy with hy | hy
        · refine Or.inr fun z hz => (hret z).mpr ?_
          rcases hfr y hy with ht | hcl
          · exact Or.inr ((hch z).mpr ⟨y, ht, hz⟩)
          · exact Or.inl (hcl z hz)
        · exact Or.inl hy
      rintro (hx | ⟨t, ht, htx⟩) <;> apply ih _ _ h hfr'
      · exact Or.inl ((hret x).mpr (Or.inl hx))
      · -- the first edge leads into `childs`; from there the path is followed inside the new `ret`
        obtain ⟨c, hc', hcx⟩ := transGen_head_iff.mp htx
        have hcr := (hret c).mpr (Or.inr ((hch c).mpr ⟨t, ht, hc'⟩))
        rcases hcx with rfl | hcx
        · exact Or.inl hcr
        · exact closed_upto_todo hfr' hcr hcx

/-- **the worklist loops compute exactly the transitive closure, and the fuel suffices** -/
theorem worklist_spec (succ : Node → List Node) (size : Nat)
    (hsucc : ∀ a b, b ∈ succ a → b < size) (nodes : List Node) :
    ∃ r, worklist succ (size + 2) nodes [] = some r ∧
      ∀ x, x ∈ r ↔ ∃ n ∈ nodes, Relation.TransGen (fun a b => b ∈ succ a) n x := by
  obtain ⟨r, hr⟩ := worklist_some succ size hsucc (size + 2) nodes [] (by rw [unseen_nil]; omega)
  exact ⟨r, hr, fun x => by simpa using worklist_mem succ _ _ _ _ hr (by simp) x⟩

end PathSpec
