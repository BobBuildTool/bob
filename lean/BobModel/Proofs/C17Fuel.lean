import BobModel.Proofs.C17Step
/-
C17: the fuel of the mutual parser functions.  One induction over the fuel (`fuelSteps`) shows for every
call at once that the rest it returns is at most as long as its input, that more fuel does not change a
result other than `outOfFuel`, and that fuel `2 * length + 1` (`+ 2` for `getVariable` and
`getCommand`) is enough.
-/
namespace C17
open StringParser SubstSpec

def remLen (r : Except PErr (Str × Str)) : Nat :=
  match r with
  | .ok (_, rest) => rest.length
  | .error _ => 0

@[simp, grind =] theorem remLen_ok (s rest : Str) : remLen (.ok (s, rest)) = rest.length := rfl
@[simp, grind =] theorem remLen_err (e : PErr) : remLen (.error e) = 0 := rfl

theorem scan_len (extra : List Char) (inp acc : Str) : remLen (scan extra inp acc) ≤ inp.length := by
  fun_induction scan extra inp acc <;> simp_all <;> omega

theorem scan_ne_oof (extra : List Char) (inp acc : Str) : scan extra inp acc ≠ .error .outOfFuel := by
  fun_induction scan extra inp acc <;> simp_all

theorem getSingleQuoted_len (inp : Str) : remLen (getSingleQuoted inp) ≤ inp.length := by
  fun_induction getSingleQuoted inp <;> simp_all <;> omega

theorem getSingleQuoted_ne_oof (inp : Str) : getSingleQuoted inp ≠ .error .outOfFuel := by
  fun_induction getSingleQuoted inp <;> simp_all

theorem getRestOfName_len (inp : Str) : (getRestOfName inp).2.length ≤ inp.length := by
  fun_induction getRestOfName inp <;> simp_all <;> omega

theorem callFun_ne_oof (cfg : Cfg) (name : Str) (args : List Str) : callFun cfg name args ≠ .error .outOfFuel := by
  unfold callFun
  split <;> (try simp) <;> (split <;> (try simp) <;> (split <;> simp))

theorem nextToken_ne_oof (extra : List Char) (inp : Str) : nextToken extra inp ≠ .error .outOfFuel := by
  unfold nextToken
  split
  · simp
  · split
    · simp
    · have := scan_ne_oof extra (‹Char› :: ‹Str›) []
      split <;> simp_all

theorem scan_len_lt (extra : List Char) (c : Char) (r acc : Str) (h : isDelim extra c = false) :
    remLen (scan extra (c :: r) acc) ≤ r.length := by
  rw [scan.eq_def]
  simp only [h, Bool.false_eq_true, if_false]
  split
  · cases r with
    | nil => simp
    | cons d r' => have := scan_len extra r' (d :: acc); simp at this ⊢; omega
  · exact scan_len extra r (c :: acc)

theorem nextToken_len (extra : List Char) (inp : Str) (t : Tok) (rest : Str)
    (h : nextToken extra inp = .ok (t, rest)) :
    rest.length ≤ inp.length ∧ (t ≠ .eos → rest.length < inp.length) := by
  unfold nextToken at h
  split at h
  · simp_all
  · rename_i c r
    split at h
    · simp_all
    · have h1 := scan_len_lt extra c r [] (by simp_all)
      split at h
      · rename_i s r' hs
        rw [hs] at h1
        simp_all
        omega
      · simp at h

theorem nextChar_len {r : Str} {d : Char} {r0 : Str} (h : nextChar r = .ok (d, r0)) : r.length = r0.length + 1 := by
  cases r <;> simp_all [nextChar]

theorem nextChar_ne_oof (r : Str) : nextChar r ≠ .error .outOfFuel := by
  cases r <;> simp [nextChar]

theorem varValue_ne_oof (cfg : Cfg) (sb : Bool) (nm : Str) : varValue cfg sb nm ≠ .error .outOfFuel := by
  unfold varValue
  split
  · nofun
  · split <;> nofun

theorem finish_pure (cfg : Cfg) (sb : Bool) (ws : List Str) (r : Str) :
    remLen (finish cfg sb ws r) ≤ r.length ∧ finish cfg sb ws r ≠ .error .outOfFuel := by
  unfold finish
  split
  · exact ⟨Nat.le_refl _, nofun⟩
  split
  · exact ⟨Nat.zero_le _, nofun⟩
  · have := callFun_ne_oof cfg ‹_› ‹_›
    split
    · exact ⟨Nat.zero_le _, by simp_all⟩
    · exact ⟨Nat.le_refl _, nofun⟩

/-- `R` and `R'` are the results of one call with fuel `n` and `n + 1` on an input of length at most
`L`, and fuel `b` is enough for it -/
structure FuelStep (L b n : Nat) (R R' : Res) : Prop where
  len : remLen R ≤ L
  total : b ≤ n → R ≠ .error .outOfFuel
  mono : R ≠ .error .outOfFuel → R' = R

namespace FuelStep
variable {L L' b b' n : Nat} {R R' : Res}

theorem pure (hl : remLen R ≤ L) (ho : R ≠ .error .outOfFuel) : FuelStep L b n R R :=
  ⟨hl, fun _ => ho, fun _ => rfl⟩

theorem weaken (h : FuelStep L b n R R') (hL : L ≤ L') (hb : b ≤ b') : FuelStep L' b' n R R' :=
  ⟨Nat.le_trans h.len hL, fun hn => h.total (Nat.le_trans hb hn), h.mono⟩

theorem succ (h : FuelStep L b n R R') : FuelStep L (b + 1) (n + 1) R R' :=
  ⟨h.len, fun hn => h.total (Nat.le_of_succ_le_succ hn), h.mono⟩

theorem zero (hb : 0 < b) : FuelStep L b 0 (.error .outOfFuel) R' :=
  ⟨Nat.zero_le _, fun hn => absurd hb (by omega), fun h => absurd rfl h⟩

theorem cat (s : Str) (h : FuelStep L b n R R') : FuelStep L b n (cat s R) (cat s R') := by
  cases R with
  | error e => exact ⟨h.len, h.total, fun hne => by rw [h.mono hne]⟩
  | ok p => rw [h.mono nofun]; exact pure h.len nofun

theorem bind {k k' : Str × Str → Res} (h : FuelStep L' b n R R')
    (hk : ∀ s r, r.length ≤ L' → FuelStep L b n (k (s, r)) (k' (s, r))) :
    FuelStep L b n (bindE R k) (bindE R' k') := by
  cases R with
  | error e => exact ⟨Nat.zero_le _, h.total, fun hne => by rw [h.mono hne]; rfl⟩
  | ok p => rw [h.mono nofun]; exact hk p.1 p.2 h.len

theorem ite {c : Prop} [Decidable c] {A A' B B' : Res} (ht : c → FuelStep L b n A A')
    (hf : ¬c → FuelStep L b n B B') : FuelStep L b n (if c then A else B) (if c then A' else B') := by
  by_cases h : c
  · rw [if_pos h, if_pos h]; exact ht h
  · rw [if_neg h, if_neg h]; exact hf h

theorem bindPure {α : Type} {X : Except PErr α} {k k' : α → Res} (hX : X ≠ .error .outOfFuel)
    (hk : ∀ v, X = .ok v → FuelStep L b n (k v) (k' v)) : FuelStep L b n (bindE X k) (bindE X k') := by
  cases X with
  | error e => exact pure (Nat.zero_le _) fun h => hX (congrArg Except.error (Except.error.inj h))
  | ok v => exact hk v rfl

end FuelStep

/-- `FuelStep` for every call with fuel `n`.  `getString` uses one unit of fuel per token; `getVariable` and
`getCommand` use one more before they read their first word, and are entered two characters (`${`,
`$(`) after the `getString` that calls them. -/
structure FuelSteps (cfg : Cfg) (n : Nat) : Prop where
  S : ∀ E o k sb inp, FuelStep inp.length (2 * inp.length + 1) n
    (getString cfg n E o k sb inp) (getString cfg (n + 1) E o k sb inp)
  V : ∀ sb inp, FuelStep inp.length (2 * inp.length + 2) n
    (getVariable cfg n sb inp) (getVariable cfg (n + 1) sb inp)
  C : ∀ sb inp ws, FuelStep inp.length (2 * inp.length + 2) n
    (getCommand cfg n sb inp ws) (getCommand cfg (n + 1) sb inp ws)

theorem item_step {cfg : Cfg} {n : Nat} (ih : FuelSteps cfg n) (sb : Bool) (c : Char) (rest : Str) :
    FuelStep rest.length (2 * rest.length + 1) n (item cfg n sb c rest) (item cfg (n + 1) sb c rest) := by
  refine .ite (fun _ => ih.S ..) fun _ => .ite
    (fun _ => .pure (getSingleQuoted_len rest) (getSingleQuoted_ne_oof rest)) fun _ => ?_
  refine .bindPure (nextChar_ne_oof rest) fun (d, r0) h => ?_
  have := nextChar_len h
  have := getRestOfName_len r0
  refine .ite (fun _ => (ih.V sb r0).weaken (by omega) (by omega)) fun _ => .ite
    (fun _ => (ih.C sb r0 []).weaken (by omega) (by omega)) fun _ => .ite (fun _ => ?_)
    fun _ => .pure (Nat.zero_le _) nofun
  exact .bindPure (varValue_ne_oof _ _ _) fun v _ => .pure (by simp only [remLen_ok]; omega) nofun

theorem varOp_step {cfg : Cfg} {n : Nat} (ih : FuelSteps cfg n) (sb : Bool) (nm : Str) (u : Bool) (op : Char)
    (r3 : Str) :
    FuelStep r3.length (2 * r3.length + 1) n (varOp cfg n sb nm u op r3) (varOp cfg (n + 1) sb nm u op r3) := by
  exact .ite (fun _ => (ih.S ..).bind fun d r4 h => .pure h nofun) fun _ => .ite
    (fun _ => (ih.S ..).bind fun a r4 h => .pure h nofun) fun _ => .ite
    (fun _ => .bindPure (varValue_ne_oof _ _ _) fun v _ => .pure (Nat.le_refl _) nofun)
    fun _ => .pure (Nat.zero_le _) nofun

theorem fuelSteps (cfg : Cfg) : ∀ n, FuelSteps cfg n
  | 0 => ⟨fun _ _ _ _ _ => .zero (by omega), fun _ _ => .zero (by omega), fun _ _ _ => .zero (by omega)⟩
  | n + 1 => by
    have ih := fuelSteps cfg n
    refine ⟨fun E o k sb inp => ?_, fun sb inp => ?_, fun sb inp ws => ?_⟩
    · rw [getString_succ, getString_succ]
      refine FuelStep.succ (.bindPure (nextToken_ne_oof E inp) fun (t, rest) h => ?_)
      have ⟨h1, h2⟩ := nextToken_len E inp t rest h
      cases t with
      | eos => exact .ite (fun _ => .pure h1 nofun) fun _ => .pure (Nat.zero_le _) nofun
      | lit s =>
        have := h2 nofun
        exact ((ih.S ..).weaken h1 (by omega)).cat s
      | delim c =>
        have := h2 nofun
        refine .ite (fun _ => .pure ?_ nofun) fun _ =>
          ((item_step ih sb c rest).weaken (Nat.le_refl _) (by omega)).bind fun s r1 hr =>
            ((ih.S E o k sb r1).weaken (by omega) (by omega)).cat s
        split <;> simp only [remLen_ok, List.length_cons] <;> omega
    · rw [getVariable_succ, getVariable_succ]
      refine FuelStep.succ ((ih.S ..).bind fun nm r1 h1 => ?_)
      refine .bindPure (nextChar_ne_oof r1) fun (op0, r2) h2 => ?_
      have := nextChar_len h2
      have : ∀ op r3, (if op0 = ':' then nextChar r2 else .ok (op0, r2)) = .ok (op, r3) →
          r3.length ≤ r2.length := by
        intro op r3 h
        split at h
        · have := nextChar_len h; omega
        · cases h; exact Nat.le_refl _
      refine .bindPure (by split; exact nextChar_ne_oof r2; nofun) fun (op, r3) h3 => ?_
      have := this op r3 h3
      exact (varOp_step ih ..).weaken (by omega) (by omega)
    · rw [getCommand_succ, getCommand_succ]
      refine FuelStep.succ ((ih.S ..).bind fun w r1 h1 => ?_)
      refine .bindPure (nextChar_ne_oof r1) fun (c, r2) h2 => ?_
      have := nextChar_len h2
      have := finish_pure cfg sb (w :: ws) r2
      exact .ite (fun _ => .pure (by omega) this.2) fun _ => (ih.C ..).weaken (by omega) (by omega)

theorem mono_le (cfg : Cfg) {n m : Nat} (hnm : n ≤ m) (E : List Char) (o k sb : Bool) (inp : Str)
    (h : getString cfg n E o k sb inp ≠ .error .outOfFuel) :
    getString cfg m E o k sb inp = getString cfg n E o k sb inp := by
  induction hnm with
  | refl => rfl
  | step _ ih => rw [← ih]; exact ((fuelSteps cfg _).S ..).mono (by rw [ih]; exact h)

end C17
