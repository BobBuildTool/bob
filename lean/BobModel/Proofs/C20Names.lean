import BobModel.Proofs.C20Merge
import BobModel.Proofs.C20NameMap
import BobModel.Proofs.CommonSort
/-
C20: the naming phase of `sanitize` (longest prefix groups, numbering) and which hypotheses make the
final names unique.
-/
namespace Jenkins

theorem isort_is {α : Type} (le : α → α → Bool) : SortKey.IsSort le (insertSorted le) (isort le) :=
  ⟨⟨fun _ => rfl, fun _ _ _ => rfl⟩, rfl, fun _ _ => rfl⟩

theorem isort_perm {α : Type} (le : α → α → Bool) (l : List α) : (isort le l).Perm l :=
  (isort_is le).perm l

/-- the step of the fold in `finalNames`: `finalNames g s = (isort keyLe s.names).foldl (fnStep g s) []` by `rfl` -/
def fnStep (g : Graph) (s : St) (fin : NameMap) (p : Str × List Nat) : NameMap :=
  if p.2.length > 1 then p.2.foldl (fun fin j => extendName fin (longestPrefix g (s.job j).pkgs) [j]) fin
  else extendName fin p.1 p.2

theorem nodup_keys_fnStep (g : Graph) (s : St) {M : NameMap} (p : Str × List Nat) (h : (keysOf M).Nodup) :
    (keysOf (fnStep g s M p)).Nodup := by
  unfold fnStep
  split
  · exact List.foldlRecOn p.2 _ (motive := fun M => (keysOf M).Nodup) h fun _ h _ _ => nodup_keys_extendName h
  · exact nodup_keys_extendName h

theorem allJobs_fnStep_perm (g : Graph) (s : St) (M : NameMap) (p : Str × List Nat) :
    (allJobs (fnStep g s M p)).Perm (allJobs M ++ p.2) := by
  unfold fnStep
  split
  · generalize p.2 = js
    induction js generalizing M with
    | nil => simp
    | cons j js ih =>
      refine (ih _).trans ?_
      rw [List.append_cons]
      exact allJobs_extendName_perm.append_right js
  · exact allJobs_extendName_perm

theorem allJobs_foldl_fnStep_perm (g : Graph) (s : St) (L M : NameMap) :
    (allJobs (L.foldl (fnStep g s) M)).Perm (allJobs M ++ allJobs L) := by
  induction L generalizing M with
  | nil => simp [allJobs]
  | cons p L ih =>
    refine (ih _).trans ?_
    rw [allJobs_cons, ← List.append_assoc]
    exact (allJobs_fnStep_perm g s M p).append_right _

theorem finalNames_ok {g : Graph} {s : St} (h : NamesOk s.names s) : NamesOk (finalNames g s) s := by
  have hp : (allJobs (finalNames g s)).Perm (allJobs s.names) :=
    (allJobs_foldl_fnStep_perm g s _ []).trans (allJobs_perm (isort_perm keyLe s.names))
  refine ⟨?_, hp.nodup_iff.mpr h.nodup, fun k => hp.mem_iff.trans (h.live k)⟩
  exact List.foldlRecOn _ _ (motive := fun M => (keysOf M).Nodup) List.nodup_nil
    fun _ h p _ => nodup_keys_fnStep g s p h

/-- the name given to the job at position `idx` of the group `p` -/
def nameAt (p : Str × List Nat) (idx : Nat) : Str :=
  match p.2 with
  | [_] => p.1
  | _ => numbered p.1 idx

/-- the jobs of a group with the names they get, in the order in which `assign` hands them out -/
def slots (p : Str × List Nat) : List (Nat × Str) := p.2.zipIdx.map fun q => (q.1, nameAt p q.2)

def setSlot (s : St) (pn : PkgNames) (q : Nat × Str) : PkgNames := setAll pn (s.job q.1).pkgs q.2

theorem assignNumbered_eq (s : St) (name : Str) : ∀ (js : List Nat) (i : Nat) (pn : PkgNames),
    assignNumbered s name i js pn = ((js.zipIdx i).map fun q => (q.1, numbered name q.2)).foldl (setSlot s) pn
  | [], _, _ => rfl
  | _ :: js, i, _ => assignNumbered_eq s name js (i + 1) _

theorem assign_eq (s : St) (fin : NameMap) :
    assign s fin = ((isort keyLe fin).flatMap slots).foldl (setSlot s) (fun _ => none) := by
  rw [List.foldl_flatMap]
  refine congrArg (fun f => List.foldl f _ _) (funext fun pn => funext fun p => ?_)
  obtain ⟨nm, l⟩ := p
  match l with
  | [] | [_] => rfl
  | a :: b :: l => exact assignNumbered_eq s nm (a :: b :: l) 0 pn

theorem slots_fst (L : NameMap) : (L.flatMap slots).map (·.1) = allJobs L := by
  induction L with
  | nil => rfl
  | cons p L ih =>
    rw [List.flatMap_cons, List.map_append, ih, allJobs_cons, slots, List.map_map]
    exact congrArg (· ++ _) (List.zipIdx_map_fst 0 p.2)

/-- a package step gets the name in the slot of its job, when every job has one slot at most -/
theorem foldl_setSlot {s : St} {v k : Nat} (hv : s.v2j v = some k) :
    ∀ (Q : List (Nat × Str)), (∀ q ∈ Q, ∀ w, w ∈ (s.job q.1).pkgs ↔ s.v2j w = some q.1) → (Q.map (·.1)).Nodup →
    ∀ (pn : PkgNames), (k ∉ Q.map (·.1) → Q.foldl (setSlot s) pn v = pn v) ∧
      ∀ nm, (k, nm) ∈ Q → Q.foldl (setSlot s) pn v = some nm
  | [], _, _, _ => ⟨fun _ => rfl, fun _ h => nomatch h⟩
  | q :: Q, hpk, hnd, pn => by
    obtain ⟨i1, i2⟩ := foldl_setSlot hv Q (fun q hq => hpk q (List.mem_cons_of_mem _ hq)) (List.nodup_cons.mp hnd).2
      (setSlot s pn q)
    have hq : setSlot s pn q v = if k = q.1 then some q.2 else pn v := by
      simp only [setSlot, setAll, List.contains_iff_mem, hpk q List.mem_cons_self v, hv, Option.some.injEq]
    rw [List.map_cons, List.mem_cons, not_or]
    refine ⟨fun hk => by rw [List.foldl_cons, i1 hk.2, hq, if_neg hk.1], fun nm hm => ?_⟩
    rcases List.mem_cons.mp hm with rfl | hm
    · rw [List.foldl_cons, i1 (List.nodup_cons.mp hnd).1, hq, if_pos rfl]
    · exact i2 nm hm

theorem digitChar_eq : ∀ d, d < 10 → digitChar d = d.digitChar := by decide

/-- `dec` is the decimal representation of core, whose digits can be read back -/
theorem decAux_eq (fuel n : Nat) (acc : Str) : decAux fuel n acc = Nat.toDigitsCore 10 fuel n acc := by
  fun_induction decAux fuel n acc with
  | case1 => rfl
  | case2 _ n acc hn =>
    rw [Nat.toDigitsCore, if_pos (Nat.div_eq_of_lt hn), Nat.mod_eq_of_lt hn, digitChar_eq n hn]
  | case3 f n acc hn ih =>
    rw [Nat.toDigitsCore, if_neg (by omega), ih, digitChar_eq _ (Nat.mod_lt _ (by omega))]

theorem dec_eq (n : Nat) : dec n = Nat.toDigits 10 n := decAux_eq ..

theorem dec_inj {a b : Nat} (h : dec a = dec b) : a = b := by
  rw [dec_eq, dec_eq] at h
  rw [← Nat.ofDigitChars_ten_toDigits (n := a), h, Nat.ofDigitChars_ten_toDigits]

theorem dec_nodash (n : Nat) : Consts.C20.sepChar ∉ dec n := fun h =>
  absurd (Nat.isDigit_of_mem_toDigits (by decide) (by decide) (dec_eq n ▸ h)) (by decide)

theorem split_last_dash (c : Char) : ∀ (a b x y : Str), a ++ c :: x = b ++ c :: y → c ∉ x → c ∉ y → a = b ∧ x = y := by
  intro a
  induction a with
  | nil =>
    intro b x y h hx hy
    cases b with
    | nil => simp at h; exact ⟨rfl, h⟩
    | cons c b' =>
      simp at h
      exact absurd (by rw [h.2]; simp) hx
  | cons c a' ih =>
    intro b x y h hx hy
    cases b with
    | nil =>
      simp at h
      exact absurd (by rw [← h.2]; simp) hy
    | cons c' b' =>
      simp at h
      obtain ⟨r1, r2⟩ := ih b' x y h.2 hx hy
      exact ⟨by rw [h.1, r1], r2⟩

theorem numbered_inj {a b : Str} {i j : Nat} (h : numbered a i = numbered b j) : a = b ∧ i = j := by
  unfold numbered at h
  obtain ⟨r1, r2⟩ := split_last_dash Consts.C20.sepChar a b _ _ h (dec_nodash _) (dec_nodash _)
  exact ⟨r1, by have := dec_inj r2; omega⟩

/-- no plain group name equals a numbered name of another group (what the numbering silently assumes) -/
def NumberingFresh (fin : NameMap) : Prop :=
  ∀ e ∈ fin, ∀ e' ∈ fin, e.2.length = 1 → e'.2.length ≠ 1 → ∀ idx, idx < e'.2.length → e.1 ≠ numbered e'.1 idx

theorem nameAt_one {p : Str × List Nat} (h : p.2.length = 1) (idx : Nat) : nameAt p idx = p.1 := by
  obtain ⟨nm, l⟩ := p
  unfold nameAt
  match l, h with
  | [_], _ => rfl

theorem nameAt_many {p : Str × List Nat} (h : p.2.length ≠ 1) (idx : Nat) : nameAt p idx = numbered p.1 idx := by
  obtain ⟨nm, l⟩ := p
  unfold nameAt
  match l, h with
  | [], _ => rfl
  | _ :: _ :: _, _ => rfl

theorem displayName_inj {pfx : Str} {pn : PkgNames} {v w : Nat}
    (h : displayName pfx pn v = displayName pfx pn w) : pn v = pn w :=
  Option.map_injective (fun _ _ => List.append_cancel_left) h

section final
variable {g : Graph} {n : Nat} {s : St}

/-- the name of a package step is the name of the position of its job in `finalNames` -/
theorem assign_val (h : Inv g n s) (hN : NamesOk s.names s) {v k : Nat} (hv : s.v2j v = some k) :
    (∃ e : Str × List Nat, e ∈ finalNames g s ∧ ∃ idx : Nat, e.2[idx]? = some k) ∧
    (∀ e : Str × List Nat, e ∈ finalNames g s → ∀ idx : Nat, e.2[idx]? = some k →
      assign s (finalNames g s) v = some (nameAt e idx)) := by
  have hF := finalNames_ok (g := g) hN
  have hk : s.v2j k = some k := h.rep v k hv
  have hperm := isort_perm keyLe (finalNames g s)
  constructor
  · obtain ⟨e, he, hke⟩ := mem_allJobs.mp ((hF.live k).mpr hk)
    obtain ⟨idx, hidx⟩ := List.mem_iff_getElem?.mp hke
    exact ⟨e, he, idx, hidx⟩
  · intro e he idx hidx
    rw [assign_eq]
    refine (foldl_setSlot hv _ (fun q hq => h.pkgs q.1 ?_) ?_ _).2 _ (List.mem_flatMap.mpr ⟨e, hperm.mem_iff.mpr he,
      List.mem_map.mpr ⟨(k, idx), List.mem_zipIdx_iff_getElem?.mpr hidx, rfl⟩⟩)
    · exact (hF.live q.1).mp ((allJobs_perm hperm).mem_iff.mp (slots_fst _ ▸ List.mem_map_of_mem hq))
    · rw [slots_fst]; exact (allJobs_perm hperm).nodup_iff.mpr hF.nodup

/-- every known package step gets a name (no `KeyError` in `getJobDisplayName`) -/
theorem assign_total (h : Inv g n s) (hN : NamesOk s.names s) {v : Nat} (hv : s.v2j v ≠ none) :
    ∃ nm, assign s (finalNames g s) v = some nm := by
  obtain ⟨k, hk⟩ := Option.ne_none_iff_exists'.mp hv
  obtain ⟨⟨e, he, idx, hidx⟩, h2⟩ := assign_val h hN hk
  exact ⟨_, h2 e he idx hidx⟩

theorem names_welldefined (h : Inv g n s) (hN : NamesOk s.names s) {v w : Nat} (hvw : SameJobV s.v2j v w) :
    assign s (finalNames g s) v = assign s (finalNames g s) w := by
  obtain ⟨k, hv, hw⟩ := hvw
  obtain ⟨⟨e, he, idx, hidx⟩, h2⟩ := assign_val h hN hv
  rw [h2 e he idx hidx, (assign_val h hN hw).2 e he idx hidx]

theorem names_injective (h : Inv g n s) (hN : NamesOk s.names s) (hfresh : NumberingFresh (finalNames g s))
    {v w : Nat} (hv : s.v2j v ≠ none) (hw : s.v2j w ≠ none)
    (heq : assign s (finalNames g s) v = assign s (finalNames g s) w) : SameJobV s.v2j v w := by
  have hF := finalNames_ok (g := g) hN
  obtain ⟨k, hk⟩ := Option.ne_none_iff_exists'.mp hv
  obtain ⟨k', hk'⟩ := Option.ne_none_iff_exists'.mp hw
  obtain ⟨⟨e, he, idx, hidx⟩, h2⟩ := assign_val h hN hk
  obtain ⟨⟨e', he', idx', hidx'⟩, h2'⟩ := assign_val h hN hk'
  rw [h2 e he idx hidx, h2' e' he' idx' hidx'] at heq
  have heq' : nameAt e idx = nameAt e' idx' := by injection heq
  have hlt : idx < e.2.length := (List.getElem?_eq_some_iff.mp hidx).1
  have hlt' : idx' < e'.2.length := (List.getElem?_eq_some_iff.mp hidx').1
  have same : e = e' ∧ idx = idx' := by
    by_cases h1 : e.2.length = 1 <;> by_cases h1' : e'.2.length = 1
    · rw [nameAt_one h1, nameAt_one h1'] at heq'
      refine ⟨entry_key_unique hF.keys he he' heq', by omega⟩
    · rw [nameAt_one h1, nameAt_many h1'] at heq'
      exact absurd heq' (hfresh e he e' he' h1 h1' idx' hlt')
    · rw [nameAt_many h1, nameAt_one h1'] at heq'
      exact absurd heq'.symm (hfresh e' he' e he h1' h1 idx hlt)
    · rw [nameAt_many h1, nameAt_many h1'] at heq'
      obtain ⟨r1, r2⟩ := numbered_inj heq'
      exact ⟨entry_key_unique hF.keys he he' r1, r2⟩
  obtain ⟨rfl, rfl⟩ := same
  rw [hidx] at hidx'; cases hidx'
  exact ⟨k, hk, hk'⟩

end final

end Jenkins
