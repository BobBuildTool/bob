import BobModel.Proofs.C01Truthful
import BobModel.Proofs.C01Driver
/-
C05: whenever a step script is running, has failed or has just finished without its result being
recorded yet, the stored state claims nothing about that workspace (`NoClaim`).  A purely
"syntactic" property of the source order (delInputs / directory state without the variant-id key
precede the script): it holds for every project, every state and every environment.
-/
namespace Builder

variable {E : Env}

def lastOp (r : Run) : Option Op := r.log.getLast?

/-- if the last micro-operation is the begin or end of a script in workspace `p`, nothing is
claimed about `p` -/
def SafeLog (r : Run) : Prop :=
  ∀ p, (lastOp r = some (.scriptBegin p) ∨ ∃ ok, lastOp r = some (.scriptEnd p ok)) → NoClaim r.st p

/-- `m` keeps `SafeLog`, also at every cut -/
def LogSafe {α : Type} (m : M α) : Prop :=
  ∀ r, SafeLog r → wp m (fun _ r' => SafeLog r') SafeLog r

theorem logsafe_getMem : LogSafe getMem :=
  fun _ h => (wp_getMem _ _ _).mpr h

theorem logsafe_setMem (m : Mem) : LogSafe (setMem m) :=
  fun _ h => (wp_setMem _ _ _ _).mpr h

theorem logsafe_abort {α : Type} : LogSafe (abort : M α) :=
  fun _ h => (wp_abort _ _ _).mpr h

/-- after a micro-operation only a script boundary obliges -/
theorem safelog_append {st : St} {mem : Mem} {k : Nat} {l : List Op} {op : Op}
    (h : ∀ p, (op = .scriptBegin p ∨ ∃ ok, op = .scriptEnd p ok) → NoClaim st p) :
    SafeLog { st := st, mem := mem, fuel := k, log := l ++ [op] } := by
  intro p hp
  simp only [lastOp, List.getLast?_concat, Option.some.injEq] at hp
  exact h p hp

theorem safelog_after {st : St} {mem : Mem} {k : Nat} {l : List Op} {op : Op} (hop : isScriptOp op = false) :
    SafeLog { st := st, mem := mem, fuel := k, log := l ++ [op] } := by
  refine safelog_append fun p hp => ?_
  rcases hp with rfl | ⟨ok, rfl⟩ <;> cases hop

/-- the programs that contain no script boundary, and their compositions, are safe -/
theorem logsafe_closed : Closed (fun op _ => isScriptOp op = false) LogSafe where
  pure _ _ h := (wp_pure _ _ _ _).mpr h
  bind h1 h2 r h := (wp_bind _ _ _ _ _).mpr (wp_post h2 (h1 r h))
  getSt _ h := (wp_getSt _ _ _).mpr h
  abort := logsafe_abort
  prim hop _ h := (wp_prim _ _ _ _ _).mpr ⟨fun _ => h, fun _ _ => safelog_after hop⟩

theorem logsafe_ite {α : Type} (c : Prop) [Decidable c] {m1 m2 : M α} (h1 : LogSafe m1) (h2 : LogSafe m2) :
    LogSafe (if c then m1 else m2) :=
  logsafe_closed.ite h1 h2

theorem logsafe_plain {p : Path} : Closed (PlainOp p) LogSafe := logsafe_closed.mono fun _ _ h => h.1

/-- a script boundary in a workspace about which nothing is claimed -/
theorem wp_script_prim {op : Op} {p : Path} (hop : op = .scriptBegin p ∨ ∃ ok, op = .scriptEnd p ok) {c : Content}
    {r : Run} (hs : SafeLog r) (hc : NoClaim r.st p) {Q : Unit → Run → Prop}
    (hq : ∀ r', SafeLog r' → NoClaim r'.st p → Q () r') : wp (prim op (fun s => s.setDisk p c)) Q SafeLog r := by
  rw [wp_prim]
  have nc : NoClaim (r.st.setDisk p c) p := hc
  refine ⟨fun _ => hs, fun k _ => hq _ (safelog_append fun q hq => ?_) nc⟩
  rcases hop with rfl | ⟨_, rfl⟩ <;> rcases hq with h | ⟨_, h⟩ <;> cases h <;> exact nc

/-- `_runShell` when nothing is claimed about the workspace, followed by safe programs -/
theorem runScript_then_logsafe {β : Type} (i : Info) (clean : Bool) (ins : List Content) {f : Unit → M β}
    (hf : ∀ a, LogSafe (f a)) {r : Run} (hs : SafeLog r) (hc : NoClaim r.st i.path) :
    wp (runScript E i clean ins >>= f) (fun _ r' => SafeLog r') SafeLog r := by
  unfold runScript
  simp only [wp_bind, wp_getSt]
  refine wp_script_prim (.inl rfl) hs hc fun r1 hs1 hc1 => ?_
  split
  · exact wp_script_prim (.inr ⟨_, rfl⟩) hs1 hc1 fun r2 hs2 _ => hf _ r2 hs2
  · simp only [wp_bind, wp_abort]
    exact wp_script_prim (.inr ⟨_, rfl⟩) hs1 hc1 fun _ hs2 _ => hs2

theorem logsafe_runRecord {i : Info} {clean : Bool} {st : St} {ins : List Step} {inH : Inputs} {iv : St → Vid} :
    LogSafe (runRecord E i clean st ins inH iv) := by
  have h := logsafe_closed
  intro r hs
  unfold runRecord
  dsimp only
  rw [wp_bind, wp_prim]
  refine ⟨fun _ => hs, fun k1 _ => ?_⟩
  rw [wp_bind, wp_prim]
  refine ⟨fun _ => safelog_after rfl, fun k2 _ => ?_⟩
  -- the input hashes are gone
  exact runScript_then_logsafe i clean _
    (fun _ => h.bind h.getSt fun _ => h.bind (h.prim rfl) fun _ => h.bind (h.prim rfl) fun _ => h.prim rfl)
    (safelog_after rfl) (Or.inl (upd_same _ _ _))

theorem logsafe_checkoutRun {cfg : Cfg} {i : Info} {ds : List Step} {old : OldCo} {oldHash : Option RH} {inH : Inputs} :
    LogSafe (checkoutRun E cfg i ds old oldHash inH) := by
  have h := logsafe_closed
  intro r hs
  unfold checkoutRun
  dsimp only
  rw [wp_bind]
  refine wp_post ?_ (logsafe_plain.atticLoop_mem cfg _ _ _ _ _ r hs)
  intro keep r1 s1
  rw [wp_bind, wp_getSt]
  split
  · rw [wp_bind, wp_abort]
    exact s1
  · rw [wp_bind, wp_prim]
    refine ⟨fun _ => s1, fun k _ => ?_⟩
    -- the directory state without the variant-id key claims nothing
    have nc : NoClaim (r1.st.setDir i.path (.co i.scms none (some { loc := i.boLoc, upd := i.boUpd, ins := inH }))) i.path :=
      Or.inr (Or.inr ⟨_, _, upd_same _ _ _⟩)
    rw [wp_bind, wp_getSt, wp_bind]
    refine wp_post (Q := fun _ r' => SafeLog r' ∧ NoClaim r'.st i.path) ?_ ?_
    · intro oh r3 ⟨s3, nc3⟩
      exact runScript_then_logsafe i false _
        (fun _ => h.bind (h.prim rfl) fun _ => h.bind (h.prim rfl) fun _ => h.bind h.getSt fun _ =>
          h.bind (h.prim rfl) fun _ => h.pure _) s3 nc3
    · split
      · rw [wp_bind, wp_prim]
        exact ⟨fun _ => safelog_after rfl,
          fun _ _ => (wp_pure _ _ _ _).mpr ⟨safelog_after rfl, nc⟩⟩
      · exact (wp_pure _ _ _ _).mpr ⟨safelog_after rfl, nc⟩

theorem logsafe_spec (cfg : Cfg) : DriverSpec E cfg (fun _ => True) (fun _ => True) SafeLog SafeLog (fun _ _ => True)
    (fun _ _ => True) (fun _ _ => True) (fun _ _ => True) where
  sub _ _ _ := trivial
  okFalse := trivial
  ofMem _ := trivial
  trans _ _ := trivial
  gMono _ _ := trivial
  nLocal _ _ _ := trivial
  skip _ _ _ := trivial
  was _ _ hs := wp_wasAlreadyRun _ _ _ _ _ fun _ _ _ => ⟨hs, trivial, fun _ => trivial, fun _ => trivial⟩
  mark _ _ hs _ _ := wp_setAlreadyRun _ _ _ _ _ _ fun _ _ => ⟨hs, trivial, trivial⟩
  skipMark _ _ _ _ := trivial
  checkout := @fun i _ ds _ _ _ hs _ _ => wp_post (fun _ _ h => ⟨h, trivial⟩)
    (logsafe_plain.cookCheckout_mem i cfg ds (fun _ _ _ => logsafe_checkoutRun) _ hs)
  build := @fun i _ ds _ _ _ hs _ _ => wp_post (fun _ _ h => ⟨h, trivial⟩)
    (logsafe_plain.cookBuild_mem i cfg ds (fun _ _ _ => logsafe_runRecord) _ hs)
  package := @fun i pre ds _ _ _ hs _ => wp_post
    (fun _ _ h1 => ⟨h1, fun r3 h3 _ _ _ _ => wp_post (fun _ _ h => ⟨h, trivial⟩)
      (logsafe_plain.cookPackage_mem i cfg pre ds (fun _ _ _ => logsafe_runRecord) r3 h3)⟩)
    (logsafe_plain.preparePackage_mem i ds _ hs)

theorem logsafe_cook (cfg : Cfg) (co : Bool) (t : Step) : LogSafe (cookStep E cfg co t) :=
  fun r hs => wp_post (fun _ _ h => h.1) (((logsafe_spec cfg).cook t trivial).1 co trivial r hs)

end Builder
