import BobModel.Proofs.C11Enc
/-
Well-formed trees, the entry triples of one directory, and injectivity of the directory hash on
canonical trees: `st_mode` fixes the kind of a node and its permission bits, the digest fixes the rest.
-/
namespace DirHash

mutual
/-- what the kernel guarantees about a tree: 12 permission bits, 4 format bits that are consistent
with the node kind, device numbers that fit `<L`, names without NUL -/
def Tree.WF : Tree → Prop
  | .file p _ => p < 4096
  | .link p _ => p < 4096
  | .dir p es => p < 4096 ∧ es.WF
  | .dev _ p r => p < 4096 ∧ r < 4294967296
  | .fifo p => p < 4096
  | .other f p => p < 4096 ∧ f < 16 ∧ f ≠ 0 ∧ f ≠ 8 ∧ f ≠ 4 ∧ f ≠ 10 ∧ f ≠ 6 ∧ f ≠ 2 ∧ f ≠ 1
def Forest.WF : Forest → Prop
  | .nil => True
  | .cons n t rest => NulFree n ∧ t.WF ∧ rest.WF
end

/-- the `(st_mode, digest, sort name)` triples that `__hashDir` concatenates -/
def Forest.entries (H : Bytes → Bytes) : Forest → List (Nat × Bytes × Bytes)
  | .nil => []
  | .cons n t rest => (t.mode, t.digest H, sortName n t) :: rest.entries H

theorem blob_eq_flatMap (H : Bytes → Bytes) : ∀ f : Forest, f.blob H = (f.entries H).flatMap encEntry
  | .nil => rfl
  | .cons n t rest => by
    simp only [Forest.blob, Forest.entries, List.flatMap_cons, encEntry, blob_eq_flatMap H rest,
      List.append_assoc]

/-- the format bits, `S_IFMT(st_mode) >> 12` -/
def Tree.fmt : Tree → Nat
  | .file _ _ => 8
  | .link _ _ => 10
  | .dir _ _ => 4
  | .dev c _ _ => if c then 2 else 6
  | .fifo _ => 1
  | .other f _ => f

def Tree.perm : Tree → Nat
  | .file p _ | .link p _ | .dir p _ | .dev _ p _ | .fifo p | .other _ p => p

theorem Tree.mode_eq (t : Tree) : t.mode = t.fmt * 4096 + t.perm := by
  cases t with
  | dev c _ _ => cases c <;> rw [Tree.mode, Tree.fmt, Tree.perm] <;> rfl
  | _ => rw [Tree.mode, Tree.fmt, Tree.perm]

/-- 12 permission bits below 4 format bits that are not all zero -/
theorem Tree.WF.mode {t : Tree} (w : t.WF) :
    t.mode / 4096 % 16 = t.fmt ∧ t.mode % 4096 = t.perm ∧ 4096 ≤ t.mode ∧ t.mode < 65536 := by
  have : t.perm < 4096 ∧ 0 < t.fmt ∧ t.fmt < 16 := by
    cases t with
    | dir _ _ => exact ⟨w.1, by simp [Tree.fmt]⟩
    | dev c _ _ => cases c <;> exact ⟨w.1, by simp [Tree.fmt]⟩
    | other _ _ => exact ⟨w.1, Nat.pos_of_ne_zero w.2.2.1, w.2.1⟩
    | _ => exact ⟨w, by simp [Tree.fmt]⟩
  rw [t.mode_eq]
  omega

/-- a node without its payload (content, link target, entries, device number) -/
def Tree.shape : Tree → Tree
  | .file p _ => .file p []
  | .link p _ => .link p []
  | .dir p _ => .dir p .nil
  | .dev c p _ => .dev c p 0
  | .fifo p => .fifo p
  | .other f p => .other f p

/-- the `S_ISxxx` chain of `__hashEntry` finds the kind of a well-formed node (and its permission
bits) from `st_mode` alone -/
theorem Tree.ofRaw_mode (t : Tree) (w : t.WF) : Tree.ofRaw t.mode [] 0 .nil = t.shape := by
  unfold Tree.ofRaw
  simp only [w.mode.1, w.mode.2.1]
  cases t with
  | dev c _ _ => cases c <;> rfl
  | other f p => simp [Tree.fmt, Tree.perm, Tree.shape, w.2.2.2]
  | _ => rfl

theorem Tree.digest_length (H : Bytes → Bytes) (hlen : ∀ b, (H b).length = 20) (t : Tree) (w : t.WF) :
    (t.digest H).length = digestLen t.mode := by
  unfold digestLen
  simp only [w.mode.1]
  cases t with
  | dev c _ r => cases c <;> exact pack_word_length parse_devFmt w.2
  | other f _ =>
    obtain ⟨-, -, -, h8, h4, h10, h6, h2, -⟩ := w
    simp [Tree.fmt, Tree.digest, h8, h4, h10, h6, h2]
  | _ => simp [Tree.fmt, Tree.digest, hlen]

theorem sortName_nulFree (n : Bytes) (t : Tree) (h : NulFree n) : NulFree (sortName n t) := by
  unfold sortName
  split
  · exact List.forall_mem_append.mpr ⟨h, by decide⟩
  · exact h

theorem sortName_inj {n1 n2 : Bytes} {t : Tree} (h : sortName n1 t = sortName n2 t) : n1 = n2 := by
  unfold sortName at h
  split at h
  · exact List.append_cancel_right h
  · exact h

theorem entries_good (H : Bytes → Bytes) (hlen : ∀ b, (H b).length = 20) :
    ∀ f : Forest, f.WF → ∀ e ∈ f.entries H, GoodEntry e
  | .nil, _ => nofun
  | .cons n t rest, w => by
    have := w.2.1.mode
    exact List.forall_mem_cons.mpr ⟨⟨by show 256 ≤ t.mode; omega, this.2.2.2, t.digest_length H hlen w.2.1,
      sortName_nulFree n t w.1⟩, entries_good H hlen rest w.2.2⟩

theorem Forest.entries_of_blob (H : Bytes → Bytes) (hlen : ∀ b, (H b).length = 20) (f1 f2 : Forest)
    (w1 : f1.WF) (w2 : f2.WF) (h : f1.blob H = f2.blob H) : f1.entries H = f2.entries H := by
  rw [blob_eq_flatMap, blob_eq_flatMap] at h
  exact entries_decodable _ _ (entries_good H hlen f1 w1) (entries_good H hlen f2 w2) h

/-- no two different strings of `S` have the same hash -/
def CollisionFree (H : Bytes → Bytes) (S : Bytes → Prop) : Prop :=
  ∀ a b, S a → S b → H a = H b → a = b

section inj
variable (H : Bytes → Bytes) (hlen : ∀ b, (H b).length = 20) (S : Bytes → Prop) (hcf : CollisionFree H S)
include hlen hcf

-- the second theorem of the mutual pair uses `hlen` and `hcf` through the mutual call only, which the linter does not see
set_option linter.unusedSectionVars false in
mutual
theorem Tree.eq_of_digest : ∀ t1 t2 : Tree, t1.WF → t2.WF → (∀ x ∈ t1.inputs H, S x) → (∀ x ∈ t2.inputs H, S x) →
    t1.mode = t2.mode → t1.digest H = t2.digest H → t1 = t2 := by
  intro t1 t2 w1 w2 s1 s2 hm hd
  -- equal modes: same kind and permission bits; equal digests: same payload
  have hs : t1.shape = t2.shape := by rw [← t1.ofRaw_mode w1, ← t2.ofRaw_mode w2, hm]
  cases t1 <;> cases t2 <;> cases hs
  case file.file.refl | link.link.refl => rw [hcf _ _ (s1 _ (.head _)) (s2 _ (.head _)) hd]
  case dir.dir.refl p es1 es2 =>
    obtain ⟨s1b, s1⟩ := List.forall_mem_cons.mp s1
    obtain ⟨s2b, s2⟩ := List.forall_mem_cons.mp s2
    rw [Forest.eq_of_entries es1 es2 w1.2 w2.2 s1 s2 (Forest.entries_of_blob H hlen es1 es2 w1.2 w2.2 (hcf _ _ s1b s2b hd))]
  case dev.dev.refl => rw [pack_word_inj parse_devFmt w1.2 w2.2 hd]
  case fifo.fifo.refl | other.other.refl => rfl
theorem Forest.eq_of_entries : ∀ f1 f2 : Forest, f1.WF → f2.WF → (∀ x ∈ f1.inputs H, S x) → (∀ x ∈ f2.inputs H, S x) →
    f1.entries H = f2.entries H → f1 = f2
  | .nil, .nil, _, _, _, _, _ => rfl
  | .nil, .cons .., _, _, _, _, he | .cons .., .nil, _, _, _, _, he => nomatch he
  | .cons n1 t1 r1, .cons n2 t2 r2, w1, w2, s1, s2, he => by
    obtain ⟨hm, hdn⟩ := Prod.mk.inj (List.cons.inj he).1
    obtain ⟨hd, hn⟩ := Prod.mk.inj hdn
    obtain ⟨s1t, s1r⟩ := List.forall_mem_append.mp s1
    obtain ⟨s2t, s2r⟩ := List.forall_mem_append.mp s2
    cases Tree.eq_of_digest t1 t2 w1.2.1 w2.2.1 s1t s2t hm hd
    rw [sortName_inj hn, Forest.eq_of_entries r1 r2 w1.2.2 w2.2.2 s1r s2r (List.cons.inj he).2]
end

end inj

theorem Forest.insert_WF (n : Bytes) (t : Tree) (hn : NulFree n) (ht : t.WF) :
    ∀ f : Forest, f.WF → (Forest.insert n t f).WF
  | .nil, _ => ⟨hn, ht, trivial⟩
  | .cons m u rest, w => by
    unfold Forest.insert
    split
    · exact ⟨w.1, w.2.1, Forest.insert_WF n t hn ht rest w.2.2⟩
    · exact ⟨hn, ht, w⟩

mutual
theorem Tree.canon_WF : ∀ t : Tree, t.WF → t.canon.WF
  | .dir _ es => fun w => ⟨w.1, Forest.canon_WF es w.2⟩
  | .file .. | .link .. | .dev .. | .fifo .. | .other .. => id
theorem Forest.canon_WF : ∀ f : Forest, f.WF → f.canon.WF
  | .nil => id
  | .cons n t rest => fun w => by
    unfold Forest.canon
    split
    · exact Forest.canon_WF rest w.2.2
    · exact Forest.insert_WF n t.canon w.1 (Tree.canon_WF t w.2.1) _ (Forest.canon_WF rest w.2.2)
end

end DirHash
