import BobModel.Proofs.C07Run
/-
C07: the restart loop terminates - every restart fixes the source id of one more package,
so `size t + 1` rounds always suffice and `cook` never ends in `Res.restart`.
-/
namespace Download

theorem war_fixed (i : PInfo) (r : Run) : (wasAlreadyRun i r).2.mem.fixed = r.mem.fixed := by
  obtain ⟨w, h⟩ := war_frame i r
  rw [h]

theorem preDl_fixed (E : Env) (i : PInfo) (ds : List Pkg) (r : Run) : (preDl E i ds r).2.mem.fixed = r.mem.fixed :=
  (gb_frame E _ _).1

theorem dlPhase_fixed (E : Env) (cfg : Cfg) (depth : Nat) (i : PInfo) (b : BuildId) (r : Run) :
    (dlPhase E cfg depth i b r).2.mem.fixed = r.mem.fixed :=
  dlPhase_ind (P := fun x => x.mem.fixed = r.mem.fixed) rfl rfl (fun _ h => h)

theorem finish_fixed (E : Env) (cfg : Cfg) (depth : Nat) (i : PInfo) (ds : List Pkg) (b : BuildId) (r : Run) :
    (finishPkg E cfg depth i ds b r).run.mem.fixed = r.mem.fixed :=
  finish_ind (P := fun x => x.mem.fixed = r.mem.fixed) (war_fixed i r) (fun _ _ _ h => h) (fun _ h => h)

theorem checkSrc_some (i : PInfo) (r r5 : Run) (h : checkSrc i r = some r5) :
    r.mem.fixed i.path = false ∧ r5.mem.fixed = upd r.mem.fixed i.path true := by
  rcases checkSrc_cases i r with ⟨_, e⟩ | ⟨hs, e⟩ <;> rw [e] at h <;> cases h
  refine ⟨?_, rfl⟩
  cases hf : r.mem.fixed i.path with
  | false => rfl
  | true => exact absurd (by simp [srcNow, hf]) hs

theorem fixed_rule (E : Env) (cfg : Cfg) (N : List Pkg) (F : Path → Bool) :
    CookRule E cfg N (fun r => r.mem.fixed = F) (fun _ => True)
      (fun r' => ∃ u ∈ N, F u.path = false ∧ r'.mem.fixed = upd F u.path true) where
  war i r h := (war_fixed i r).trans h
  pre i ds r h := (preDl_fixed E i ds r).trans h
  dl depth i b r h := (dlPhase_fixed E cfg depth i b r).trans h
  err _ _ := trivial
  sar _ _ h := h
  chk i ds r r5 hN h hc := by
    obtain ⟨c1, c2⟩ := checkSrc_some i r r5 hc
    exact ⟨.mk i ds, hN, h ▸ c1, h ▸ c2⟩
  fin depth i ds b r h := (finish_fixed E cfg depth i ds b r).trans h

/-- packages whose source id is not known for sure -/
def unfixed (F : Path → Bool) (L : List Path) : Nat := (L.filter fun q => !F q).length

theorem unfixed_cons (F : Path → Bool) (q : Path) (L : List Path) :
    unfixed F (q :: L) = (if F q then 0 else 1) + unfixed F L := by
  cases h : F q <;> simp [unfixed, h, Nat.add_comm]

theorem unfixed_upd (F : Path → Bool) (p : Path) : ∀ L : List Path, unfixed (upd F p true) L ≤ unfixed F L ∧
    (p ∈ L → F p = false → unfixed (upd F p true) L < unfixed F L)
  | [] => ⟨Nat.le_refl _, fun h => nomatch h⟩
  | q :: L => by
    obtain ⟨ih1, ih2⟩ := unfixed_upd F p L
    rw [unfixed_cons, unfixed_cons]
    by_cases hq : q = p
    · subst hq
      rw [upd_same, if_pos rfl]
      refine ⟨by omega, fun _ hf => ?_⟩
      rw [hf, if_neg Bool.false_ne_true]
      omega
    · rw [upd_other hq]
      refine ⟨by omega, fun hm hf => ?_⟩
      have := ih2 ((List.mem_cons.mp hm).resolve_left (Ne.symm hq)) hf
      omega

theorem unfixed_le_length (F : Path → Bool) (L : List Path) : unfixed F L ≤ L.length := by
  simp only [unfixed]
  exact List.length_filter_le _ _

theorem length_nodes (t : Pkg) : (nodes t).length = size t :=
  Pkg.rec (motive_1 := fun t => (nodes t).length = size t) (motive_2 := fun ds => (nodesL ds).length = sizeL ds)
    (fun i ds ih => by simp only [nodes, size, List.length_cons, ih]; omega)
    rfl
    (fun d ds hd hds => by simp only [nodesL, sizeL, List.length_append, hd, hds])
    t

theorem rounds_terminate (E : Env) (cfg : Cfg) (t : Pkg) : ∀ (n : Nat) (r : Run),
    unfixed r.mem.fixed ((nodes t).map Pkg.path) < n → ∀ r', cookRounds E cfg t n r ≠ .restart r' := by
  intro n
  induction n with
  | zero => intro r h; omega
  | succ n ih =>
    intro r h r' hc
    simp only [cookRounds] at hc
    have hf := (fixed_rule E cfg (nodes t) r.mem.fixed).cookPkg t (fun _ hu => hu) 0 r rfl
    cases hk : cookPkg E cfg 0 t r with
    | ok r1 => rw [hk] at hc; cases hc
    | abort r1 => rw [hk] at hc; cases hc
    | restart r1 =>
      rw [hk] at hc hf
      simp only at hc
      obtain ⟨u, hu, h1, h2⟩ := hf
      have hlt := (unfixed_upd r.mem.fixed u.path ((nodes t).map Pkg.path)).2 (List.mem_map.mpr ⟨u, hu, rfl⟩) h1
      rw [← h2] at hlt
      exact ih r1 (by omega) r' hc

theorem cook_no_restart (E : Env) (cfg : Cfg) (t : Pkg) (s : St) (a : Archive) : ∀ r', cook E cfg t s a ≠ .restart r' := by
  unfold cook
  apply rounds_terminate
  have := unfixed_le_length (Mem.init.fixed) ((nodes t).map Pkg.path)
  rw [List.length_map, length_nodes] at this
  show unfixed Mem.init.fixed _ < _
  omega

end Download
