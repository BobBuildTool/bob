import BobModel.Proofs.C12Checkout
/-
`bob clean -s` and `bob clean --attic`: what they remove; histories of builds, cleans and user actions.
-/
namespace Checkout

variable {σ κ ι : Type}

/-- an expendable SCM directory holds no work item -/
def ExpClean (sem : ScmSem σ κ) (work : κ → ι → Prop) : Prop :=
  ∀ s k i, sem.expendable s (some k) = true → ¬ work k i

theorem mem_foldl_rmAttic (ks : List (Nat × Comps)) :
    ∀ (st : St σ κ) (e : Loc × κ), e ∈ st.fs → (∀ k, k ∈ ks → e.1.under (.attic k.1 k.2) = false) →
      e ∈ (ks.foldl (fun st k => emit (Op.rmAttic k.1 k.2) st) st).fs := by
  induction ks with
  | nil => intro st e h _; exact h
  | cons k rest ih =>
    intro st e h hk
    simp only [List.foldl_cons]
    apply ih
    · simp only [emit, applyOp]
      exact List.mem_filter.mpr ⟨h, by simp [hk k List.mem_cons_self]⟩
    · intro k' hk'; exact hk k' (List.mem_cons_of_mem _ hk')

theorem cleanAttic_keeps (sem : ScmSem σ κ) (st : St σ κ) (e : Loc × κ) (h : e ∈ st.fs)
    (hk : ∀ k, k ∈ atticDeletable sem st → e.1.under (.attic k.1 k.2) = false) :
    e ∈ (cleanAttic sem false st).fs := by
  unfold cleanAttic
  simp only [Bool.false_eq_true, if_false]
  exact mem_foldl_rmAttic _ st e h hk

theorem atticDeletable_expendable (sem : ScmSem σ κ) (st : St σ κ) (k : Nat × Comps)
    (h : k ∈ atticDeletable sem st) :
    ∀ e', e' ∈ st.atticReg → atticPresent st e'.1 = true → regBelow k e'.1 = true → regExpendable sem st e' = true := by
  unfold atticDeletable at h
  rw [List.mem_map] at h
  obtain ⟨e, he, hk⟩ := h
  obtain ⟨_, hc⟩ := List.mem_filter.mp he
  rw [List.all_eq_true] at hc
  subst hk
  intro e' he' hp hb
  have := hc e' (List.mem_filter.mpr ⟨he', hp⟩)
  simpa [hb] using this

theorem cleanAttic_keeps_or (sem : ScmSem σ κ) (st : St σ κ) (e : Loc × κ) (h : e ∈ st.fs) :
    e ∈ (cleanAttic sem false st).fs ∨ ∃ key, key ∈ atticDeletable sem st ∧ e.1.under (.attic key.1 key.2) = true := by
  by_cases hcov : ∃ key, key ∈ atticDeletable sem st ∧ e.1.under (.attic key.1 key.2) = true
  · exact Or.inr hcov
  · exact Or.inl (cleanAttic_keeps sem st e h fun key hkey =>
      Bool.eq_false_iff.mpr fun hu => hcov ⟨key, hkey, hu⟩)

theorem selected_expendable (sem : ScmSem σ κ) (st : St σ κ) {key : Nat × Comps} {n : Nat} {sub : Comps} {k : κ} {s : σ}
    (hkey : key ∈ atticDeletable sem st) (hm : (Loc.attic n sub, k) ∈ st.fs)
    (hu : (Loc.attic n sub).under (.attic key.1 key.2) = true) (hreg : ((n, sub), some s) ∈ st.atticReg) :
    sem.expendable s (contentAt st.fs (.attic n sub)) = true :=
  atticDeletable_expendable sem st key hkey ((n, sub), some s) hreg
    (List.any_eq_true.mpr ⟨(.attic n sub, k), hm, under_refl _⟩) hu

/-- the item lies below a selected attic directory in a directory that is not a registered attic
SCM (or not the content the registration refers to): nothing `bob clean --attic` can consult -/
def UnregisteredInDeletable (sem : ScmSem σ κ) (work : κ → ι → Prop) (st : St σ κ) (i : ι) : Prop :=
  ∃ key, key ∈ atticDeletable sem st ∧ ∃ n sub k, (Loc.attic n sub, k) ∈ st.fs ∧ work k i ∧
    (Loc.attic n sub).under (.attic key.1 key.2) = true ∧
    ¬ ∃ s, ((n, sub), some s) ∈ st.atticReg ∧ contentAt st.fs (.attic n sub) = some k

theorem cleanAttic_present (sem : ScmSem σ κ) (work : κ → ι → Prop) (hexp : ExpClean sem work)
    (dry : Bool) (st : St σ κ) (i : ι) (h : Present work st.fs i) :
    Present work (cleanAttic sem dry st).fs i ∨ (dry = false ∧ UnregisteredInDeletable sem work st i) := by
  cases dry with
  | true => exact Or.inl h
  | false =>
    obtain ⟨l, k, hm, hw⟩ := h
    rcases cleanAttic_keeps_or sem st (l, k) hm with hk | ⟨key, hkey, hu⟩
    · exact Or.inl ⟨l, k, hk, hw⟩
    · cases l with
      | ws p => cases hu
      | attic n sub =>
        refine Or.inr ⟨rfl, key, hkey, n, sub, k, hm, hw, hu, fun ⟨s, hreg, hc⟩ => ?_⟩
        have := selected_expendable sem st hkey hm hu hreg
        rw [hc] at this
        exact hexp s k i this hw

/-- the item is in a workspace directory that is not the registered content of an SCM of the
directory state (nothing `checkRegularSource` looks at) -/
def UntrackedWs (work : κ → ι → Prop) (st : St σ κ) (i : ι) : Prop :=
  ∃ p k, (Loc.ws p, k) ∈ st.fs ∧ work k i ∧
    ¬ ∃ e s, e ∈ st.old ∧ e.spec = some s ∧ normComps e.dir = p ∧ contentAt st.fs (.ws p) = some k

theorem srcExpendable_iff (sem : ScmSem σ κ) (st : St σ κ) :
    srcExpendable sem st = true ↔ ∀ e, e ∈ st.old → ∃ s, e.spec = some s ∧
      sem.expendable s (contentAt st.fs (.ws (normComps e.dir))) = true := by
  unfold srcExpendable
  rw [List.all_eq_true]
  refine forall₂_congr fun e _ => ?_
  cases e.spec with
  | none => simp
  | some s => simp

theorem cleanSrc_unchanged (sem : ScmSem σ κ) (dry : Bool) (st : St σ κ)
    (h : dry = true ∨ srcExpendable sem st = false) : cleanSrc sem dry st = st := by
  unfold cleanSrc
  rcases h with h | h <;> simp [h]

theorem cleanSrc_changed {sem : ScmSem σ κ} {dry : Bool} {st : St σ κ} (h : cleanSrc sem dry st ≠ st) :
    dry = false ∧ srcExpendable sem st = true :=
  ⟨Bool.of_not_eq_true fun hd => h (cleanSrc_unchanged sem dry st (Or.inl hd)),
   Bool.of_not_eq_false fun hs => h (cleanSrc_unchanged sem dry st (Or.inr hs))⟩

theorem cleanSrc_present (sem : ScmSem σ κ) (work : κ → ι → Prop) (hexp : ExpClean sem work)
    (dry : Bool) (st : St σ κ) (i : ι) (h : Present work st.fs i) :
    Present work (cleanSrc sem dry st).fs i ∨ (dry = false ∧ UntrackedWs work st i) := by
  unfold cleanSrc
  split
  · exact Or.inl h
  · rename_i hc
    simp only [Bool.or_eq_true, Bool.not_eq_true', not_or, Bool.not_eq_true, Bool.not_eq_false] at hc
    obtain ⟨l, k, hm, hw⟩ := h
    cases l with
    | attic n p => exact Or.inl ⟨.attic n p, k, List.mem_filter.mpr ⟨hm, rfl⟩, hw⟩
    | ws p =>
      refine Or.inr ⟨hc.1.1, p, k, hm, hw, fun ⟨e, s, he, hs, hp, hk⟩ => ?_⟩
      obtain ⟨s', hs', hx⟩ := (srcExpendable_iff sem st).mp hc.2 e he
      cases hs.symm.trans hs'
      rw [hp, hk] at hx
      exact hexp s k i hx hw

/-- `other f` stands for anything else that happens to the project (user actions); its loss condition
is that `f` itself removes the item, so nothing is proved about it -/
inductive Event (σ κ : Type)
  | build (sem : ScmSem σ κ) (fl : Flags) (indet : Bool) (new : List (NewEntry σ))
  | cleanSrc (sem : ScmSem σ κ) (dry : Bool)
  | cleanAttic (sem : ScmSem σ κ) (dry : Bool)
  | other (f : St σ κ → St σ κ)

def runEv : Event σ κ → St σ κ → St σ κ
  | .build sem fl indet new, st => (cook sem fl indet new st).1
  | .cleanSrc sem dry, st => cleanSrc sem dry st
  | .cleanAttic sem dry, st => cleanAttic sem dry st
  | .other f, st => f st

def run (h : List (Event σ κ)) (st : St σ κ) : St σ κ := h.foldl (fun st ev => runEv ev st) st

/-- the SCM semantics of an event keep work items / report them -/
def EvOk (work : κ → ι → Prop) : Event σ κ → Prop
  | .build sem _ _ _ => SemKeeps sem work
  | .cleanSrc sem _ => ExpClean sem work
  | .cleanAttic sem _ => ExpClean sem work
  | .other _ => True

/-- the condition without which event `ev` in state `st` does not lose the item `i` (`step_present`); it is
necessary, not sufficient: an item below a pruning import SCM may have gone to the attic before, and a
`bob clean -s` that meets a non-expendable SCM removes nothing -/
def Lost (work : κ → ι → Prop) : Event σ κ → St σ κ → ι → Prop
  | .build sem _ _ new, st, i => PrunedBelow sem work new st.fs i
  | .cleanSrc _ dry, st, i => dry = false ∧ UntrackedWs work st i
  | .cleanAttic sem dry, st, i => dry = false ∧ UnregisteredInDeletable sem work st i
  | .other f, st, i => ¬ Present work (f st).fs i

def NoLoss (work : κ → ι → Prop) : List (Event σ κ) → St σ κ → ι → Prop
  | [], _, _ => True
  | ev :: rest, st, i => ¬ Lost work ev st i ∧ NoLoss work rest (runEv ev st) i

theorem step_present (work : κ → ι → Prop) (ev : Event σ κ) (hok : EvOk work ev) (st : St σ κ) (i : ι)
    (h : Present work st.fs i) : Present work (runEv ev st).fs i ∨ Lost work ev st i := by
  cases ev with
  | build sem fl indet new => exact cook_present hok fl indet st h
  | cleanSrc sem dry => exact cleanSrc_present sem work hok dry st i h
  | cleanAttic sem dry => exact cleanAttic_present sem work hok dry st i h
  | other f =>
    by_cases hp : Present work (f st).fs i
    · exact Or.inl hp
    · exact Or.inr hp

theorem history_present (work : κ → ι → Prop) :
    ∀ (h : List (Event σ κ)) (st : St σ κ) (i : ι), (∀ ev, ev ∈ h → EvOk work ev) →
      NoLoss work h st i → Present work st.fs i → Present work (run h st).fs i := by
  intro h
  induction h with
  | nil => intro st i _ _ hp; exact hp
  | cons ev rest ih =>
    intro st i hok hnl hp
    simp only [run, List.foldl_cons]
    obtain ⟨h1, h2⟩ := hnl
    rcases step_present work ev (hok ev List.mem_cons_self) st i hp with h3 | h3
    · exact ih (runEv ev st) i (fun e he => hok e (List.mem_cons_of_mem _ he)) h2 h3
    · exact absurd h3 h1

end Checkout
