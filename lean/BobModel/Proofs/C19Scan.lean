import BobModel.Proofs.C19Spec
import BobModel.Proofs.C19Order
/-
C19: the scan index.  The loop over the files leaves the row of every file it saw and the other rows as they
were (`fold_scanOneR`); with the clean-up at its end the repaired scanner turns any sound index into the one a fresh
look at the files yields (`scanRepaired_spec`), and two such indexes enumerate alike (`normal_indexEq`).
-/
namespace ArchiveIndex
open Retention

theorem findRow_some {rows : List Row} {b : Bid} {r : Row} (h : findRow rows b = some r) : r ∈ rows ∧ r.bid = b :=
  ⟨List.mem_of_find?_eq_some h, by simpa using List.find?_some h⟩

theorem findRow_none {rows : List Row} {b : Bid} (h : findRow rows b = none) : ∀ r ∈ rows, r.bid ≠ b :=
  fun r hr => by simpa using List.find?_eq_none.mp h r hr

theorem mem_dropRow {rows : List Row} {b : Bid} {r : Row} : r ∈ dropRow rows b ↔ r ∈ rows ∧ r.bid ≠ b := by
  simp [dropRow]

theorem dropRow_of_none {rows : List Row} {b : Bid} (h : findRow rows b = none) : dropRow rows b = rows :=
  List.filter_eq_self.mpr fun r hr => by simpa using findRow_none h r hr

theorem mem_dropRefs {refs : List (Bid × Bid)} {b : Bid} {p : Bid × Bid} : p ∈ dropRefs refs b ↔ p ∈ refs ∧ p.1 ≠ b := by
  simp [dropRefs]

theorem mem_addRefs {b : Bid} {rs : List Bid} {refs : List (Bid × Bid)} {p : Bid × Bid} :
    p ∈ addRefs refs b rs ↔ p ∈ refs ∨ (p.1 = b ∧ p.2 ∈ rs) := by
  induction rs generalizing refs with
  | nil => simp [addRefs]
  | cons r rest ih =>
    -- `INSERT OR IGNORE` of one pair
    have h1 : p ∈ (if refs.contains (b, r) then refs else refs ++ [(b, r)]) ↔ p ∈ refs ∨ p = (b, r) := by
      split
      · rename_i hc
        exact ⟨Or.inl, fun h => h.elim id (· ▸ List.contains_iff_mem.mp hc)⟩
      · rw [List.mem_append, List.mem_singleton]
    rw [addRefs, ih, h1, List.mem_cons, Prod.ext_iff, or_assoc, and_or_left]

theorem mem_pruneRefs {idx : Index} {p : Bid × Bid} :
    p ∈ (pruneRefs idx).refs ↔ p ∈ idx.refs ∧ ∃ r ∈ idx.rows, r.bid = p.1 := by
  simp [pruneRefs]

theorem rowOfFile_eq_some {f : FileEnt} {r : Row} :
    rowOfFile f = some r ↔ ∃ a, f.audit = some a ∧ (⟨f.bid, f.stat, a.vars⟩ : Row) = r :=
  Option.map_eq_some_iff

theorem rowOfFile_bid {f : FileEnt} {r : Row} (h : rowOfFile f = some r) : r.bid = f.bid := by
  obtain ⟨a, _, rfl⟩ := rowOfFile_eq_some.mp h
  rfl

theorem mem_reread_rows {idx : Index} {f : FileEnt} {r : Row} :
    r ∈ (reread idx f).rows ↔ rowOfFile f = some r ∨ r ∈ idx.rows := by
  unfold reread rowOfFile
  cases f.audit <;> simp [eq_comm]

theorem sound_empty (C : Bid → Stat → Option AuditInfo) : Sound C Index.empty :=
  ⟨.nil, nofun, nofun⟩

variable {C : Bid → Stat → Option AuditInfo}

/-- Rows may be dropped by build id from a sound index as long as the references of the dropped owners go too.
`dropRow`/`dropRefs`, the clean-up at the end of `scan` and `remove` followed by the pruning of `__exit__` are
all of this kind. -/
theorem sound_restrict {idx : Index} (h : Sound C idx) (keep : Bid → Bool)
    {refs' : List (Bid × Bid)} (hrefs : ∀ p, p ∈ refs' ↔ p ∈ idx.refs ∧ keep p.1 = true) :
    Sound C ⟨idx.rows.filter fun r => keep r.bid, refs'⟩ := by
  refine ⟨h.distinct.sublist (List.filter_sublist.map _), ?_, ?_⟩
  · intro r hr
    obtain ⟨hr1, hr2⟩ := List.mem_filter.mp hr
    obtain ⟨a, ha1, ha2, ha3⟩ := h.rows r hr1
    refine ⟨a, ha1, ha2, fun x => ?_⟩
    rw [hrefs, ha3]
    exact and_iff_left hr2
  · intro p hp
    obtain ⟨hp1, hp2⟩ := (hrefs p).mp hp
    obtain ⟨r, hr, hrb⟩ := h.owned p hp1
    exact ⟨r, List.mem_filter.mpr ⟨hr, by rw [hrb]; exact hp2⟩, hrb⟩

/-- in a sound index every reference has an owner, so pruning after a restriction of the rows is a restriction
of the references by owner -/
theorem sound_prune_filter {idx : Index} (h : Sound C idx) (keep : Bid → Bool) :
    Sound C (pruneRefs ⟨idx.rows.filter fun r => keep r.bid, idx.refs⟩) := by
  refine sound_restrict h keep fun p => mem_pruneRefs.trans (and_congr_right fun hp => ⟨?_, fun hk => ?_⟩)
  · rintro ⟨r, hr, hrb⟩
    exact hrb ▸ (List.mem_filter.mp hr).2
  · obtain ⟨r, hr, hrb⟩ := h.owned p hp
    exact ⟨r, List.mem_filter.mpr ⟨hr, hrb ▸ hk⟩, hrb⟩

theorem sound_reread {idx : Index} (h : Sound C idx) (f : FileEnt)
    (hf : f.audit = C f.bid f.stat) (hrow : ∀ r ∈ idx.rows, r.bid ≠ f.bid) (href : ∀ p ∈ idx.refs, p.1 ≠ f.bid) :
    Sound C (reread idx f) := by
  unfold reread
  cases ha : f.audit with
  | none => exact h
  | some a =>
    refine ⟨?_, ?_, ?_⟩
    · simp only [List.map_cons, List.nodup_cons, List.mem_map]
      exact ⟨fun ⟨r, hr, hb⟩ => hrow r hr hb, h.distinct⟩
    · intro r hr
      rcases List.mem_cons.mp hr with rfl | hr
      · refine ⟨a, by rw [← hf, ha], rfl, fun x => ?_⟩
        rw [mem_addRefs]
        exact ⟨fun h' => h'.elim (fun h' => absurd rfl (href _ h')) (·.2), fun h' => Or.inr ⟨rfl, h'⟩⟩
      · obtain ⟨a', ha1, ha2, ha3⟩ := h.rows r hr
        refine ⟨a', ha1, ha2, fun x => ?_⟩
        rw [mem_addRefs, ha3]
        exact ⟨fun h' => h'.elim id fun h' => absurd h'.1 (hrow r hr), Or.inl⟩
    · intro p hp
      rcases mem_addRefs.mp hp with hp | ⟨hp1, _⟩
      · obtain ⟨r, hr, hrb⟩ := h.owned p hp
        exact ⟨r, List.mem_cons_of_mem _ hr, hrb⟩
      · exact ⟨_, List.mem_cons_self, hp1.symm⟩

/-- `__scan` either finds the row with the same stat value and does nothing, or reads the artifact into the
index without its row and references -/
theorem scanOneR_cases (idx : Index) (f : FileEnt) :
    (∃ r, findRow idx.rows f.bid = some r ∧ r.stat = f.stat ∧ scanOneR idx f = idx) ∨
    scanOneR idx f = reread ⟨dropRow idx.rows f.bid, dropRefs idx.refs f.bid⟩ f := by
  unfold scanOneR
  cases hfr : findRow idx.rows f.bid with
  | none => right; simp [dropRow_of_none hfr]
  | some r =>
    by_cases hs : r.stat = f.stat
    · left; exact ⟨r, rfl, hs, by simp [hs]⟩
    · right; simp [hs]

theorem sound_scanOneR {idx : Index} (h : Sound C idx) (f : FileEnt)
    (hf : f.audit = C f.bid f.stat) : Sound C (scanOneR idx f) := by
  rcases scanOneR_cases idx f with ⟨r, _, _, he⟩ | he <;> rw [he]
  · exact h
  · have hd : Sound C ⟨dropRow idx.rows f.bid, dropRefs idx.refs f.bid⟩ :=
      sound_restrict h (· != f.bid) fun _ => by simp [dropRefs]
    exact sound_reread hd f hf (fun r hr => (mem_dropRow.mp hr).2) (fun p hp => (mem_dropRefs.mp hp).2)

theorem scanOneR_rows_other (idx : Index) (f : FileEnt) {r : Row} (hr : r.bid ≠ f.bid) :
    r ∈ (scanOneR idx f).rows ↔ r ∈ idx.rows := by
  rcases scanOneR_cases idx f with ⟨_, _, _, he⟩ | he <;> rw [he]
  rw [mem_reread_rows, mem_dropRow]
  exact ⟨fun h => h.elim (fun h => absurd (rowOfFile_bid h) hr) (·.1), fun h => Or.inr ⟨h, hr⟩⟩

/-- the two scanners differ in the references only -/
theorem scanOne_rows (idx : Index) (f : FileEnt) : (scanOne idx f).rows = (scanOneR idx f).rows := by
  unfold scanOne scanOneR reread
  cases findRow idx.rows f.bid with
  | none => cases f.audit <;> rfl
  | some r => by_cases hs : r.stat = f.stat <;> simp only [hs, if_true, if_false] <;> cases f.audit <;> rfl

/-- A row with the stat value of the file holds what the file holds, so in a sound index looking the row up and
reading the artifact again come to the same. -/
theorem scanOneR_rows {idx : Index} (h : Sound C idx) {f : FileEnt}
    (hf : f.audit = C f.bid f.stat) (r : Row) :
    r ∈ (scanOneR idx f).rows ↔ rowOfFile f = some r ∨ (r ∈ idx.rows ∧ r.bid ≠ f.bid) := by
  rcases scanOneR_cases idx f with ⟨r0, hfr, hs, he⟩ | he <;> rw [he]
  · obtain ⟨hr0, hb⟩ := findRow_some hfr
    obtain ⟨a, ha1, ha2, _⟩ := h.rows r0 hr0
    have h0 : rowOfFile f = some r0 :=
      rowOfFile_eq_some.mpr ⟨a, by rw [hf, ← hb, ← hs, ha1], by rw [← hb, ← hs, ← ha2]⟩
    by_cases hrb : r.bid = f.bid
    · have : r ∈ idx.rows ↔ r0 = r :=
        ⟨fun hr => SortKey.eq_of_nodup_map h.distinct hr0 hr (hb.trans hrb.symm), fun e => e ▸ hr0⟩
      rw [this, h0, Option.some.injEq]
      exact ⟨Or.inl, fun h1 => h1.elim id (·.1)⟩
    · exact ⟨fun hr => Or.inr ⟨hr, hrb⟩, fun h1 => h1.elim (fun h1 => absurd (rowOfFile_bid h1) hrb) (·.1)⟩
  · rw [mem_reread_rows, mem_dropRow]

theorem fold_scanOneR : ∀ (files : List FileEnt) (idx : Index),
    Sound C idx → FilesOk C files →
    Sound C (files.foldl scanOneR idx) ∧ ∀ r, r ∈ (files.foldl scanOneR idx).rows ↔
      (∃ f ∈ files, rowOfFile f = some r) ∨ (r ∈ idx.rows ∧ ∀ f ∈ files, r.bid ≠ f.bid)
  | [], idx, h, _ => ⟨h, fun r => by simp⟩
  | f :: rest, idx, h, ⟨hnd, haud⟩ => by
    rw [List.map_cons, List.nodup_cons] at hnd
    have hf := haud f List.mem_cons_self
    obtain ⟨i1, i2⟩ := fold_scanOneR rest (scanOneR idx f) (sound_scanOneR h f hf)
      ⟨hnd.2, fun g hg => haud g (List.mem_cons_of_mem _ hg)⟩
    refine ⟨i1, fun r => ?_⟩
    -- the files that follow have other build ids and leave the row of `f` alone
    have hlater : rowOfFile f = some r → ∀ g ∈ rest, r.bid ≠ g.bid := fun hr g hg e =>
      hnd.1 (List.mem_map.mpr ⟨g, hg, e.symm.trans (rowOfFile_bid hr)⟩)
    rw [List.foldl_cons, i2, scanOneR_rows h hf]
    simp only [List.mem_cons, exists_eq_or_imp, forall_eq_or_imp]
    constructor
    · rintro (h1 | ⟨h1 | ⟨h1, h2⟩, h3⟩)
      · exact Or.inl (Or.inr h1)
      · exact Or.inl (Or.inl h1)
      · exact Or.inr ⟨h1, h2, h3⟩
    · rintro ((h1 | h1) | ⟨h1, h2, h3⟩)
      · exact Or.inr ⟨Or.inl h1, hlater h1⟩
      · exact Or.inl h1
      · exact Or.inr ⟨Or.inr ⟨h1, h2⟩, h3⟩

/-- in a sound index the references follow from the rows -/
theorem normal_of_rows {idx : Index} {files : List FileEnt} (h : Sound C idx)
    (hok : FilesOk C files) (hrows : ∀ r, r ∈ idx.rows ↔ ∃ f ∈ files, rowOfFile f = some r) : Normal files idx := by
  -- a file with an audit trail has its row, and the row has the references of that audit trail
  have key : ∀ f ∈ files, ∀ a, f.audit = some a → ∀ x, (f.bid, x) ∈ idx.refs ↔ x ∈ a.refs := fun f hf a ha x => by
    obtain ⟨a', ha1, _, ha3⟩ := h.rows _ ((hrows _).mpr ⟨f, hf, rowOfFile_eq_some.mpr ⟨a, ha, rfl⟩⟩)
    cases Option.some.inj (ha1.symm.trans ((hok.2 f hf).symm.trans ha))
    exact ha3 x
  refine ⟨hrows, fun ⟨p1, p2⟩ => ⟨fun hp => ?_, ?_⟩, h.distinct⟩
  · obtain ⟨r, hr, hrb⟩ := h.owned _ hp
    obtain ⟨f, hf, hrf⟩ := (hrows r).mp hr
    obtain ⟨a, ha, rfl⟩ := rowOfFile_eq_some.mp hrf
    cases hrb
    exact ⟨f, hf, a, ha, rfl, (key f hf a ha p2).mp hp⟩
  · rintro ⟨f, hf, a, ha, hp1, hp2⟩
    cases hp1
    exact (key f hf a ha p2).mpr hp2

theorem scanRepaired_eq (idx : Index) (files : List FileEnt) :
    scanRepaired idx files =
      pruneRefs ⟨(files.foldl scanOneR idx).rows.filter fun r => (files.map fun f => f.bid).contains r.bid,
        (files.foldl scanOneR idx).refs⟩ :=
  rfl

theorem scanRepaired_spec {idx : Index} {files : List FileEnt}
    (h : Sound C idx) (hok : FilesOk C files) :
    Sound C (scanRepaired idx files) ∧ Normal files (scanRepaired idx files) := by
  obtain ⟨s1, r1⟩ := fold_scanOneR files idx h hok
  rw [scanRepaired_eq]
  generalize files.foldl scanOneR idx = i1 at s1 r1
  have hs := sound_prune_filter s1 (files.map fun f => f.bid).contains
  refine ⟨hs, normal_of_rows hs hok fun r => ?_⟩
  refine List.mem_filter.trans ?_
  rw [r1, List.contains_iff_mem, List.mem_map]
  constructor
  · rintro ⟨h1 | ⟨_, h1⟩, f, hf, hb⟩
    · exact h1
    · exact absurd hb.symm (h1 f hf)
  · exact fun ⟨f, hf, hr⟩ => ⟨Or.inl ⟨f, hf, hr⟩, f, hf, (rowOfFile_bid hr).symm⟩

theorem sortedRows_is : SortKey.IsSort (fun a b : Row => strLe a.bid b.bid) insertRow sortedRows :=
  ⟨⟨fun _ => rfl, fun _ _ _ => rfl⟩, rfl, fun _ _ => rfl⟩

theorem perm_sortedRows (l : List Row) : (sortedRows l).Perm l :=
  sortedRows_is.perm l

theorem sorted_sortedRows (l : List Row) : (sortedRows l).Pairwise fun a b => strLe a.bid b.bid = true :=
  sortedRows_is.sorted (strLe_totalLe.comap _) l

theorem sortedRows_eq {l1 l2 : List Row} (h1 : (l1.map fun r => r.bid).Nodup) (h2 : (l2.map fun r => r.bid).Nodup)
    (hm : ∀ r, r ∈ l1 ↔ r ∈ l2) : sortedRows l1 = sortedRows l2 :=
  sortedRows_is.eq_of_perm (strLe_totalLe.comap _) (fun r => r.bid) strLe_antisymm h1
    ((List.perm_ext_iff_of_nodup (SortKey.nodup_of_nodup_map h1) (SortKey.nodup_of_nodup_map h2)).mpr hm)

theorem normal_indexEq {files : List FileEnt} {i j : Index} (hi : Normal files i) (hj : Normal files j) : IndexEq i j :=
  ⟨sortedRows_eq hi.distinct hj.distinct fun r => (hi.rows r).trans (hj.rows r).symm,
    fun p => (hi.refs p).trans (hj.refs p).symm⟩

end ArchiveIndex
