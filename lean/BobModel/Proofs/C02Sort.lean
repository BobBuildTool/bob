import BobModel.Model.Digest
import BobModel.Proofs.CommonSort
/-
`strLe` is the library's lexicographic order on the lists of code points (`strLe_iff`), hence a total order.
`sortBy` is an insertion sort in the sense of `SortKey.IsSort`: it returns a sorted permutation, commutes with maps that
keep the keys and depends only on the multiset of its input when the keys are distinct.
-/
namespace Digest

theorem strLe_cons (a b : Char) (as bs : Str) :
    strLe (a :: as) (b :: bs) = true ↔ a.toNat < b.toNat ∨ (a.toNat = b.toNat ∧ strLe as bs = true) := by
  rw [strLe]
  by_cases h1 : a.toNat < b.toNat
  · rw [if_pos h1]
    exact iff_of_true rfl (Or.inl h1)
  · rw [if_neg h1]
    by_cases h2 : b.toNat < a.toNat
    · rw [if_pos h2]
      exact iff_of_false Bool.false_ne_true fun h => h.elim h1 fun e => Nat.lt_irrefl _ (e.1 ▸ h2)
    · rw [if_neg h2]
      exact ⟨fun h => Or.inr ⟨Nat.le_antisymm (Nat.le_of_not_lt h2) (Nat.le_of_not_lt h1), h⟩,
        fun h => h.elim (absurd · h1) (·.2)⟩

theorem strLe_iff : ∀ a b : Str, strLe a b = true ↔ a.map Char.toNat ≤ b.map Char.toNat :=
  SortKey.lexLe_iff (fun _ => rfl) (fun _ _ => rfl) strLe_cons

theorem strLe_refl (a : Str) : strLe a a = true :=
  SortKey.lex_refl strLe_iff a

theorem strLe_totalLe : SortKey.TotalLe strLe :=
  SortKey.lex_total strLe_iff

theorem strLe_antisymm {a b : Str} (h1 : strLe a b = true) (h2 : strLe b a = true) : a = b :=
  SortKey.lex_antisymm strLe_iff Char.toNat_inj.mp h1 h2

variable {α : Type}

theorem sortBy_is (le : α → α → Bool) : SortKey.IsSort le (insertBy le) (sortBy le) :=
  ⟨⟨fun _ => rfl, fun _ _ _ => rfl⟩, rfl, fun _ _ => rfl⟩

theorem sortBy_perm (le : α → α → Bool) (l : List α) : (sortBy le l).Perm l :=
  (sortBy_is le).perm l

theorem sortBy_sorted {le : α → α → Bool} (ord : SortKey.TotalLe le) (l : List α) :
    (sortBy le l).Pairwise (fun a b => le a b = true) :=
  (sortBy_is le).sorted ord l

theorem sortBy_length (le : α → α → Bool) (l : List α) : (sortBy le l).length = l.length :=
  (sortBy_perm le l).length_eq

theorem mem_sortBy (le : α → α → Bool) (l : List α) (x : α) : x ∈ sortBy le l ↔ x ∈ l :=
  (sortBy_perm le l).mem_iff

variable {β : Type}

theorem sortBy_map (le : α → α → Bool) (le' : β → β → Bool) (f : α → β)
    (h : ∀ a b, le' (f a) (f b) = le a b) (l : List α) :
    sortBy le' (l.map f) = (sortBy le l).map f :=
  (sortBy_is le).map (sortBy_is le') f h l

/-- `nd` holds of what Bob sorts: the items of a dictionary. -/
theorem sortBy_key_perm (key : α → Str) {l l' : List α} (hp : l'.Perm l) (nd : (l.map key).Nodup) :
    sortBy (fun a b => strLe (key a) (key b)) l' = sortBy (fun a b => strLe (key a) (key b)) l :=
  ((sortBy_is _).eq_of_perm (strLe_totalLe.comap key) key strLe_antisymm nd hp.symm).symm

end Digest
