import BobModel.Proofs.C15Basic
import BobModel.Proofs.C15Select
/-
C15: the gc.  `GcStep` describes the segments of a gc inside the exclusive section and the one that enters it
(`Pc.inSection`) more closely than `Flow` does: which copy of repo.json, which candidates and which plan the next
program counter carries, and what a move writes; `stepPc_pcFF`, `stepPc_gcWf` (C15Acc) and `stepPc_candOk` go through
`stepPc_gc_cases`; `invFF_step` (C15FF) makes the same split itself.  Here also: what a gc process may hold as candidates (`CandOk`: non-forced, unused only).
`Judged`, the judgement behind a candidate flagged unused, is a notion of `not_collected_while_used_partial`; the
constructor `GcStep.judged` (the scan appends a candidate) does not speak of it.
-/
namespace Share

/-- the candidates / the remaining plan a gc process carries -/
def Pc.cands : Pc → List Cand
  | .gScanOpen _ _ c _ => c
  | .gScanLock _ _ _ _ c _ => c
  | .gMove _ plan _ _ _ => plan
  | _ => []

theorem Pc.cands_of_notEX {pc : Pc} (h : pc.holdsEX = false) : pc.cands = [] := by
  cases pc
  case gScanOpen | gScanLock | gMove => cases h
  all_goals rfl

theorem gcSelect_sub (quota : Option Nat) (pun : Bool) (cands : List Cand) (total : Nat) :
    ∀ c ∈ (gcSelect quota pun cands total).1, c ∈ cands := by
  intro c hc
  unfold gcSelect at hc
  obtain ⟨rest, hr⟩ := gcLoop_prefix quota pun (sortCands cands) total
  have : c ∈ sortCands cands := by rw [hr]; exact List.mem_append_left _ hc
  exact (sortCands_perm cands).mem_iff.mp this

theorem gcPlan_cands_sub (prog : Prog) (g : Store) (rm : List (Bid × Nat)) (cands : List Cand) (t : Nat) :
    ∀ c ∈ (gcPlan prog g rm cands t).2.cands, c ∈ cands := by
  unfold gcPlan
  simp only
  split
  · intro c hc; simp [Pc.cands] at hc
  · intro c hc; exact gcSelect_sub _ _ _ _ c hc

theorem gcNext_cands_sub (prog : Prog) (g : Store) (rm todo : List (Bid × Nat)) (cands : List Cand) (t : Nat) :
    ∀ c ∈ (gcNext prog g rm todo cands t).2.cands, c ∈ cands := by
  unfold gcNext
  split
  · exact gcPlan_cands_sub prog g rm cands t
  · intro c hc; exact hc

theorem checkUnused_sound (g : Store) (b : Bid) (users : List Ws) (h : checkUnused g b users = .ok true) :
    ∀ u ∈ users, g.links u ≠ some b := by
  induction users with
  | nil => intro u hu; cases hu
  | cons x rest ih =>
    unfold checkUnused at h
    cases hl : g.links x with
    | none =>
      simp only [hl] at h
      intro u hu
      rcases List.mem_cons.mp hu with rfl | hu
      · rw [hl]; simp
      · exact ih h u hu
    | some b' =>
      simp only [hl] at h
      split at h
      · cases h
      · split at h
        · cases h
        · rename_i hne
          intro u hu
          rcases List.mem_cons.mp hu with rfl | hu
          · rw [hl]; intro hh; cases hh; exact hne rfl
          · exact ih h u hu

theorem checkUnused_error (g : Store) (k : Bid) (e : Err) :
    ∀ (us : List Ws), checkUnused g k us = .error e → e = .inspect := by
  intro us
  induction us with
  | nil => intro hh; simp [checkUnused] at hh
  | cons u r ih =>
    intro hh
    unfold checkUnused at hh
    split at hh
    · exact ih hh
    · split at hh
      · cases hh; rfl
      · split at hh
        · cases hh
        · exact ih hh

/-- the judgement behind one candidate: where it was flagged unused, no recorded user linked to it and it is
not the package that is being installed -/
def Judged (prog : Prog) (g : Store) (c : Cand) : Prop :=
  c.unused = true → ∃ d m, g.final c.bid = some d ∧ d.info = some (.valid m) ∧ (∀ u ∈ m.users, g.links u ≠ some c.bid) ∧
    (gcCtx prog).newPkg ≠ some c.bid

/-- The segments of a gc inside the exclusive section, and the one that enters it: `GcStep cfg prog g pc pc' g'`.
The scan goes on with `gcNext`, waits for the package lock, or gives up; a move goes on or leaves the section for
`gClose`, and with `cfg.ff` it leaves with repo.json written. -/
inductive GcStep (cfg : Cfg) (prog : Prog) (g : Store) : Pc → Pc → Store → Prop
  | locked {l g'} : readRepo cfg g.repo = some l → GcStep cfg prog g .gLock (gcNext prog g l l [] 0).2 g'
  | unreadable {g'} : readRepo cfg g.repo = none → GcStep cfg prog g .gLock (.gClose none (.err .jsonDecode)) g'
  | planned {rm cands t g'} : GcStep cfg prog g (.gScanOpen rm [] cands t) (gcPlan prog g rm cands t).2 g'
  | skipped {rm k sz rest cands t g'} :
      GcStep cfg prog g (.gScanOpen rm ((k, sz) :: rest) cands t) (gcNext prog g rm rest cands (t + sz)).2 g'
  | found {rm k sz rest cands t g'} :
      GcStep cfg prog g (.gScanOpen rm ((k, sz) :: rest) cands t) (.gScanLock rm k sz rest cands (t + sz)) g'
  | judged {rm k sz rest cands t c g'} : c.bid = k → ((gcCtx prog).pruneUsed = false → c.unused = true) →
      GcStep cfg prog g (.gScanLock rm k sz rest cands t) (gcNext prog g rm rest (cands ++ [c]) t).2 g'
  | passed {rm k sz rest cands t g'} :
      GcStep cfg prog g (.gScanLock rm k sz rest cands t) (gcNext prog g rm rest cands t).2 g'
  | undecided {rm k sz rest cands t us e g'} : checkUnused g k us = .error e →
      GcStep cfg prog g (.gScanLock rm k sz rest cands t) (.gClose none (.err e)) g'
  | corrupt {rm k sz rest cands t g'} : (∀ a w m mt, g.final k ≠ some ⟨a, w, some (.valid m), mt⟩) →
      GcStep cfg prog g (.gScanLock rm k sz rest cands t) (.gClose none (.err .jsonDecode)) g'
  | finished {rm t d te pend g'} : g'.final = g.final →
      (cfg.ff = true → pend = none ∧ g'.repo = if d = true then .valid rm else g.repo) →
      GcStep cfg prog g (.gMove rm [] t d te) (.gClose pend (if te = true then .err .typeError else .gcSize t)) g'
  | vanished {rm c rest t d te pend g'} : g.final c.bid = none → g'.final = g.final →
      (cfg.ff = true → pend = none ∧ g'.repo = if d = true then .valid rm else g.repo) →
      GcStep cfg prog g (.gMove rm (c :: rest) t d te) (.gClose pend (.err .renameENOENT)) g'
  | movedLast {rm c t d te pend dd g'} : g.final c.bid = some dd → g'.final = upd g.final c.bid none →
      (cfg.ff = true → pend = none ∧ g'.repo = .valid (erasePkg rm c.bid)) →
      GcStep cfg prog g (.gMove rm [c] t d te) (.gClose pend (if te = true then .err .typeError else .gcSize t)) g'
  | moved {rm c c1 r2 t d te dd g'} : g.final c.bid = some dd → g'.final = upd g.final c.bid none → g'.repo = .torn →
      GcStep cfg prog g (.gMove rm (c :: c1 :: r2) t d te) (.gMove (erasePkg rm c.bid) (c1 :: r2) t true te) g'

/-- the segment is one of a gc inside the exclusive section, or enters it -/
def Pc.inSection (exO shO : Bool) (pc : Pc) : Prop :=
  pc.holdsEX = true ∨ (pc = .gLock ∧ ¬(exO || shO) = true)

theorem stepPc_gcStep (H : Nat → Nat) (cfg : Cfg) (prog : Prog) (exO shO : Bool) (g : Store) (pc : Pc)
    (h : pc.inSection exO shO) :
    GcStep cfg prog g pc (stepPc H cfg prog exO shO g pc).2 (stepPc H cfg prog exO shO g pc).1 := by
  rcases h with h | ⟨rfl, hfree⟩
  · cases pc
    case gScanOpen rm todo cands t =>
      unfold stepPc; simp only
      split
      · exact .planned
      · split
        · exact .skipped
        · split
          · exact .skipped
          · exact .found
    case gScanLock rm k sz rest cands t =>
      unfold stepPc; simp only
      split
      · split
        · rename_i he; exact .undecided he
        · split
          · rename_i hc; exact .judged rfl fun hp => by simpa [hp] using hc
          · exact .passed
      · rename_i hne; exact .corrupt fun a w m mt hf => hne a w m mt hf
    case gMove rm plan t d te =>
      unfold stepPc; simp only
      -- where the section is left, the four combinations of `cfg.ff` and `d` are alike
      cases plan with
      | nil =>
        cases d <;> cases hff : cfg.ff <;> simp only [Bool.and_true, Bool.and_false, Bool.false_eq_true, ↓reduceIte] <;>
          exact .finished rfl (by simp [hff])
      | cons c rest =>
        simp only
        cases hf : g.final c.bid with
        | none =>
          cases d <;> cases hff : cfg.ff <;> simp only [Bool.and_true, Bool.and_false, Bool.false_eq_true, ↓reduceIte] <;>
            exact .vanished hf rfl (by simp [hff])
        | some dd =>
          simp only
          cases rest with
          | nil => cases hff : cfg.ff <;> simp only [Bool.false_eq_true, ↓reduceIte] <;> exact .movedLast hf rfl (by simp [hff])
          | cons c1 r2 => exact .moved hf rfl rfl
    all_goals cases h
  · unfold stepPc; simp only [if_neg hfree]
    split
    · exact .locked ‹_›
    · exact .unreadable ‹_›

/-- the scan writes nothing at all: every leaf of the two scan segments is `(g, _)`, `gcNext …` or `gcPlan …` -/
theorem stepPc_scan_fst (H : Nat → Nat) (cfg : Cfg) (prog : Prog) (exO shO : Bool) (g : Store) (pc : Pc)
    (h : (∃ rm todo c t, pc = .gScanOpen rm todo c t) ∨ (∃ rm k sz rest c t, pc = .gScanLock rm k sz rest c t)) :
    (stepPc H cfg prog exO shO g pc).1 = g := by
  rcases h with ⟨rm, todo, c, t, rfl⟩ | ⟨rm, k, sz, rest, c, t, rfl⟩ <;> unfold stepPc <;> simp only
  all_goals repeat' split
  all_goals simp only [gcNext_fst, gcPlan_fst]

theorem stepPc_gc_cases (H : Nat → Nat) (cfg : Cfg) (prog : Prog) (exO shO : Bool) (g : Store) (pc : Pc) :
    (pc.inSection exO shO ∧ GcStep cfg prog g pc (stepPc H cfg prog exO shO g pc).2 (stepPc H cfg prog exO shO g pc).1) ∨
      (¬pc.inSection exO shO ∧ (stepPc H cfg prog exO shO g pc).2.holdsEX = false) := by
  by_cases hg : pc.inSection exO shO
  · exact .inl ⟨hg, stepPc_gcStep H cfg prog exO shO g pc hg⟩
  · exact .inr ⟨hg, stepPc_notEX H cfg prog exO shO g pc (Bool.eq_false_iff.mpr fun h => hg (.inl h))
      fun e => Decidable.byContradiction fun hx => hg (.inr ⟨e, hx⟩)⟩

/-- a non-forced gc only ever holds candidates that it flagged unused -/
def CandOk (prog : Prog) (pc : Pc) : Prop :=
  (gcCtx prog).pruneUsed = false → ∀ c ∈ pc.cands, c.unused = true

theorem stepPc_candOk (H : Nat → Nat) (cfg : Cfg) (prog : Prog) (exO shO : Bool) (g : Store) (pc : Pc)
    (h : CandOk prog pc) : CandOk prog (stepPc H cfg prog exO shO g pc).2 := by
  intro hpu c hc
  rcases stepPc_gc_cases H cfg prog exO shO g pc with ⟨-, hs⟩ | ⟨-, hn⟩
  · generalize (stepPc H cfg prog exO shO g pc).2 = pc' at hs hc
    generalize (stepPc H cfg prog exO shO g pc).1 = g' at hs
    cases hs
    case locked => cases gcNext_cands_sub _ _ _ _ _ _ c hc
    case planned => exact h hpu c (gcPlan_cands_sub _ _ _ _ _ c hc)
    case skipped | passed => exact h hpu c (gcNext_cands_sub _ _ _ _ _ _ c hc)
    case found => exact h hpu c hc
    case judged hu =>
      rcases List.mem_append.mp (gcNext_cands_sub _ _ _ _ _ _ c hc) with h1 | h1
      · exact h hpu c h1
      · cases List.mem_singleton.mp h1; exact hu hpu
    case moved => exact h hpu c (List.mem_cons_of_mem _ hc)
    -- `gClose` carries no candidates
    all_goals cases hc
  · rw [Pc.cands_of_notEX hn] at hc; cases hc

end Share
