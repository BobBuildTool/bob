import BobModel.Proofs.C06Step
import BobModel.Proofs.C06Sem
/-
Workspace locks of the scheduler model: per workspace at most one task is inside `async with lock`
(has an `unlock` pending), the waiter list of the asyncio.Lock has one entry per task suspended in
`lock.acquire()`, `lock.release()` never raises, and a script is started / runs / is recorded as run only
inside the lock of its workspace.  Hence two scripts never run in the same workspace at the same time.
-/
namespace Sched
open JobSem

theorem lockOf_insert_self (st : St) (p : Nat) (l : ALock) :
    ({ st with locks := insert p l st.locks } : St).lockOf p = l := by
  simp [St.lockOf, lookup_insert_self]

theorem lockOf_insert_ne (st : St) (p q : Nat) (l : ALock) (h : q ≠ p) :
    ({ st with locks := insert p l st.locks } : St).lockOf q = st.lockOf q := by
  simp [St.lockOf, lookup_insert_ne _ _ _ _ h]

/-- `unlock p` operations of a continuation -/
def ulc (p : Nat) (ops : List Op) : Nat := (ops.filter (Op.isUnlock p)).length

/-- `lockWait` operations for workspace `p` -/
def lwc (P : Project) (p : Nat) (ops : List Op) : Nat := (ops.filter (Op.isLockWait P p)).length

theorem unlocks_eq (p : Nat) (x : Task) : x.unlocks p = ulc p x.ops := rfl

theorem waitingLock_eq (P : Project) (p : Nat) (x : Task) : x.waitingLock P p = lwc P p x.ops := rfl

@[simp] theorem ulc_nil (p : Nat) : ulc p [] = 0 := rfl
@[simp] theorem lwc_nil (P : Project) (p : Nat) : lwc P p [] = 0 := rfl
@[simp] theorem ulc_cons (p : Nat) (o : Op) (r : List Op) : ulc p (o :: r) = (if o.isUnlock p then 1 else 0) + ulc p r := by
  unfold ulc; rw [List.filter_cons]; split <;> simp <;> omega
@[simp] theorem lwc_cons (P : Project) (p : Nat) (o : Op) (r : List Op) :
    lwc P p (o :: r) = (if o.isLockWait P p then 1 else 0) + lwc P p r := by
  unfold lwc; rw [List.filter_cons]; split <;> simp <;> omega
theorem ulc_append (p : Nat) (a b : List Op) : ulc p (a ++ b) = ulc p a + ulc p b := by
  simp [ulc, List.filter_append]
theorem lwc_append (P : Project) (p : Nat) (a b : List Op) : lwc P p (a ++ b) = lwc P p a + lwc P p b := by
  simp [lwc, List.filter_append]

theorem isWait_of_isLockWait {P : Project} {p : Nat} {o : Op} (h : o.isLockWait P p = true) : o.isWait = true := by
  cases o with
  | lockWait => rfl
  | _ => cases h

theorem lwc_noWait (P : Project) (p : Nat) {r : List Op} (h : noWait r = true) : lwc P p r = 0 := by
  unfold lwc; rw [filter_noWait (fun _ => isWait_of_isLockWait) h]; rfl

theorem ulc_filter (p : Nat) (r : List Op) : ulc p (r.filter Op.isFin) = ulc p r := by
  induction r with
  | nil => rfl
  | cons o r ih =>
    rw [List.filter_cons]
    split
    · simp [ih]
    · rename_i hf
      have : o.isUnlock p = false := by cases o <;> simp_all [Op.isFin, Op.isUnlock]
      simp [this, ih]

theorem underLockOK_tail {P : Project} {o : Op} {r : List Op} (h : underLockOK P (o :: r) = true) : underLockOK P r = true := by
  simp only [underLockOK, Bool.and_eq_true] at h; exact h.2

theorem underLockOK_filter {P : Project} {r : List Op} : underLockOK P (r.filter Op.isFin) = true := by
  induction r with
  | nil => rfl
  | cons o r ih =>
    rw [List.filter_cons]
    split
    · rename_i hf
      have : o.section? P = none := by cases o <;> simp_all [Op.isFin, Op.section?]
      simp [underLockOK, this, ih]
    · exact ih

/-- the asyncio.Lock of workspace `p` agrees with the continuations -/
structure LockAt (P : Project) (st : St) (p : Nat) : Prop where
  locked : (st.lockOf p).locked = true → lockHolders p st = 1 ∧ inflight (st.lockOf p).waiters = 0
  free : (st.lockOf p).locked = false → lockHolders p st = 0 ∧ inflight (st.lockOf p).waiters ≤ 1
  waiters : (st.lockOf p).waiters.length = tsum (Task.waitingLock P p) st

structure LockInv (P : Project) (st : St) : Prop where
  at_ : ∀ p, LockAt P st p
  sect : ∀ x ∈ st.tasks, underLockOK P x.ops = true
  nowait : ∀ x ∈ st.tasks, noWait x.ops.tail = true

theorem lockOf_congr {a b : St} (h : a.locks = b.locks) (p : Nat) : a.lockOf p = b.lockOf p := by
  simp [St.lockOf, h]

theorem Initial.lock {P : Project} {y : Task} (h : Initial y) :
    (∀ p, y.unlocks p = 0) ∧ (∀ p, y.waitingLock P p = 0) ∧ underLockOK P y.ops = true ∧ noWait y.ops.tail = true := by
  rcases h.2 with e | ⟨a, e⟩ <;>
    simp [unlocks_eq, waitingLock_eq, e, Op.isUnlock, Op.isLockWait, underLockOK, Op.section?, Op.isWait]

/-- general form of a step of task `t`: `H` and `W` stand for the holders and the waiters of `p` after the step, known
through what the continuation of `t` lost and gained -/
theorem LockInv.update {P : Project} {st g : St} {t : Nat} {x' : Task} {new : List Task}
    (hi : LockInv P st) (ht : t < st.tasks.length)
    (hs : underLockOK P x'.ops = true) (hnw : noWait x'.ops.tail = true) (hg : GrowT st g new)
    (hat : ∀ p, ∀ H W, H + ulc p (st.task t).ops = lockHolders p st + ulc p x'.ops →
        W + lwc P p (st.task t).ops = tsum (Task.waitingLock P p) st + lwc P p x'.ops →
        (((g.lockOf p).locked = true → H = 1 ∧ inflight (g.lockOf p).waiters = 0) ∧
         ((g.lockOf p).locked = false → H = 0 ∧ inflight (g.lockOf p).waiters ≤ 1) ∧
         (g.lockOf p).waiters.length = W)) :
    LockInv P (g.setTask t x') := by
  have hH : ∀ p, lockHolders p (g.setTask t x') + ulc p (st.task t).ops = lockHolders p st + ulc p x'.ops := by
    intro p
    have e := tsum_update (Task.unlocks p) st g t x' new ht hg.tasks
    rw [sum_map_zero new _ (fun y hy => (hg.init y hy).lock (P := P) |>.1 p)] at e
    rw [unlocks_eq, unlocks_eq] at e
    unfold lockHolders; omega
  have hW : ∀ p, tsum (Task.waitingLock P p) (g.setTask t x') + lwc P p (st.task t).ops =
      tsum (Task.waitingLock P p) st + lwc P p x'.ops := by
    intro p
    have e := tsum_update (Task.waitingLock P p) st g t x' new ht hg.tasks
    rw [sum_map_zero new _ (fun y hy => (hg.init y hy).lock (P := P) |>.2.1 p)] at e
    rw [waitingLock_eq, waitingLock_eq] at e
    omega
  have hL : ∀ p, (g.setTask t x').lockOf p = g.lockOf p := fun p => lockOf_congr (by simp) p
  refine ⟨fun p => ?_, hg.forall_tasks hi.sect (fun y hy => (hy.lock (P := P)).2.2.1) hs,
    hg.forall_tasks hi.nowait (fun y hy => (hy.lock (P := P)).2.2.2) hnw⟩
  obtain ⟨a1, a2, a3⟩ := hat p _ _ (hH p) (hW p)
  exact ⟨by rw [hL]; exact a1, by rw [hL]; exact a2, by rw [hL]; exact a3⟩

theorem LockAt.ok {P : Project} {st : St} {p : Nat} (h : LockAt P st p) :
    LockOK (st.lockOf p) (lockHolders p st) (tsum (Task.waitingLock P p) st) := ⟨h.locked, h.free, h.waiters⟩

/-- a step that keeps the lock tables and the counted operations of task `t` -/
theorem LockInv.keep {P : Project} {st g : St} {t : Nat} {x' : Task} {new : List Task}
    (hi : LockInv P st) (ht : t < st.tasks.length)
    (hu : ∀ p, ulc p x'.ops = ulc p (st.task t).ops) (hw : ∀ p, lwc P p x'.ops = lwc P p (st.task t).ops)
    (hs : underLockOK P x'.ops = true) (hnw : noWait x'.ops.tail = true)
    (hg : GrowT st g new) (hl : g.locks = st.locks) : LockInv P (g.setTask t x') := by
  refine hi.update ht hs hnw hg fun p H W hH hW => ?_
  rw [hu p] at hH
  rw [hw p] at hW
  have e1 : H = lockHolders p st := by omega
  have e2 : W = tsum (Task.waitingLock P p) st := by omega
  rw [e1, e2, lockOf_congr hl p]
  exact (hi.at_ p).ok

theorem LockInv.head {P : Project} {st : St} {t : Nat} {op : Op} {rest : List Op} (hi : LockInv P st)
    (hops : (st.task t).ops = op :: rest) :
    t < st.tasks.length ∧ underLockOK P (op :: rest) = true ∧ noWait rest = true := by
  have ht := task_lt hops
  have w2 := hi.nowait _ (task_mem ht)
  have hsec := hi.sect _ (task_mem ht)
  rw [hops] at w2 hsec
  exact ⟨ht, hsec, w2⟩

/-- replacing `op` by `body` at the head of a continuation keeps the counted operations, and lock-section
operations stay in front of the `unlock` of their workspace -/
structure LockNeutral (P : Project) (op : Op) (body : List Op) : Prop where
  ulc : ∀ p, ulc p body = ulc p [op]
  lwc : ∀ p, lwc P p body = lwc P p [op]
  sect : ∀ {rest : List Op}, underLockOK P (op :: rest) = true → underLockOK P (body ++ rest) = true
  noWait : noWait body.tail = true

theorem LockInv.neutralStep {P : Project} {st g : St} {t : Nat} {op : Op} {rest body : List Op} {new : List Task}
    (hi : LockInv P st) (hops : (st.task t).ops = op :: rest) (hn : LockNeutral P op body)
    (hg : GrowT st g new) (hl : g.locks = st.locks) :
    LockInv P (g.setTask t { kind := (st.task t).kind, ops := body ++ rest, err := (st.task t).err }) := by
  obtain ⟨ht, hsec, w2⟩ := hi.head hops
  refine hi.keep ht ?_ ?_ (hn.sect hsec) (noWait_tail_append hn.noWait w2) hg hl
  · intro p
    simp only [hops, ulc_append, hn.ulc p, ulc_cons, ulc_nil]; omega
  · intro p
    simp only [hops, lwc_append, hn.lwc p, lwc_cons, lwc_nil]; omega

/-- an exception starts to propagate at an operation that is neither `unlock` nor `lockWait` -/
theorem LockInv.raiseStep {P : Project} {st g : St} {t : Nat} {op : Op} {rest : List Op} {new : List Task} {e : Err}
    (hi : LockInv P st) (hops : (st.task t).ops = op :: rest)
    (hop : ∀ p, op.isUnlock p = false ∧ op.isLockWait P p = false)
    (hg : GrowT st g new) (hl : g.locks = st.locks) :
    LockInv P (g.setTask t (raise (st.task t) e rest)) := by
  obtain ⟨ht, _, w2⟩ := hi.head hops
  refine hi.keep ht ?_ ?_ underLockOK_filter (noWait_tail_of (noWait_filter w2)) hg hl
  · intro p
    simp [raise, hops, ulc_filter, (hop p).1]
  · intro p
    simp [raise, hops, (hop p).2, lwc_noWait P p w2, lwc_noWait P p (noWait_filter w2)]

theorem isCtl_counts {P : Project} {op : Op} (h : op.isCtl = false) (p : Nat) :
    op.isUnlock p = false ∧ op.isLockWait P p = false := by
  cases op with
  | start | startWait | release | yieldRel | reacq | reacqWait | lock | lockWait | unlock | wrapEnd => cases h
  | _ => exact ⟨rfl, rfl⟩

theorem LockNeutral.nil {P : Project} {op : Op} (hc : op.isCtl = false) : LockNeutral P op [] := by
  refine ⟨fun p => ?_, fun p => ?_, underLockOK_tail, rfl⟩
  · simp [(isCtl_counts (P := P) hc p).1]
  · simp [(isCtl_counts hc p).2]

theorem Rule.lockNeutral {P : Project} {cfg : Cfg} {st g : St} {t : Nat} {op : Op} {body : List Op}
    (hr : Rule P cfg st t op body g) : LockNeutral P op body := by
  cases hr with
  | @cookBody s co =>
    obtain ⟨pre, c, e, hp⟩ := cookBodyOps_eq P s co
    rw [e]
    rcases hp with rfl | rfl <;> exact ⟨fun _ => rfl, fun _ => rfl, fun h => by simp_all [underLockOK, Op.section?], rfl⟩
  | @underLock s co =>
    rcases underLockOps_cases P s co with ⟨_, e | e⟩ | ⟨_, e⟩ <;> rw [e] <;>
      exact ⟨fun _ => rfl, fun _ => rfl, fun h => by simp_all [underLockOK, Op.section?], rfl⟩
  | fence | checkRunning | cookNone | gather | waitOnly | results | cookInvalid | cookRan | underRan | download
  | bidCached | cacheSrc | cacheDist | finOk | setRun => exact .nil rfl
  | _ => exact ⟨fun _ => rfl, fun _ => rfl, fun h => by simp_all [underLockOK, Op.section?], rfl⟩

theorem TokRule.lockNeutral {P : Project} {cfg : Cfg} {st g : St} {t : Nat} {k : TKind} {op : Op} {r : Runners}
    {body : List Op} (hr : TokRule cfg st t k op r body g) : LockNeutral P op body := by
  have enter : ∀ {op w : Op} {body : List Op}, Enter cfg k op w body →
      LockNeutral P op body ∧ LockNeutral P op [w] ∧ LockNeutral P w body := by
    intro op w body he
    cases he with
    | start =>
      cases k <;>
        exact ⟨⟨fun _ => rfl, fun _ => rfl, fun h => by simp_all [prog, underLockOK, Op.section?], rfl⟩,
          ⟨fun _ => rfl, fun _ => rfl, fun h => by simp_all [underLockOK, Op.section?], rfl⟩,
          ⟨fun _ => rfl, fun _ => rfl, fun h => by simp_all [prog, underLockOK, Op.section?], rfl⟩⟩
    | reacq =>
      exact ⟨⟨fun _ => rfl, fun _ => rfl, underLockOK_tail, rfl⟩,
        ⟨fun _ => rfl, fun _ => rfl, fun h => by simp_all [underLockOK, Op.section?], rfl⟩,
        ⟨fun _ => rfl, fun _ => rfl, underLockOK_tail, rfl⟩⟩
  cases hr with
  | got he => exact (enter he).1
  | blocked he => exact (enter he).2.1
  | woken he => exact (enter he).2.2
  | released hl =>
    cases hl with
    | release => exact ⟨fun _ => rfl, fun _ => rfl, underLockOK_tail, rfl⟩
    | yieldRel =>
      rename_i ks rs
      cases rs <;> exact ⟨fun _ => rfl, fun _ => rfl, fun h => by simp_all [underLockOK, Op.section?], rfl⟩

/-- the lock operation of a rule and what it is replaced by speak of the rule's workspace only -/
theorem LockRule.other {P : Project} {st : St} {t p q : Nat} {l : ALock} {op : Op} {body : List Op}
    (hr : LockRule P st t op p l body) (hq : q ≠ p) : ulc q body = ulc q [op] ∧ lwc P q body = lwc P q [op] := by
  have hne : (p == q) = false := beq_false_of_ne fun hc => hq hc.symm
  cases hr with
  | got | woken => rename_i dl _; cases dl <;> simp [inLock, Op.isUnlock, Op.isLockWait, hne]
  | blocked | released => simp [Op.isUnlock, Op.isLockWait, hne]

/-- the lock of the rule's workspace follows the continuation of the task -/
theorem LockRule.spec {P : Project} {st : St} {t p : Nat} {l : ALock} {op : Op} {body : List Op} {H W H' W' : Nat}
    (hr : LockRule P st t op p l body) (hA : LockOK (st.lockOf p) H W)
    (hH : H' + ulc p [op] = H + ulc p body) (hW : W' + lwc P p [op] = W + lwc P p body) : LockOK l H' W' := by
  cases hr with
  | got heq =>
    rename_i s co dl
    have : H' = H + 1 ∧ W' = W := by cases dl <;> simp [inLock, Op.isUnlock, Op.isLockWait] at hH hW <;> omega
    rw [this.1, this.2]; exact hA.acquire_got heq
  | blocked heq =>
    have : H' = H ∧ W' = W + 1 := by simp [Op.isUnlock, Op.isLockWait] at hH hW; omega
    rw [this.1, this.2]; exact hA.acquire_blocked heq
  | woken hw =>
    rename_i s co dl
    obtain ⟨hr, hpos⟩ := hA.resume hw
    have : H' = H + 1 ∧ W' = W - 1 := by cases dl <;> simp [inLock, Op.isUnlock, Op.isLockWait] at hH hW <;> omega
    rw [this.1, this.2]; exact hr
  | released heq =>
    have : H = H' + 1 ∧ W' = W := by simp [Op.isUnlock, Op.isLockWait] at hH hW; omega
    rw [this.1] at hA
    obtain ⟨l', e, hr⟩ := hA.release
    cases heq.symm.trans e
    rw [this.2]; exact hr

theorem LockRule.sect {P : Project} {st : St} {t p : Nat} {l : ALock} {op : Op} {body rest : List Op}
    (hr : LockRule P st t op p l body) (h : underLockOK P (op :: rest) = true) :
    underLockOK P (body ++ rest) = true ∧ noWait body.tail = true := by
  cases hr with
  | got | woken => rename_i dl _; cases dl <;> simp_all [inLock, underLockOK, Op.section?, Op.isWait]
  | blocked | released => simp_all [underLockOK, Op.section?]

theorem LockInv.lockStep {P : Project} {st : St} {t p : Nat} {l : ALock} {op : Op} {rest body : List Op}
    (hi : LockInv P st) (hops : (st.task t).ops = op :: rest) (hr : LockRule P st t op p l body) :
    LockInv P (({ st with locks := insert p l st.locks } : St).setTask t
      { kind := (st.task t).kind, ops := body ++ rest, err := (st.task t).err }) := by
  obtain ⟨ht, hsec, w2⟩ := hi.head hops
  refine hi.update ht (hr.sect hsec).1 (noWait_tail_append (hr.sect hsec).2 w2) (GrowT.same rfl) fun q H W hH hW => ?_
  simp only [hops, ulc_append, lwc_append] at hH hW
  rw [ulc_cons] at hH
  rw [lwc_cons] at hW
  by_cases hq : q = p
  · subst hq
    rw [lockOf_insert_self]
    refine hr.spec (hi.at_ q).ok ?_ ?_
    · rw [ulc_cons, ulc_nil]; omega
    · rw [lwc_cons, lwc_nil]; omega
  · rw [lockOf_insert_ne _ _ _ _ hq]
    obtain ⟨e1, e2⟩ := hr.other (P := P) hq
    rw [e1, ulc_cons, ulc_nil] at hH
    rw [e2, lwc_cons, lwc_nil] at hW
    have e1 : H = lockHolders q st := by omega
    have e2 : W = tsum (Task.waitingLock P q) st := by omega
    rw [e1, e2]
    exact (hi.at_ q).ok

/-- a task that leaves `async with lock` finds the lock locked: `release()` does not raise -/
theorem LockInv.unlock_ok {P : Project} {st : St} {t p : Nat} {rest : List Op} (hi : LockInv P st)
    (hops : (st.task t).ops = .unlock p :: rest) : ∃ l, (st.lockOf p).release = .ok l := by
  have hpos : 0 < lockHolders p st := by
    refine Nat.lt_of_lt_of_le ?_ (tsum_ge (Task.unlocks p) st t (task_lt hops))
    simp [unlocks_eq, hops, Op.isUnlock]
    omega
  have hA := (hi.at_ p).ok
  rw [show lockHolders p st = lockHolders p st - 1 + 1 by omega] at hA
  obtain ⟨l, e, _⟩ := hA.release
  exact ⟨l, e⟩

theorem LockAt.of_eq {P : Project} {st st' : St} {p : Nat} (ht : st'.tasks = st.tasks) (hl : st'.locks = st.locks)
    (h : LockAt P st p) : LockAt P st' p := by
  have e1 : lockHolders p st' = lockHolders p st := by simp [lockHolders, tsum, ht]
  have e2 : tsum (Task.waitingLock P p) st' = tsum (Task.waitingLock P p) st := by simp [tsum, ht]
  have e3 : st'.lockOf p = st.lockOf p := lockOf_congr hl p
  exact ⟨by rw [e3, e1]; exact h.locked, by rw [e3, e1]; exact h.free, by rw [e3, e2]; exact h.waiters⟩

theorem LockInv.init (P : Project) (cfg : Cfg) (r0 : Runners) : LockInv P (init cfg r0) := by
  refine ⟨fun p => ?_, ?_, ?_⟩
  · have hH : lockHolders p (Sched.init cfg r0) = 0 := by
      simp [lockHolders, tsum, Sched.init, Task.unlocks, Op.isUnlock]
    have hW : tsum (Task.waitingLock P p) (Sched.init cfg r0) = 0 := by
      simp [tsum, Sched.init, Task.waitingLock, Op.isLockWait]
    have hL : (Sched.init cfg r0).lockOf p = ALock.init := by simp [St.lockOf, Sched.init, lookup]
    exact ⟨by rw [hL]; intro hc; simp [ALock.init] at hc, by rw [hL, hH]; intro _; simp [ALock.init],
      by rw [hL, hW]; rfl⟩
  · intro x hx
    simp only [Sched.init, List.mem_singleton] at hx
    subst hx
    simp [underLockOK, Op.section?]
  · intro x hx
    simp only [Sched.init, List.mem_singleton] at hx
    subst hx
    simp [Op.isWait]

/-- per workspace at most one task is inside the lock -/
theorem LockInv.holders_le_one {P : Project} {st : St} (hi : LockInv P st) (p : Nat) : lockHolders p st ≤ 1 := by
  have hA := hi.at_ p
  cases hl : (st.lockOf p).locked
  · have := (hA.free hl).1; omega
  · have := (hA.locked hl).1; omega

theorem underLockOK_mem {P : Project} {l : List Op} (h : underLockOK P l = true) {o : Op} (ho : o ∈ l) {p : Nat}
    (hs : o.section? P = some p) : 1 ≤ ulc p l := by
  induction l with
  | nil => cases ho
  | cons a r ih =>
    simp only [underLockOK, Bool.and_eq_true] at h
    rcases List.mem_cons.mp ho with e | e
    · subst e
      rw [hs] at h
      have hm : Op.unlock p ∈ r := by simpa using h.1
      have : 0 < ulc p r := by
        unfold ulc
        exact List.length_pos_of_mem (List.mem_filter.mpr ⟨hm, by simp [Op.isUnlock]⟩)
      rw [ulc_cons]; omega
    · have := ih h.2 e
      rw [ulc_cons]; omega

/-- two different tasks cannot both be inside the lock section of workspace `p` -/
theorem LockInv.excl {P : Project} {st : St} (hl : LockInv P st) {i j : Nat} (hij : i ≠ j) {o o' : Op} {p : Nat}
    (ho : o ∈ (st.task i).ops) (hs : o.section? P = some p)
    (ho' : o' ∈ (st.task j).ops) (hs' : o'.section? P = some p) : False := by
  have hi : i < st.tasks.length := by
    cases h : (st.task i).ops with
    | nil => rw [h] at ho; cases ho
    | cons a r => exact task_lt h
  have hj : j < st.tasks.length := by
    cases h : (st.task j).ops with
    | nil => rw [h] at ho'; cases ho'
    | cons a r => exact task_lt h
  have h1 := underLockOK_mem (hl.sect _ (task_mem hi)) ho hs
  have h2 := underLockOK_mem (hl.sect _ (task_mem hj)) ho' hs'
  have h3 := tsum_two (Task.unlocks p) st hij hi hj
  have h4 := hl.holders_le_one p
  rw [unlocks_eq, unlocks_eq] at h3
  unfold lockHolders at h4
  omega

/-- inside one task: behind a `setRun` (or `underLock`) at the head, whose `unlock` follows directly, there is no
further lock-section operation of the same workspace -/
theorem LockInv.single {P : Project} {st : St} (hl : LockInv P st) {i : Nat} {o o' : Op} {p : Nat} {r : List Op}
    (hops : (st.task i).ops = o :: .unlock p :: r) (ho' : o' ∈ r) (hs' : o'.section? P = some p) : False := by
  have hi := task_lt hops
  have hsec := hl.sect _ (task_mem hi)
  rw [hops] at hsec
  have h1 := underLockOK_mem (underLockOK_tail (underLockOK_tail hsec)) ho' hs'
  have h3 := tsum_ge (Task.unlocks p) st i hi
  have h4 := hl.holders_le_one p
  rw [unlocks_eq, hops, ulc_cons, ulc_cons] at h3
  simp only [Op.isUnlock, beq_self_eq_true, ↓reduceIte] at h3
  unfold lockHolders at h4
  omega

/-- scripts of workspace `p` that are between start and noticed end -/
def Op.isRunIn (P : Project) (p : Nat) : Op → Bool
  | .runWait s _ => (P.info s).path == p
  | _ => false

def Task.runningIn (P : Project) (p : Nat) (x : Task) : Nat := (x.ops.filter (Op.isRunIn P p)).length

theorem isWait_of_isRunIn {P : Project} {p : Nat} {o : Op} (h : o.isRunIn P p = true) : o.isWait = true := by
  cases o with
  | runWait => rfl
  | _ => cases h

theorem runIn_noWait (P : Project) (p : Nat) {r : List Op} (h : noWait r = true) : (r.filter (Op.isRunIn P p)).length = 0 := by
  rw [filter_noWait (fun _ => isWait_of_isRunIn) h]; rfl

theorem runningIn_le_unlocks {P : Project} {x : Task} (p : Nat) (hs : underLockOK P x.ops = true)
    (hn : noWait x.ops.tail = true) : x.runningIn P p ≤ x.unlocks p := by
  unfold Task.runningIn
  rw [unlocks_eq]
  cases hops : x.ops with
  | nil => simp
  | cons o r =>
    rw [hops] at hs hn
    simp only [List.tail_cons] at hn
    rw [List.filter_cons]
    split
    · rename_i hr
      have hmem : Op.unlock p ∈ r := by
        cases o <;> simp [Op.isRunIn] at hr
        rename_i s res
        have := hs
        simp [underLockOK, Op.section?] at this
        rw [← hr]; exact this.1
      have hpos : 0 < ulc p r := by
        unfold ulc
        apply List.length_pos_of_mem (a := Op.unlock p)
        exact List.mem_filter.mpr ⟨hmem, by simp [Op.isUnlock]⟩
      simp only [List.length_cons, runIn_noWait P p hn, ulc_cons]
      omega
    · simp [runIn_noWait P p hn]

/-- **exclusive**: under `LockInv` no two scripts run in the same workspace -/
theorem LockInv.exclusive {P : Project} {st : St} (hi : LockInv P st) (p : Nat) :
    tsum (Task.runningIn P p) st ≤ 1 :=
  Nat.le_trans (tsum_le_tsum (fun x hx => runningIn_le_unlocks p (hi.sect x hx) (hi.nowait x hx))) (hi.holders_le_one p)

end Sched
