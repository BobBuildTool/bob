import BobModel.Proofs.C20Sets
/-
C20: specification of `addChilds` (upward propagation of a set of reachable packages with early stop).
No invariant of the job graph is needed here; the fuel is shown to suffice by counting the jobs
that are not yet "full".
-/
namespace Jenkins

theorem filter_len_le {l : List Nat} {p q : Nat → Bool} (h : ∀ x ∈ l, q x = true → p x = true) :
    (l.filter q).length ≤ (l.filter p).length := by
  rw [← List.countP_eq_length_filter, ← List.countP_eq_length_filter]
  exact List.countP_mono_left h

theorem filter_len_lt {l : List Nat} {p q : Nat → Bool} (h : ∀ x ∈ l, q x = true → p x = true)
    {a : Nat} (hal : a ∈ l) (hpa : p a = true) (hqa : q a = false) :
    (l.filter q).length < (l.filter p).length := by
  have : l.filter q = (l.filter p).filter q := by
    rw [List.filter_filter]
    exact List.filter_congr fun x hx => by cases hq : q x <;> simp [h x hx, hq]
  rw [this]
  exact List.length_filter_lt_length_iff_exists.mpr ⟨a, List.mem_filter.mpr ⟨hal, hpa⟩, by simp [hqa]⟩

theorem foldl_v2j (step : St → Nat → St) (h : ∀ s i, (step s i).v2j = s.v2j) :
    ∀ (P : List Nat) (s : St), (P.foldl step s).v2j = s.v2j :=
  fun P s => List.foldlRecOn P step (motive := fun t => t.v2j = s.v2j) rfl fun t ht i _ => (h t i).trans ht

theorem addChilds_v2j (X : List Nat) : ∀ (fuel : Nat) (P : List Nat) (s : St), (addChilds fuel P X s).v2j = s.v2j := by
  intro fuel
  induction fuel with
  | zero => intro P s; rfl
  | succ f ih =>
    intro P s
    simp only [addChilds]
    refine foldl_v2j _ (fun s i => ?_) P s
    split
    · rfl
    · split
      · rfl
      · rw [ih]; rfl

/-- all of `X` is in the `childs` of job `k` -/
def full (s : St) (X : List Nat) (k : Nat) : Prop := ∀ x ∈ X, x ∈ (s.job k).childs

theorem full_iff {s : St} {X : List Nat} {k : Nat} : subset X (s.job k).childs = true ↔ full s X k := subset_iff

/-- number of job ids below `n` that are not full -/
def cnt (n : Nat) (s : St) (X : List Nat) : Nat :=
  ((List.range n).filter (fun k => !subset X (s.job k).childs)).length

theorem cnt_le_n (n : Nat) (s : St) (X : List Nat) : cnt n s X ≤ n :=
  Nat.le_trans (List.length_filter_le _ _) (Nat.le_of_eq List.length_range)

section mono
variable {n : Nat} {s s' : St} {X : List Nat} (h : ∀ k w, w ∈ (s.job k).childs → w ∈ (s'.job k).childs)
include h

theorem notFull_of_mono (k : Nat) (hk : (!subset X (s'.job k).childs) = true) :
    (!subset X (s.job k).childs) = true := by
  rw [Bool.not_eq_true', ← Bool.not_eq_true, full_iff] at hk ⊢
  exact fun hf => hk fun x hx => h k x (hf x hx)

theorem cnt_mono : cnt n s' X ≤ cnt n s X :=
  filter_len_le fun k _ => notFull_of_mono h k

theorem cnt_lt {j : Nat} (hj : j < n) (hnot : subset X (s.job j).childs = false) (hfull : full s' X j) :
    cnt n s' X < cnt n s X :=
  filter_len_lt (fun k _ => notFull_of_mono h k) (List.mem_range.mpr hj) (by simp [hnot])
    (by simp [full_iff.mpr hfull])

end mono

/-- local closure: every live full job outside `S` has only full parents -/
def LC (s : St) (X : List Nat) (S : Nat → Prop) : Prop :=
  ∀ v k, s.v2j v = some k → full s X k → ¬ S k →
    ∀ p ∈ (s.job k).parents, ∀ k', s.v2j p = some k' → full s X k'

/-- What `addChilds fuel P X` does to a state.  `S`: the jobs whose parents are still being walked further up
the recursion, exempt from the closure `lc` until their call returns; `Q`: any set of steps that contains
every step the walk can visit (the caller's `Q`, "reaches the merged job", makes the additions of `upper` sound).
`cntLe`: the measure against which the fuel is counted does not grow, so the rest of a list of parents can be walked
with the fuel that is left. -/
structure ACPost (n : Nat) (X : List Nat) (S Q : Nat → Prop) (P : List Nat) (s s' : St) : Prop where
  v2j : s'.v2j = s.v2j
  names : s'.names = s.names
  pkgs : ∀ k, (s'.job k).pkgs = (s.job k).pkgs
  parents : ∀ k, (s'.job k).parents = (s.job k).parents
  mono : ∀ k w, w ∈ (s.job k).childs → w ∈ (s'.job k).childs
  upper : ∀ k w, w ∈ (s'.job k).childs → w ∈ (s.job k).childs ∨ (w ∈ X ∧ ∃ p, Q p ∧ s.v2j p = some k)
  lc : LC s' X S
  startFull : ∀ p ∈ P, ∀ k, s.v2j p = some k → full s' X k
  cntLe : cnt n s' X ≤ cnt n s X

section
variable {n : Nat} {X : List Nat} {S Q : Nat → Prop}

theorem ACPost.refl {P : List Nat} {s : St} (h : LC s X S) (hP : ∀ p ∈ P, ∀ k, s.v2j p = some k → full s X k) :
    ACPost n X S Q P s s :=
  { v2j := rfl, names := rfl, pkgs := fun _ => rfl, parents := fun _ => rfl, mono := fun _ _ h => h,
    upper := fun _ _ h => Or.inl h, lc := h, startFull := hP, cntLe := Nat.le_refl _ }

theorem ACPost.comp {i : Nat} {P : List Nat} {s s1 s2 : St}
    (h1 : ACPost n X S Q [i] s s1) (h2 : ACPost n X S Q P s1 s2) : ACPost n X S Q (i :: P) s s2 :=
  { v2j := by rw [h2.v2j, h1.v2j]
    names := by rw [h2.names, h1.names]
    pkgs := fun k => by rw [h2.pkgs, h1.pkgs]
    parents := fun k => by rw [h2.parents, h1.parents]
    mono := fun k w h => h2.mono k w (h1.mono k w h)
    upper := fun k w h => by
      rcases h2.upper k w h with h | ⟨hx, p, hq, hp⟩
      · exact h1.upper k w h
      · exact Or.inr ⟨hx, p, hq, h1.v2j ▸ hp⟩
    lc := h2.lc
    startFull := fun p hp k hk => by
      rcases List.mem_cons.mp hp with rfl | hp
      · exact fun x hx => h2.mono k x (h1.startFull p (List.mem_singleton_self p) k hk x hx)
      · exact h2.startFull p hp k (h1.v2j ▸ hk)
    cntLe := Nat.le_trans h2.cntLe h1.cntLe }

/-- `Q` is any set of package steps that contains `P` and is closed under "parent of the job of";
`S` collects the jobs whose parents are still being processed further up the recursion. -/
theorem addChilds_spec (n : Nat) (X : List Nat) (Q : Nat → Prop) :
    ∀ (fuel : Nat) (P : List Nat) (s : St) (S : Nat → Prop),
      (∀ v k, s.v2j v = some k → k < n) →
      cnt n s X < fuel →
      LC s X S →
      (∀ p ∈ P, Q p) →
      (∀ p k, Q p → s.v2j p = some k → ∀ q ∈ (s.job k).parents, Q q) →
      ACPost n X S Q P s (addChilds fuel P X s) := by
  intro fuel
  induction fuel with
  | zero => intro P s S _ h; omega
  | succ f ihf =>
    intro P
    induction P with
    | nil => intro s S _ _ hlc _ _; exact ACPost.refl hlc (fun _ hp => nomatch hp)
    | cons i P ihP =>
      intro s S hb hcnt hlc hQP hQc
      have hQi : Q i := hQP i List.mem_cons_self
      have hstep : ∃ s1, addChilds (f + 1) (i :: P) X s = addChilds (f + 1) P X s1 ∧ ACPost n X S Q [i] s s1 := by
        simp only [addChilds, List.foldl_cons]
        cases hv : s.v2j i with
        -- an unknown step, where Python's `vidToJob[i]` raises `KeyError`: the model skips it, the
        -- specification covers it, and under `Inv.parents` it does not occur
        | none => exact ⟨s, rfl, ACPost.refl hlc fun p hp k hk => by
            rw [List.mem_singleton.mp hp, hv] at hk; cases hk⟩
        | some j =>
          cases hsub : subset X (s.job j).childs with
          | true => exact ⟨s, by simp [hsub], ACPost.refl hlc fun p hp k hk => by
              rw [List.mem_singleton.mp hp, hv] at hk; cases hk; exact full_iff.mp hsub⟩
          | false =>
            -- job `j` becomes full; its parents are visited with `j` added to `S`
            let sa := setChilds s j (union (s.job j).childs X)
            have hmono : ∀ k w, w ∈ (s.job k).childs → w ∈ (sa.job k).childs :=
              setChilds_mono fun w hw => mem_union.mpr (Or.inl hw)
            have hfull : full sa X j := fun x hx => by
              rw [setChilds_job_same]; exact mem_union.mpr (Or.inr hx)
            have hcnt' : cnt n sa X < f := by
              have := cnt_lt (n := n) hmono (hb i j hv) hsub hfull
              omega
            have hlc' : LC sa X (fun k => S k ∨ k = j) := by
              intro v k hvk hfk hS p hp k' hk'
              have hkj : k ≠ j := fun e => hS (Or.inr e)
              rw [setChilds_parents] at hp
              have hfk' : full s X k := fun x hx => by
                have : x ∈ ((setChilds s j _).job k).childs := hfk x hx
                rwa [setChilds_job_other hkj] at this
              exact fun x hx => hmono k' x (hlc v k hvk hfk' (fun h => hS (Or.inl h)) p hp k' hk' x hx)
            have ih := ihf (sa.job j).parents sa (fun k => S k ∨ k = j) hb hcnt' hlc'
              (fun p hp => hQc i j hQi hv p (by rwa [setChilds_parents] at hp))
              (fun p k hq hk q hqp => hQc p k hq hk q (by rwa [setChilds_parents] at hqp))
            refine ⟨addChilds f (sa.job j).parents X sa, by simp [hsub, sa], ?_⟩
            exact {
              v2j := ih.v2j
              names := ih.names
              pkgs := fun k => by rw [ih.pkgs, setChilds_pkgs]
              parents := fun k => by rw [ih.parents, setChilds_parents]
              mono := fun k w h => ih.mono k w (hmono k w h)
              upper := fun k w h => by
                rcases ih.upper k w h with h | h
                · by_cases hk : k = j
                  · subst hk
                    rw [setChilds_job_same] at h
                    exact (mem_union.mp h).imp_right fun h => ⟨h, i, hQi, hv⟩
                  · rw [setChilds_job_other hk] at h; exact Or.inl h
                · exact Or.inr h
              lc := by
                intro v k hvk hfk hS p hp k' hk'
                by_cases hkj : k = j
                · subst hkj
                  rw [ih.parents] at hp
                  exact ih.startFull p hp k' (ih.v2j ▸ hk')
                · exact ih.lc v k hvk hfk (fun h => h.elim hS hkj) p hp k' hk'
              startFull := fun p hp k hk => by
                rw [List.mem_singleton.mp hp, hv] at hk; cases hk
                exact fun x hx => ih.mono _ x (hfull x hx)
              cntLe := Nat.le_trans ih.cntLe (cnt_mono hmono) }
      obtain ⟨s1, heq, h1⟩ := hstep
      rw [heq]
      exact h1.comp <| ihP s1 S (h1.v2j ▸ hb) (Nat.lt_of_le_of_lt h1.cntLe hcnt) h1.lc
        (fun p hp => hQP p (List.mem_cons_of_mem _ hp))
        (fun p k hq hk q hqp => hQc p k hq (h1.v2j ▸ hk) q (h1.parents k ▸ hqp))

end

end Jenkins
