import BobModel.Proofs.C18Eval
/-
Real paths and the depth of acyclic graphs (the fuel of the two recursive walks), and the memoised
depth first search of `__findIntermediateNodes`: it marks exactly the nodes that are reachable from
`old` and from which a `new` node is reachable, so every marked or new node has a real path from
`old` through marked and new nodes only.
-/
namespace PathSpec

/-- consecutive nodes after `a` along dependency edges -/
def Chain (g : Graph) : Node → List Node → Prop
  | _, [] => True
  | a, b :: l => edge g true a b ∧ Chain g b l

theorem chain_reach {g : Graph} : ∀ (l : List Node) (a : Node), Chain g a l → ∀ x ∈ l, Relation.TransGen (edge g true) a x
  | [], _, _, x, hx => by cases hx
  | b :: l, a, h, x, hx => by
    simp only [Chain] at h
    rcases List.mem_cons.mp hx with rfl | hx'
    · exact .single h.1
    · exact transGen_head h.1 (chain_reach l b h.2 x hx')

theorem chain_nodup {g : Graph} (hac : g.Acyclic) : ∀ (l : List Node) (a : Node), Chain g a l → l.Nodup
  | [], _, _ => List.nodup_nil
  | b :: l, a, h => by
    simp only [Chain] at h
    exact List.nodup_cons.mpr ⟨fun hb => hac b (chain_reach l b h.2 b hb), chain_nodup hac l b h.2⟩

/-- every chain of dependency edges below `node` has fewer than `fuel` nodes -/
def Shallow (g : Graph) (node : Node) (fuel : Nat) : Prop :=
  ∀ l, Chain g node l → l.length < fuel

theorem shallow_succ {g : Graph} {node c : Node} {fuel : Nat} (h : Shallow g node (fuel + 1))
    (he : edge g true node c) : Shallow g c fuel := by
  intro l hl
  have := h (c :: l) ⟨he, hl⟩
  simp at this
  omega

/-- pigeonhole: a chain visits distinct keys, so on an acyclic graph the depth fuel `size + 1` suffices -/
theorem shallow_of_acyclic {g : Graph} (hwf : g.WF) (hac : g.Acyclic) (a : Node) : Shallow g a (g.size + 1) := by
  intro l hl
  have := List.Nodup.length_le_of_subset (chain_nodup hac l a hl)
    (fun x hx => List.mem_range.mpr (transGen_edge_lt hwf (chain_reach l a hl x hx)))
  rw [List.length_range] at this
  omega

theorem not_shallow_zero {g : Graph} {node : Node} (h : Shallow g node 0) : False := by
  simpa using h [] trivial

theorem pathWithin_mono {g : Graph} {v1 v2 : List Node} (h : ∀ x ∈ v1, x ∈ v2) :
    ∀ (s : List Str) (a b : Node), PathWithin g v1 a s b → PathWithin g v2 a s b
  | [], a, b, hp => hp
  | nm :: rest, a, b, hp => by
    simp only [PathWithin] at hp ⊢
    obtain ⟨e, he, hn, hv, hr⟩ := hp
    exact ⟨e, he, hn, h _ hv, pathWithin_mono h rest _ _ hr⟩

theorem pathWithin_append {g : Graph} {valid : List Node} :
    ∀ (s1 : List Str) (a b c : Node) (s2 : List Str), PathWithin g valid a s1 b → PathWithin g valid b s2 c →
      PathWithin g valid a (s1 ++ s2) c
  | [], a, b, c, s2, h1, h2 => by simp only [PathWithin] at h1; subst h1; simpa using h2
  | nm :: rest, a, b, c, s2, h1, h2 => by
    simp only [PathWithin, List.cons_append] at h1 ⊢
    obtain ⟨e, he, hn, hv, hr⟩ := h1
    exact ⟨e, he, hn, hv, pathWithin_append rest _ b c s2 hr h2⟩

theorem pathWithin_snoc {g : Graph} {valid : List Node} (s : List Str) (a b : Node) (e : Edge)
    (hp : PathWithin g valid a s b) (he : e ∈ g.children b) (hv : e.node ∈ valid) :
    PathWithin g valid a (s ++ [e.name]) e.node :=
  pathWithin_append s a b e.node [e.name] hp ⟨e, he, rfl, hv, rfl⟩

theorem pathWithin_lt {g : Graph} (hwf : g.WF) {valid : List Node} :
    ∀ (s : List Str) (a b : Node), a < g.size → PathWithin g valid a s b → b < g.size
  | [], a, b, ha, h => by simp only [PathWithin] at h; exact h ▸ ha
  | nm :: rest, a, b, _, h => by
    simp only [PathWithin] at h
    obtain ⟨e, he, _, _, hr⟩ := h
    exact pathWithin_lt hwf rest e.node b (hwf.edge_lt a e he) hr

/-- a chain of edges all of whose inner nodes and whose end are in `S` is a real path inside `S` -/
theorem pathWithin_of_transGen {g : Graph} {qi : Bool} {S : List Node} {a y : Node}
    (t : Relation.TransGen (edge g qi) a y) :
    (∀ z, Relation.TransGen (edge g qi) a z → (z = y ∨ Relation.TransGen (edge g qi) z y) → z ∈ S) →
    ∃ s, PathWithin g S a s y := by
  induction t with
  | single he =>
    intro hS
    have hy := hS _ (.single he) (Or.inl rfl)
    obtain ⟨e, hmem, rfl, _⟩ := he
    exact ⟨[e.name], e, hmem, rfl, hy, rfl⟩
  | tail t he ih =>
    intro hS
    obtain ⟨s, hs⟩ := ih fun z hz hzu =>
      hS z hz (Or.inr (hzu.elim (fun h => h ▸ .single he) (fun h => .tail h he)))
    have hy := hS _ (.tail t he) (Or.inl rfl)
    obtain ⟨e, hmem, rfl, _⟩ := he
    exact ⟨s ++ [e.name], pathWithin_snoc s _ _ e hs hmem hy⟩

/-- a `new` node is reachable from `n` by at least one edge -/
def Productive (g : Graph) (new : List Node) (qi : Bool) (n : Node) : Prop :=
  ∃ t ∈ new, Relation.TransGen (edge g qi) n t

/-- `Reach g` (Spec/PathSem.lean) is `ReachQ g true` -/
def ReachQ (g : Graph) (qi : Bool) (a b : Node) : Prop := a = b ∨ Relation.TransGen (edge g qi) a b

theorem reachQ_step {g : Graph} {qi : Bool} {a b c : Node} (h : ReachQ g qi a b) (he : edge g qi b c) :
    ReachQ g qi a c := by
  rcases h with rfl | h
  · exact Or.inr (.single he)
  · exact Or.inr (.tail h he)

theorem reach_of_reachQ {g : Graph} {qi : Bool} {a b : Node} (h : ReachQ g qi a b) : Reach g a b := by
  rcases h with rfl | h
  · exact Or.inl rfl
  · exact reach_of_transGen h

theorem productive_iff {g : Graph} {new : List Node} {qi : Bool} {n : Node} :
    Productive g new qi n ↔ ∃ c ∈ succs g qi n, (Productive g new qi c ∨ c ∈ new) := by
  constructor
  · rintro ⟨t, ht, h⟩
    obtain ⟨c, hc, hct⟩ := transGen_head_iff.mp h
    refine ⟨c, mem_succs.mpr hc, ?_⟩
    rcases hct with rfl | hct
    · exact Or.inr ht
    · exact Or.inl ⟨t, ht, hct⟩
  · rintro ⟨c, hc, ⟨t, ht, h⟩ | hcn⟩
    · exact ⟨t, ht, transGen_head (mem_succs.mp hc) h⟩
    · exact ⟨c, hcn, .single (mem_succs.mp hc)⟩

theorem memoGet_some {m : List (Node × Bool)} {k : Node} {b : Bool} (h : memoGet m k = some b) : (k, b) ∈ m := by
  obtain ⟨e, he, rfl⟩ := Option.map_eq_some_iff.mp h
  have hk : e.1 = k := by simpa using List.find?_some he
  exact hk ▸ List.mem_of_find?_eq_some he

/-- the step function of the loop in `traverse` -/
def tstep (g : Graph) (new : List Node) (qi : Bool) (fuel : Nat) (acc : Bool × TState) (c : Node) : Bool × TState :=
  ((acc.1 || ((traverse g new qi fuel c acc.2).1 || new.contains c)), (traverse g new qi fuel c acc.2).2)

theorem traverse_succ (g : Graph) (new : List Node) (qi : Bool) (fuel : Nat) (node : Node) (st : TState) :
    traverse g new qi (fuel + 1) node st =
      match memoGet st.reaching node with
      | some r => (r, st)
      | none =>
        let res := (succs g qi node).foldl (tstep g new qi fuel) (false, st)
        (res.1, { reaching := (node, res.1) :: res.2.reaching,
                  inter := if res.1 then node :: res.2.inter else res.2.inter }) := rfl

/-- whatever the fuel, a property that holds at the start node and is passed on along edges holds
for all nodes of `intermediate` -/
theorem traverse_inter (g : Graph) (new : List Node) (qi : Bool) (P : Node → Prop)
    (hP : ∀ a b, P a → edge g qi a b → P b) :
    ∀ (fuel : Nat) (node : Node) (st : TState), P node → (∀ y ∈ st.inter, P y) →
      ∀ y ∈ (traverse g new qi fuel node st).2.inter, P y := by
  intro fuel
  induction fuel with
  | zero => intro node st _ hst; simpa [traverse] using hst
  | succ fuel ih =>
    intro node st hnode hst
    rw [traverse_succ]
    split
    · exact hst
    · have hres := foldl_inv (fun _ (acc : Bool × TState) => ∀ y ∈ acc.2.inter, P y) (tstep g new qi fuel)
        (succs g qi node) (fun _ c acc hc h => ih c acc.2 (hP node c hnode (mem_succs.mp hc)) h)
        (b := (false, st)) hst
      intro y hy
      simp only at hy
      split at hy
      · rcases List.mem_cons.mp hy with rfl | hy'
        · exact hnode
        · exact hres y hy'
      · exact hres y hy

theorem findIntermediateNodes_reach (g : Graph) (old new : List Node) (qi : Bool) :
    ∀ y ∈ findIntermediateNodes g old new qi, ∃ o ∈ old, Reach g o y := by
  unfold findIntermediateNodes
  split
  · simp
  · exact foldl_inv (fun _ (st : TState) => ∀ y ∈ st.inter, ∃ o ∈ old, Reach g o y) _ old
      (fun _ o st ho h => traverse_inter g new qi _
        (fun a b ⟨o, ho, hr⟩ he => ⟨o, ho, reach_trans hr (reach_of_edge he)⟩)
        _ o st ⟨o, ho, reach_refl g o⟩ h)
      (by simp)

/-- invariant of the memo table -/
structure TInv (g : Graph) (old new : List Node) (qi : Bool) (st : TState) : Prop where
  correct : ∀ e ∈ st.reaching, (e.2 = true ↔ Productive g new qi e.1)
  fromOld : ∀ e ∈ st.reaching, ∃ o ∈ old, ReachQ g qi o e.1
  closed : ∀ e ∈ st.reaching, ∀ c ∈ succs g qi e.1, ∃ b, (c, b) ∈ st.reaching
  inter_iff : ∀ n, n ∈ st.inter ↔ (n, true) ∈ st.reaching

/-- with enough fuel one call keeps the table invariant, only adds entries, and enters the start node
with the answer it returns (which is right by `TInv.correct`) -/
theorem traverse_spec (g : Graph) (old new : List Node) (qi : Bool) :
    ∀ (fuel : Nat) (node : Node) (st : TState), Shallow g node fuel → (∃ o ∈ old, ReachQ g qi o node) →
      TInv g old new qi st →
      TInv g old new qi (traverse g new qi fuel node st).2 ∧
      (∀ e ∈ st.reaching, e ∈ (traverse g new qi fuel node st).2.reaching) ∧
      (node, (traverse g new qi fuel node st).1) ∈ (traverse g new qi fuel node st).2.reaching := by
  intro fuel
  induction fuel with
  | zero => intro node st hsh; exact (not_shallow_zero hsh).elim
  | succ fuel ih =>
    intro node st hsh hnode hinv
    rw [traverse_succ]
    cases hm : memoGet st.reaching node with
    | some r => exact ⟨hinv, fun _ h => h, memoGet_some hm⟩
    | none =>
      -- the loop over the successors: all of them are entered, the flag is the disjunction
      obtain ⟨l1, l2, l3, l4⟩ := foldl_inv
        (fun pre (acc : Bool × TState) => TInv g old new qi acc.2 ∧
          (∀ e ∈ st.reaching, e ∈ acc.2.reaching) ∧ (∀ c ∈ pre, ∃ b, (c, b) ∈ acc.2.reaching) ∧
          (acc.1 = true ↔ ∃ c ∈ pre, (Productive g new qi c ∨ c ∈ new)))
        (tstep g new qi fuel) (succs g qi node) (b := (false, st))
        (by
          rintro pre c acc hc ⟨hi, hsub, hdom, hflag⟩
          have hedge := mem_succs.mp hc
          obtain ⟨o, ho, hro⟩ := hnode
          obtain ⟨h1, h2, h3⟩ := ih c acc.2 (shallow_succ hsh (edge_true_of_edge hedge))
            ⟨o, ho, reachQ_step hro hedge⟩ hi
          refine ⟨h1, fun e he => h2 e (hsub e he), ?_, ?_⟩
          · intro c' hc'
            rcases List.mem_append.mp hc' with hc' | hc'
            · obtain ⟨b, hb⟩ := hdom c' hc'
              exact ⟨b, h2 _ hb⟩
            · rw [List.mem_singleton.mp hc']
              exact ⟨_, h3⟩
          · simp only [tstep, Bool.or_eq_true, hflag, h1.correct _ h3, List.contains_eq_mem, decide_eq_true_eq,
              List.mem_append, List.mem_singleton, or_and_right, exists_or, exists_eq_left])
        ⟨hinv, fun _ h => h, by simp, by simp⟩
      generalize (succs g qi node).foldl (tstep g new qi fuel) (false, st) = res at l1 l2 l3 l4
      have hres : res.1 = true ↔ Productive g new qi node := by rw [l4, productive_iff]
      refine ⟨⟨List.forall_mem_cons.mpr ⟨hres, l1.correct⟩, List.forall_mem_cons.mpr ⟨hnode, l1.fromOld⟩, ?_, ?_⟩,
        fun e he => List.mem_cons_of_mem _ (l2 e he), List.mem_cons_self⟩
      · intro e he c hc
        obtain ⟨b, hb⟩ := (List.forall_mem_cons.mpr ⟨l3, l1.closed⟩ : ∀ e ∈ (node, res.1) :: res.2.reaching, _) e he c hc
        exact ⟨b, List.mem_cons_of_mem _ hb⟩
      · intro n
        cases hr : res.1 <;> simp [hr, l1.inter_iff n]

/-- **`__findIntermediateNodes`** (when `old` is no superset of `new`): exactly the nodes reachable from
`old` from which a `new` node is reachable -/
theorem findIntermediateNodes_spec {g : Graph} (hwf : g.WF) (hac : g.Acyclic) (old new : List Node) (qi : Bool)
    (hsup : superset old new = false) (y : Node) :
    y ∈ findIntermediateNodes g old new qi ↔ (∃ o ∈ old, ReachQ g qi o y) ∧ Productive g new qi y := by
  unfold findIntermediateNodes
  simp only [hsup, Bool.false_eq_true, if_false]
  -- after the loop over `old` the table contains `old` and is closed under successors
  obtain ⟨hinv, hdom⟩ := foldl_inv
    (fun pre (s : TState) => TInv g old new qi s ∧ ∀ o ∈ pre, ∃ b, (o, b) ∈ s.reaching)
    (fun st n => (traverse g new qi (g.size + 1) n st).2) old (b := { reaching := [], inter := [] })
    (by
      rintro pre o s ho ⟨hi, hdom⟩
      obtain ⟨h1, h2, h3⟩ := traverse_spec g old new qi (g.size + 1) o s (shallow_of_acyclic hwf hac o)
        ⟨o, ho, Or.inl rfl⟩ hi
      refine ⟨h1, fun o' ho' => ?_⟩
      rcases List.mem_append.mp ho' with ho' | ho'
      · obtain ⟨b, hb⟩ := hdom o' ho'
        exact ⟨b, h2 _ hb⟩
      · rw [List.mem_singleton.mp ho']
        exact ⟨_, h3⟩)
    ⟨⟨by simp, by simp, by simp, by simp⟩, by simp⟩
  generalize old.foldl (fun st n => (traverse g new qi (g.size + 1) n st).2) { reaching := [], inter := [] } = fin
    at hinv hdom
  constructor
  · intro hy
    have hmem := (hinv.inter_iff y).mp hy
    exact ⟨hinv.fromOld _ hmem, (hinv.correct _ hmem).mp rfl⟩
  · rintro ⟨⟨o, ho, hr⟩, hprod⟩
    obtain ⟨b, hb⟩ : ∃ b, (y, b) ∈ fin.reaching :=
      hr.elim (fun h => h ▸ hdom o ho) (transGen_closed (S := fun y => ∃ b, (y, b) ∈ fin.reaching)
        (fun _ c ⟨_, hb⟩ he => hinv.closed _ hb c (mem_succs.mpr he)) (hdom o ho))
    obtain rfl : b = true := (hinv.correct _ hb).mpr hprod
    exact (hinv.inter_iff y).mpr hb

/-- together with the new nodes the intermediate nodes connect every new node to an old one -/
theorem intermediate_conn {g : Graph} (hwf : g.WF) (hac : g.Acyclic) (old ns : List Node) (qi : Bool)
    (hns : ∀ t ∈ ns, ∃ a ∈ old, ReachQ g qi a t) :
    ∀ y ∈ union (findIntermediateNodes g old ns qi) ns,
      ∃ o ∈ old, ∃ s, PathWithin g (union (findIntermediateNodes g old ns qi) ns) o s y := by
  intro y hy
  cases hsup : superset old ns with
  | true =>
    have hyn : y ∈ ns := by simpa [findIntermediateNodes, hsup] using hy
    exact ⟨y, superset_iff.mp hsup y hyn, [], rfl⟩
  | false =>
    have spec := findIntermediateNodes_spec hwf hac old ns qi hsup
    -- `y` lies between some `a ∈ old` and some `t ∈ ns`, and so do the nodes between `a` and `y`: all are marked
    obtain ⟨a, ha, t, ht, hay, hyt⟩ : ∃ a ∈ old, ∃ t ∈ ns, ReachQ g qi a y ∧ ReachQ g qi y t := by
      rcases mem_union.mp hy with hyx | hyn
      · obtain ⟨⟨o, ho, hr⟩, t, ht, hyt⟩ := (spec y).mp hyx
        exact ⟨o, ho, t, ht, hr, Or.inr hyt⟩
      · obtain ⟨a, ha, hr⟩ := hns y hyn
        exact ⟨a, ha, y, hyn, hr, Or.inl rfl⟩
    rcases hay with rfl | hay
    · exact ⟨a, ha, [], rfl⟩
    · obtain ⟨s, hs⟩ := pathWithin_of_transGen (S := union (findIntermediateNodes g old ns qi) ns) hay (by
        intro z haz hzy
        rcases hzy with rfl | hzy
        · exact hy
        · exact mem_union.mpr (Or.inl ((spec z).mpr ⟨⟨a, ha, Or.inr haz⟩, t, ht,
            hyt.elim (fun h => h ▸ hzy) hzy.trans⟩)))
      exact ⟨a, ha, s, hs⟩

end PathSpec
