import BobModel.Model.ArchiveIndex
/-
C19: declarative notions used in the statements of `Props/C19.lean`, and at the end (`C19Witness`) the data of its
two-artifact witness and of its examples.  No proofs here.
-/
namespace Retention

/-- `a` ranks at least as high as `b` in the chosen order (`asc = false`: newest/greatest first);
an artifact that lacks the sort field ranks last -/
def notWorse (asc : Bool) (a b : Option Str) : Bool :=
  match a, b with
  | _, none => true
  | none, some _ => false
  | some x, some y => if asc then strLe x y else strLe y x

/-- the value of the sort field of an artifact (`none`: the field is missing) -/
def keyOf (e : Expr) (data : Val) : Option Str :=
  match evalRef e.sortBy data with
  | .ok k => k
  | .error _ => none

/-- the artifact is selected by the predicate of the expression -/
def selects (e : Expr) (data : Val) : Bool :=
  match evalBool e.pred data with
  | .ok true => true
  | _ => false

/-- the loop of `query` as seen by a single expression -/
def runExpr (e : Expr) : EState → List (Bid × Val) → Except QErr EState
  | st, [] => .ok st
  | st, (b, d) :: rest =>
    match evaluate e st b d with
    | .error x => .error x
    | .ok st' => runExpr e st' rest

/-- `b` is one of `D` or transitively referenced by one of `D` in the `refs` table -/
inductive Reach (refs : List (Bid × Bid)) (D : List Bid) : Bid → Prop
  | base {b : Bid} : b ∈ D → Reach refs D b
  | step {a b : Bid} : Reach refs D a → (a, b) ∈ refs → Reach refs D b

end Retention

namespace ArchiveIndex
open Retention

/-- what a fresh look at the archive yields for a file: its row -/
def rowOfFile (f : FileEnt) : Option Row := f.audit.map fun a => ⟨f.bid, f.stat, a.vars⟩

/-- `StatChanges`: a pair (build id, stat value) always denotes the same artifact content -/
def FilesOk (C : Bid → Stat → Option AuditInfo) (files : List FileEnt) : Prop :=
  (files.map fun f => f.bid).Nodup ∧ ∀ f ∈ files, f.audit = C f.bid f.stat

/-- the index only holds what was read from artifacts: one row per build id, row and references
are those of the content that the row's stat value denotes, no references without a row -/
structure Sound (C : Bid → Stat → Option AuditInfo) (idx : Index) : Prop where
  distinct : (idx.rows.map fun r => r.bid).Nodup
  rows : ∀ r ∈ idx.rows, ∃ a, C r.bid r.stat = some a ∧ r.vars = a.vars ∧ ∀ x, (r.bid, x) ∈ idx.refs ↔ x ∈ a.refs
  owned : ∀ p ∈ idx.refs, ∃ r ∈ idx.rows, r.bid = p.1

/-- two indexes that no command can tell apart: same enumeration of rows, same set of references -/
def IndexEq (i j : Index) : Prop :=
  sortedRows i.rows = sortedRows j.rows ∧ ∀ p, p ∈ i.refs ↔ p ∈ j.refs

/-- the file is up to date in the index: its row is what a fresh read yields -/
def UpToDate (f : FileEnt) (idx : Index) : Prop :=
  match f.audit with
  | some a => (⟨f.bid, f.stat, a.vars⟩ : Row) ∈ idx.rows
  | none => ∀ r ∈ idx.rows, r.bid ≠ f.bid

/-- the index holds exactly what a fresh look at the files yields -/
structure Normal (files : List FileEnt) (idx : Index) : Prop where
  rows : ∀ r, r ∈ idx.rows ↔ ∃ f ∈ files, rowOfFile f = some r
  refs : ∀ p, p ∈ idx.refs ↔ ∃ f ∈ files, ∃ a, f.audit = some a ∧ p.1 = f.bid ∧ p.2 ∈ a.refs
  distinct : (idx.rows.map fun r => r.bid).Nodup

/-- the sub-commands without `-n` (every command scans first) -/
inductive Cmd where
  | scan
  | find (es : List Expr)
  | clean (dryRun : Bool) (es : List Expr)

def runCmd (repaired : Bool) (c : Cmd) (w : World) : World × Outcome :=
  match c with
  | .scan => (scanCmd repaired w, .ok [])
  | .find es => findCmd repaired false es w
  | .clean dry es => cleanCmd repaired false dry es w

/-- a history: before every command the environment presents an arbitrary archive content (artifacts
added, removed, replaced since the last command); the index is carried from command to command.
The result is what every command printed / reported and which artifact files it left. -/
def runHistory (repaired : Bool) : Index → List (List FileEnt × Cmd) → List (List FileEnt × Outcome)
  | _, [] => []
  | idx, (files, c) :: rest =>
    (((runCmd repaired c ⟨files, idx⟩).1.files, (runCmd repaired c ⟨files, idx⟩).2)) ::
      runHistory repaired (runCmd repaired c ⟨files, idx⟩).1.idx rest

end ArchiveIndex

/-! the two-artifact witness of finding F-C19-1 (used by the examples of `Props/C19.lean`) -/
namespace C19Witness
open Retention ArchiveIndex

def str (s : String) : Str := s.toList

def varsOf (package date : String) : Val :=
  .map [(str "meta", .map [(str "package", .str (str package))]), (str "build", .map [(str "date", .str (str date))])]

def fileA : FileEnt := { bid := str "aa", stat := str "s1", audit := some ⟨varsOf "x" "2020", []⟩ }
def fileB : FileEnt := { bid := str "0b", stat := str "s2", audit := some ⟨varsOf "x" "2021", []⟩ }

/-- `meta.package == "x" LIMIT 1` -/
def exprX1 : Expr :=
  { pred := .cmp .eq (.ref [str "meta", str "package"]) (.lit (str "x")), limit := some 1,
    sortBy := [str "build", str "date"], asc := false }

/-- the index that the scanner itself built when the archive still held both artifacts -/
def warmIndex : Index := scanCurrent Index.empty [fileA, fileB]

/-- a stat function under which the witness files are legitimate (`FilesOk`) -/
def witnessC : Bid → Stat → Option AuditInfo := fun b s =>
  if b = str "aa" ∧ s = str "s1" then fileA.audit else if b = str "0b" ∧ s = str "s2" then fileB.audit else none

end C19Witness
