import BobModel.Proofs.C02Bytes
import BobModel.Proofs.C02Sort
/-
The recipe part of the digest is an injective encoding of `SemRecipe`, the host part is injective once the
positions of the host slices are known (`HostFramed`); equal two-part digests have equal parts unless `H` collides.
-/
namespace Digest

instance (s : Str) : Decidable (lenOk s) := inferInstanceAs (Decidable (_ < _))

/-- concrete descriptions are checked by evaluation -/
instance (d : StepDesc) : Decidable (WF d) :=
  decidable_of_iff
    (lenOk (d.script.getD []) ∧ d.tools.length < 2 ^ 32 ∧
      (∀ t ∈ d.tools, lenOk t.path ∧ t.libs.length < 2 ^ 32 ∧ (∀ l ∈ t.libs, lenOk l) ∧ t.prov.length ≥ 20) ∧
      d.env.length < 2 ^ 32 ∧ (∀ kv ∈ d.env, lenOk kv.1 ∧ lenOk kv.2) ∧
      d.args.length < 2 ^ 32 ∧ ∀ a ∈ d.args, a.length ≥ 20)
    ⟨fun h => ⟨h.1, h.2.1, h.2.2.1, h.2.2.2.1, h.2.2.2.2.1, h.2.2.2.2.2.1, h.2.2.2.2.2.2⟩,
     fun w => ⟨w.script, w.ntools, w.tools, w.nenv, w.env, w.nargs, w.args⟩⟩

def encSemTool (t : SemTool) : Bytes :=
  t.prov ++ (le4 t.path.length ++ (le4 t.libs.length ++ (utf8 t.path ++ t.libs.flatMap encStr)))

/-- what follows the tool records in the recipe part of a Variant-Id and of a Build-Id alike: the counted
variables and the counted recipe halves of the arguments -/
def encTail (env : List (Str × Str)) (args : List Bytes) : Bytes :=
  le4 env.length ++ (env.flatMap encKV ++ (le4 args.length ++ args.flatMap id))

/-- the recipe part as a function of the meaning only -/
def encOfSem (s : SemRecipe) : Bytes :=
  pad ++ (encStr s.script ++ (le4 s.tools.length ++ (s.tools.flatMap encSemTool ++ encTail s.env s.args)))

def hostOfSem (s : SemHost) : Bytes := s.hostPrefix ++ s.args.flatMap id

theorem encScript_eq (s : Option Str) : encScript s = encStr (s.getD []) := by
  cases s with
  | none => decide
  | some t =>
    cases t with
    | nil => decide
    | cons c cs => rfl

theorem encRecipeG_eq (p : Bytes) (relax : Bool) (d : StepDesc) :
    encRecipeG p relax d = p ++ (pad ++ (encStr (d.script.getD []) ++ (le4 d.tools.length ++
      ((sortBy toolLe d.tools).flatMap (encTool relax) ++ encTail (sortBy kvLe d.env) (d.args.map sliceRecipes))))) := by
  simp only [encRecipeG, encTail, encScript_eq, sortBy_length, List.length_map, List.flatMap_map, id,
    List.append_assoc]

theorem encRecipe_eq_encOfSem (d : StepDesc) : encRecipe d = encOfSem (semRecipe d) := by
  rw [encRecipe, encRecipeG_eq]
  simp only [encOfSem, semRecipe, List.length_map, sortBy_length, List.flatMap_map, List.nil_append]
  congr 5
  funext t
  simp [encTool, encSemTool]

theorem encHost_eq_hostOfSem (d : StepDesc) : encHost d = hostOfSem (semHost d) := by
  simp [encHost, hostOfSem, semHost, List.flatMap]

structure SemWF (s : SemRecipe) : Prop where
  script : lenOk s.script
  ntools : s.tools.length < 2 ^ 32
  tools : ∀ t ∈ s.tools, lenOk t.path ∧ t.libs.length < 2 ^ 32 ∧ (∀ l ∈ t.libs, lenOk l) ∧ t.prov.length = 20
  nenv : s.env.length < 2 ^ 32
  env : ∀ kv ∈ s.env, lenOk kv.1 ∧ lenOk kv.2
  nargs : s.args.length < 2 ^ 32
  args : ∀ a ∈ s.args, a.length = 20

theorem sliceRecipes_length {d : Bytes} (h : d.length ≥ 20) : (sliceRecipes d).length = 20 := by
  simp only [sliceRecipes, List.length_take]
  have : Consts.C02.sliceLen = 20 := rfl
  omega

def ToolOk (t : Tool) : Prop :=
  lenOk t.path ∧ t.libs.length < 2 ^ 32 ∧ (∀ l ∈ t.libs, lenOk l) ∧ t.prov.length ≥ 20

/-- the condition of `SemWF.tools` under a name (the field unfolds to it), as `ToolOk` is that of `WF.tools` -/
def SemToolOk (t : SemTool) : Prop :=
  lenOk t.path ∧ t.libs.length < 2 ^ 32 ∧ (∀ l ∈ t.libs, lenOk l) ∧ t.prov.length = 20

theorem ToolOk.sem {t : Tool} (h : ToolOk t) : SemToolOk ⟨sliceRecipes t.prov, t.path, t.libs⟩ :=
  ⟨h.1, h.2.1, h.2.2.1, sliceRecipes_length h.2.2.2⟩

theorem semWF_of_WF {d : StepDesc} (wf : WF d) : SemWF (semRecipe d) where
  script := wf.script
  ntools := by simp [semRecipe, sortBy_length, wf.ntools]
  tools := by
    intro t ht
    obtain ⟨t0, ht0, rfl⟩ := List.mem_map.mp ht
    exact ToolOk.sem (wf.tools t0 ((mem_sortBy _ _ _).mp ht0))
  nenv := by simp [semRecipe, sortBy_length, wf.nenv]
  env := by
    intro kv h
    exact wf.env kv ((mem_sortBy _ _ _).mp h)
  nargs := by simp [semRecipe, wf.nargs]
  args := by
    intro a ha
    obtain ⟨a0, ha0, rfl⟩ := List.mem_map.mp ha
    exact sliceRecipes_length (wf.args a0 ha0)

theorem encSemTool_pf (t t' : SemTool) (r r' : Bytes) (h1 : SemToolOk t) (h2 : SemToolOk t')
    (h : encSemTool t ++ r = encSemTool t' ++ r') : t = t' ∧ r = r' := by
  obtain ⟨prov, path, libs⟩ := t
  obtain ⟨prov', path', libs'⟩ := t'
  simp only [encSemTool, List.append_assoc] at h
  have ⟨hp, h3⟩ := List.append_inj h (by rw [h1.2.2.2, h2.2.2.2])
  have ⟨hpl, h4⟩ := le4_split h1.1 h2.1 h3
  have ⟨hll, h5⟩ := le4_split h1.2.1 h2.2.1 h4
  have ⟨hpath, h6⟩ := Bytes.utf8_pf hpl h5
  have ⟨hlibs, hr⟩ := encStrs_pf hll h1.2.2.1 h2.2.2.1 h6
  simp only at hp hpath hlibs
  exact ⟨by rw [hp, hpath, hlibs], hr⟩

theorem encTail_inj {s s' : SemRecipe} (w : SemWF s) (w' : SemWF s')
    (h : encTail s.env s.args = encTail s'.env s'.args) : s.env = s'.env ∧ s.args = s'.args := by
  unfold encTail at h
  have ⟨n1, h1⟩ := le4_split w.nenv w'.nenv h
  have ⟨e1, h2⟩ := Bytes.flatMap_pf encKV_pf n1 w.env w'.env h1
  have ⟨n2, h3⟩ := le4_split w.nargs w'.nargs h2
  have ⟨e2, _⟩ := Bytes.flatMap_pf (f := id) (P := fun a => a.length = 20)
    (fun ha ha' h => List.append_inj h (ha.trans ha'.symm)) n2 w.args w'.args (r := []) (r' := [])
    (by rw [List.append_nil, List.append_nil]; exact h3)
  exact ⟨e1, e2⟩

theorem encOfSem_inj {s s' : SemRecipe} (w : SemWF s) (w' : SemWF s') (h : encOfSem s = encOfSem s') : s = s' := by
  have h1 := List.append_cancel_left h
  have ⟨e1, h2⟩ := encStr_pf w.script w'.script h1
  have ⟨n1, h3⟩ := le4_split w.ntools w'.ntools h2
  have ⟨e2, h4⟩ := Bytes.flatMap_pf (encSemTool_pf _ _ _ _) n1 w.tools w'.tools h3
  have ⟨e3, e4⟩ := encTail_inj w w' h4
  obtain ⟨script, tools, env, args⟩ := s
  obtain ⟨script', tools', env', args'⟩ := s'
  simp only at e1 e2 e3 e4
  rw [e1, e2, e3, e4]

theorem flatten_inj_of_lengths {l l' : List Bytes} (hl : l.map List.length = l'.map List.length)
    (h : l.flatMap id = l'.flatMap id) : l = l' := by
  induction l generalizing l' with
  | nil =>
    cases l' with
    | nil => rfl
    | cons a t => simp at hl
  | cons a t ih =>
    cases l' with
    | nil => simp at hl
    | cons a' t' =>
      simp only [List.map_cons, List.cons.injEq] at hl
      simp only [List.flatMap_cons, id] at h
      have ⟨ha, ht⟩ := List.append_inj h hl.1
      rw [ha, ih hl.2 ht]

theorem hostOfSem_inj {s s' : SemHost} (hp : s.hostPrefix.length = s'.hostPrefix.length)
    (hl : s.args.map List.length = s'.args.map List.length) (h : hostOfSem s = hostOfSem s') : s = s' := by
  obtain ⟨p, a⟩ := s
  obtain ⟨p', a'⟩ := s'
  simp only [hostOfSem] at h
  have ⟨e1, e2⟩ := List.append_inj h hp
  have e3 := flatten_inj_of_lengths hl e2
  simp only at e1 e3
  rw [e1, e3]

theorem semHost_eq_of_framed {d₁ d₂ : StepDesc} (hf : HostFramed d₁ d₂) (h : encHost d₁ = encHost d₂) :
    semHost d₁ = semHost d₂ := by
  rw [encHost_eq_hostOfSem, encHost_eq_hostOfSem] at h
  refine hostOfSem_inj hf.1 ?_ h
  simpa [semHost, List.map_map, Function.comp_def] using hf.2

/-- the two halves cover an id: `sliceLen` and `hostFrom` are both 20 -/
theorem slice_ext {a a' : Bytes} (h1 : sliceRecipes a = sliceRecipes a') (h2 : sliceHost a = sliceHost a') :
    a = a' := by
  rw [← List.take_append_drop 20 a, ← List.take_append_drop 20 a']
  exact congr (congrArg _ h1) h2

theorem arg_eq_of_enc {d : StepDesc} {pre post : List Bytes} {a a' : Bytes}
    (h1 : (pre ++ a :: post).map sliceRecipes = (pre ++ a' :: post).map sliceRecipes)
    (h2 : encHost { d with args := pre ++ a :: post } = encHost { d with args := pre ++ a' :: post }) : a = a' := by
  simp only [List.map_append, List.map_cons] at h1
  simp only [encHost, List.flatMap_append, List.flatMap_cons] at h2
  exact slice_ext (List.cons.inj (List.append_cancel_left h1)).1
    (List.append_cancel_right (List.append_cancel_left (List.append_cancel_left h2)))

def HashLen (H : Bytes → Bytes) : Prop := ∀ b, (H b).length = 20

/-- no collision of `H` on the two inputs that are compared -/
def NoColl (H : Bytes → Bytes) (a b : Bytes) : Prop := H a = H b → a = b

theorem digest_eq_iff {H : Bytes → Bytes} (hl : HashLen H) (r h r' h' : Bytes) :
    digest H r h = digest H r' h' ↔
      H r = H r' ∧ ((h = [] ∧ h' = []) ∨ (h ≠ [] ∧ h' ≠ [] ∧ H h = H h')) := by
  -- one hash value is shorter than two
  have short : ∀ a b c, H a ≠ H b ++ H c := fun a b c e => by
    have := congrArg List.length e
    rw [List.length_append, hl, hl, hl] at this
    cases this
  unfold digest
  by_cases e : h = [] <;> by_cases e' : h' = []
  · simp [e, e']
  · simp [e, e', short]
  · simp [e, e', (short _ _ _).symm]
  · rw [if_neg e, if_neg e']
    constructor
    · intro hh
      have ⟨a, b⟩ := List.append_inj hh (by rw [hl, hl])
      exact ⟨a, Or.inr ⟨e, e', b⟩⟩
    · rintro ⟨a, ⟨x, _⟩ | ⟨_, _, b⟩⟩
      · exact absurd x e
      · rw [a, b]

theorem digest_inj {H : Bytes → Bytes} (hl : HashLen H) {r h r' h' : Bytes}
    (c₁ : NoColl H r r') (c₂ : NoColl H h h') (e : digest H r h = digest H r' h') : r = r' ∧ h = h' := by
  obtain ⟨hr, hh⟩ := (digest_eq_iff hl ..).mp e
  refine ⟨c₁ hr, ?_⟩
  rcases hh with ⟨a, b⟩ | ⟨_, _, c⟩
  · rw [a, b]
  · exact c₂ c

theorem sliceRecipes_digest {H : Bytes → Bytes} (hl : HashLen H) (r h : Bytes) :
    sliceRecipes (digest H r h) = H r := by
  unfold digest sliceRecipes
  have e : Consts.C02.sliceLen = 20 := rfl
  split
  · rw [List.take_of_length_le (by rw [hl r, e]; exact Nat.le_refl _)]
  · exact List.take_left' (by rw [hl r, e])

theorem sliceRecipes_variantId {H : Bytes → Bytes} (hl : HashLen H) (d : StepDesc) :
    sliceRecipes (variantId H d) = H (encRecipe d) :=
  sliceRecipes_digest hl _ _

theorem slice_eq_of_semRecipe_desc {n : Node} {ids ids' : Nat → Bytes}
    (hs : semRecipe (n.desc ids) = semRecipe (n.desc ids')) {k : Nat} (dep : DependsOn n k) :
    sliceRecipes (ids k) = sliceRecipes (ids' k) := by
  rcases dep with ha | ⟨t, ht, rfl⟩
  · have e := congrArg SemRecipe.args hs
    simp only [semRecipe, Node.desc, List.map_map] at e
    exact List.map_inj_left.mp e k ha
  · have e := congrArg SemRecipe.tools hs
    simp only [semRecipe, Node.desc] at e
    -- sorting by name commutes with putting the provider ids in
    rw [sortBy_map (fun a b : NTool => strLe a.name b.name) toolLe _ (fun a b => rfl),
      sortBy_map (fun a b : NTool => strLe a.name b.name) toolLe _ (fun a b => rfl), List.map_map, List.map_map] at e
    exact (SemTool.mk.inj (List.map_inj_left.mp e t ((mem_sortBy _ _ _).mpr ht))).1

end Digest
