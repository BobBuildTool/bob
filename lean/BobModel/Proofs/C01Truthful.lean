import BobModel.Proofs.C01Base
/-
`Truthful` is preserved by every micro-operation prefix of the four cook functions: used by C01
(`cook_preserves_truthful`) and C05 (`truthful_at_every_cut`).  All of them follow the discipline
invalidate – run – record.  Invalidating leaves a state in which nothing is claimed about the step's
workspace `p` (`Unclaimed`, and `Open` once the stored result is no hash either); only in an `Open`
state is the content of `p` changed; the claims are made again when the content they speak of is there.
The postconditions on normal return also say what the function has left recorded for `p` (input
hashes, directory state; `CoRecorded` for a checkout): C01Done turns that into `Settled`.
-/
namespace Builder

variable {E : Env} {dev : Bool} {Γ : Path → List (Dir × Digest)}

attribute [local simp] St.setResult St.forge St.setInputs St.delInputs St.setDir St.setVid St.setDisk St.reset

theorem strip_inputHashes (st : St) (i : Info) (ds : List Step) :
    strip (inputHashes st i ds) = strip (resultsOf st ds) := by
  unfold inputHashes
  cases i.fp <;> simp [strip, isFp]

theorem contents_of_hashes (hinj : Function.Injective E.H) {st : St} (h : Truthful E dev Γ st)
    (ds : List Step) (cs : List Content) (heq : strip (resultsOf st ds) = hashes E cs) :
    cs = contentsOf st ds := by
  induction ds generalizing cs with
  | nil =>
    simp [resultsOf, strip, hashes] at heq
    simp [contentsOf, heq]
  | cons d ds ih =>
    have hl := h d.path
    simp only [resultsOf, List.map_cons] at heq
    -- the first result is a hash: a fingerprint is never stored, anything else is the hash of no content
    obtain ⟨hh, hr⟩ : ∃ hh, st.results d.path = some (.hash hh) := by
      rcases hr : st.results d.path with _ | (hh | t | q)
      · rw [hr] at heq; cases cs <;> simp [strip, isFp, hashes] at heq
      · exact ⟨hh, rfl⟩
      · rw [hr] at heq; cases cs <;> simp [strip, isFp, hashes] at heq
      · exact absurd hr (hl.nofp q)
    rw [hr] at heq
    obtain ⟨c0, hd, hc0⟩ := hl.res hh hr
    cases cs with
    | nil => simp [strip, isFp, hashes] at heq
    | cons c cs' =>
      simp only [strip, isFp, hashes, List.filter_cons, Bool.not_false, if_true, List.map_cons,
        List.cons.injEq, Option.some.injEq, RH.hash.injEq] at heq
      obtain ⟨h1, h2⟩ := heq
      have hc : c = c0 := hinj (by rw [← h1, hc0])
      have := ih cs' h2
      simp [contentsOf, hd, hc, this]

/-- no stored claim about the content of `p` is active -/
def NoClaim (st : St) (p : Path) : Prop :=
  st.inputs p = none ∨ st.dirStates p = none ∨ ∃ scms bo, st.dirStates p = some (.co scms none bo)

/-- with stored inputs, only a checkout state without variant-id key claims nothing -/
theorem NoClaim.elim {st : St} {p : Path} (hc : NoClaim st p) {D : DirState} {hs : Inputs}
    (hd : st.dirStates p = some D) (hi : st.inputs p = some hs) (hD : ∀ s b, D ≠ .co s none b) : False := by
  rcases hc with h | h | ⟨s, b, h⟩
  · rw [hi] at h; cases h
  · rw [hd] at h; cases h
  · rw [hd] at h; cases h; exact hD s b rfl

theorem inputs_none_of_noclaim {st : St} {p : Path} {d : DirState} (hc : NoClaim st p) (hd : st.dirStates p = some d)
    (hnco : ∀ s b, d ≠ .co s none b) : st.inputs p = none := by
  cases hi : st.inputs p with
  | none => rfl
  | some hs => exact (hc.elim hd hi hnco).elim

theorem noclaim_congr {st st' : St} {p : Path} (h1 : st'.inputs p = st.inputs p) (h2 : st'.dirStates p = st.dirStates p)
    (hc : NoClaim st p) : NoClaim st' p := by
  unfold NoClaim
  rw [h1, h2]
  exact hc

theorem loc_noclaim {st : St} {p : Path} (hc : NoClaim st p)
    (hnd : st.disk p = none → st.results p = none ∧ st.inputs p = none)
    (hres : ∀ h, st.results p = some (.hash h) → ∃ c, st.disk p = some c ∧ h = E.H c)
    (hfp : ∀ q, st.results p ≠ some (.fp q))
    (hscm : ∀ scms v bo, st.dirStates p = some (.co scms v bo) → ∀ x ∈ scms, x ∈ Γ p) :
    Loc E dev Γ st p :=
  ⟨hnd, hres, hfp, fun _ _ _ hd hi => (hc.elim hd hi (fun _ _ h => by cases h)).elim,
    fun _ _ hd hi => (hc.elim hd hi (fun _ _ h => by cases h)).elim,
    fun _ _ _ _ _ hd hi => (hc.elim hd hi (fun _ _ h => by cases h)).elim, hscm⟩

/-- `Truthful`, and nothing is claimed about `p`: what invalidating the stored state of `p` establishes -/
structure Unclaimed (E : Env) (dev : Bool) (Γ : Path → List (Dir × Digest)) (p : Path) (st : St) : Prop where
  truthful : Truthful E dev Γ st
  noclaim : NoClaim st p

/-- ... and the stored result is no hash either: in such a state the content of `p` may change arbitrarily -/
structure Open (E : Env) (dev : Bool) (Γ : Path → List (Dir × Digest)) (p : Path) (st : St) : Prop
    extends Unclaimed E dev Γ p st where
  nohash : ¬ isHash (st.results p)

theorem Truthful.delInputs {st : St} (h : Truthful E dev Γ st) (p : Path) : Unclaimed E dev Γ p (st.delInputs p) :=
  have hl := h p
  ⟨truthful_of_agree h (agree_delInputs _ _)
    (loc_no_inputs (upd_same _ _ _) (fun hd => (hl.nodisk hd).1) hl.res hl.nofp hl.scm), Or.inl (upd_same _ _ _)⟩

/-- `resetWorkspaceState` to a directory state that records no SCM directory -/
theorem Truthful.reset {st : St} (h : Truthful E dev Γ st) (p : Path) {d : Option DirState}
    (hd : (coParts d).1 = []) : Open E dev Γ p (st.reset p d) := by
  refine ⟨⟨truthful_of_agree h (agree_reset _ _ _) ?_, Or.inl (upd_same _ _ _)⟩, by simp [isHash]⟩
  refine loc_no_inputs (upd_same _ _ _) (fun _ => upd_same _ _ _) (by simp) (by simp) ?_
  intro scms v bo hq x hx
  rw [show (st.reset p d).dirStates p = d from upd_same _ _ _] at hq
  rw [hq] at hd
  rw [show scms = [] from hd] at hx
  cases hx

theorem Truthful.setVid {st : St} (h : Truthful E dev Γ st) (p : Path) (v : Vid) : Truthful E dev Γ (st.setVid p v) :=
  fun q => loc_congr (st := st) rfl rfl rfl rfl (h q)

theorem Unclaimed.forge {st : St} {p : Path} (h : Unclaimed E dev Γ p st) (hd : ∃ c, st.disk p = some c) :
    Open E dev Γ p (st.forge p) := by
  obtain ⟨c, hd⟩ := hd
  refine ⟨⟨truthful_of_agree h.truthful (agree_forge _ _) ?_, h.noclaim⟩, by simp [isHash]⟩
  refine loc_noclaim h.noclaim ?_ (by simp) (by simp) (h.truthful p).scm
  intro hq
  rw [show (st.forge p).disk p = some c from hd] at hq
  cases hq

theorem Open.setDisk {st : St} {p : Path} (h : Open E dev Γ p st) (c : Content) : Open E dev Γ p (st.setDisk p c) := by
  have hl := h.truthful p
  refine ⟨⟨truthful_of_agree h.truthful (agree_setDisk _ _ _) ?_, h.noclaim⟩, h.nohash⟩
  refine loc_noclaim h.noclaim (by simp) ?_ hl.nofp hl.scm
  -- a result that is no hash claims nothing
  intro hh hq
  exact absurd (show isHash (st.results p) by rw [show st.results p = _ from hq]; trivial) h.nohash

/-- storing the hash of the current content (after a run, or re-hashing in develop mode: "the user
might have compiled the package manually") is sound: build and package claims do not look at the
hash, and the claim of a checkout state with variant-id key, which a hash un-guards, is `hco` -/
theorem Truthful.setResult {st : St} (h : Truthful E dev Γ st) (p : Path) {c : Content} (hd : st.disk p = some c)
    (hco : ∀ scms v bo hs cs, st.dirStates p = some (.co scms (some v) bo) → st.inputs p = some hs →
      strip hs = hashes E cs → cs.length = v.deps.length → ∃ c', st.disk p = some c' ∧ Produced E dev v.sig cs c') :
    Truthful E dev Γ (st.setResult p (.hash (E.H c))) := by
  apply truthful_of_agree h (agree_setResult _ _ _)
  have hl := h p
  constructor
  · intro hq; simp [hd] at hq
  · intro hh hq
    simp at hq
    exact ⟨c, hd, hq.symm⟩
  · intro q; simp
  · intro iv paths hs hdd hi
    exact ⟨by simp [isHash], (hl.bld iv paths hs hdd hi).2⟩
  · intro v hs hdd hi
    exact ⟨by simp [isHash], (hl.pkg v hs hdd hi).2⟩
  · intro scms v bo hs cs hdd hi hs' hlen _
    exact hco scms v bo hs cs hdd hi hs' hlen
  · exact hl.scm

theorem Unclaimed.setResult {st : St} {p : Path} (h : Unclaimed E dev Γ p st) {c : Content} (hd : st.disk p = some c) :
    Truthful E dev Γ (st.setResult p (.hash (E.H c))) :=
  h.truthful.setResult p hd fun _ _ _ _ _ hq hi => (h.noclaim.elim hq hi (fun _ _ e => by cases e)).elim

/-- `_constructDir`: apart from the directory it may create, nothing that the proofs read changes (`attic` is not mentioned) -/
structure CDPost (E : Env) (dev : Bool) (Γ : Path → List (Dir × Digest)) (p : Path) (st : St) (mem : Mem)
    (created : Bool) (r' : Run) : Prop where
  truthful : Truthful E dev Γ r'.st
  mem : r'.mem = mem
  disk : ∃ c, r'.st.disk p = some c
  agree : AgreeOff p st r'.st
  results : r'.st.results = st.results
  inputs : r'.st.inputs = st.inputs
  dirStates : r'.st.dirStates = st.dirStates
  variantIds : r'.st.variantIds = st.variantIds
  clock : r'.st.clock = st.clock
  ifCreated : created = true → st.disk p = none ∧ r'.st.disk p = some emptyC
  ifExisted : created = false → r'.st = st

theorem constructDir_spec (p : Path) (r : Run) (h : Truthful E dev Γ r.st) :
    wp (constructDir p) (fun created r' => CDPost E dev Γ p r.st r.mem created r')
      (fun r' => Truthful E dev Γ r'.st) r := by
  unfold constructDir
  simp only [wp_bind, wp_getSt]
  cases hd : r.st.disk p with
  | none =>
    simp only [Option.isNone_none, if_true, wp_bind, wp_pure]
    -- without a directory nothing is claimed
    obtain ⟨hr, hi⟩ := (h p).nodisk hd
    have o : Open E dev Γ p r.st := ⟨⟨h, Or.inl hi⟩, by rw [hr]; exact id⟩
    refine wp_prim_intro h fun k l => ?_
    exact { truthful := (o.setDisk emptyC).truthful, mem := rfl, disk := ⟨emptyC, upd_same _ _ _⟩,
            agree := agree_setDisk _ _ _, results := rfl, inputs := rfl, dirStates := rfl, variantIds := rfl,
            clock := rfl, ifCreated := fun _ => ⟨hd, upd_same _ _ _⟩, ifExisted := nofun }
  | some c =>
    simp only [Option.isNone_some, Bool.false_eq_true, if_false, wp_pure]
    exact { truthful := h, mem := rfl, disk := ⟨c, hd⟩, agree := AgreeOff.refl _ _, results := rfl, inputs := rfl,
            dirStates := rfl, variantIds := rfl, clock := rfl, ifCreated := nofun, ifExisted := fun _ => rfl }

/-- the script runs in an `Open` workspace; a kill leaves junk, a failure the partial output -/
theorem runScript_spec (i : Info) (clean : Bool) (ins : List Content) (r : Run) (h : Open E dev Γ i.path r.st) :
    wp (runScript E i clean ins)
      (fun _ r' => ∃ c, E.sem i.sig i.world (if clean then emptyC else (r.st.disk i.path).getD emptyC) ins = .ok c ∧
        r'.st = (r.st.setDisk i.path E.junk).setDisk i.path c ∧ r'.mem = r.mem)
      (fun r' => Truthful E dev Γ r'.st) r := by
  unfold runScript
  simp only [wp_bind, wp_getSt]
  refine wp_prim_intro h.truthful fun k l => ?_
  have hj := h.setDisk E.junk
  cases hs : E.sem i.sig i.world (if clean = true then emptyC else (r.st.disk i.path).getD emptyC) ins with
  | ok c => exact wp_prim_intro hj.truthful fun _ _ => ⟨c, rfl, rfl, rfl⟩
  | fail c =>
    simp only [wp_bind]
    exact wp_prim_intro hj.truthful fun _ _ => (wp_abort _ _ _).mpr (hj.setDisk c).truthful

/-- own digest data recorded in a build / package directory state -/
def DSig : DirState → Option Sig
  | .build iv _ => some iv.sig
  | .pkg v => some v.sig
  | .co _ _ _ => none

theorem loc_recorded {st : St} {p : Path} {D : DirState} {sig : Sig} {inH : Inputs} {c : Content}
    (hD : st.dirStates p = some D) (hsig : DSig D = some sig) (hd : st.disk p = some c)
    (hr : st.results p = some (.hash (E.H c))) (hi : st.inputs p = some inH)
    (hcl : ∀ cs, strip inH = hashes E cs → Produced E dev sig cs c) : Loc E dev Γ st p := by
  have claim : ∀ D' sig' hs, st.dirStates p = some D' → DSig D' = some sig' → st.inputs p = some hs →
      isHash (st.results p) ∧ ∀ cs, strip hs = hashes E cs → ∃ c, st.disk p = some c ∧ Produced E dev sig' cs c := by
    intro D' sig' hs hD' hsig' hi'
    rw [hD] at hD'; cases hD'
    rw [hsig] at hsig'; cases hsig'
    rw [hi] at hi'; cases hi'
    exact ⟨by rw [hr]; trivial, fun cs hcs => ⟨c, hd, hcl cs hcs⟩⟩
  constructor
  · intro hq; rw [hd] at hq; cases hq
  · intro hh hq
    rw [hr] at hq; cases hq
    exact ⟨c, hd, rfl⟩
  · intro q hq; rw [hr] at hq; cases hq
  · intro iv paths hs hq; exact claim _ _ hs hq rfl
  · intro v hs hq; exact claim _ _ hs hq rfl
  · intro scms v bo hs cs hq
    rw [hD] at hq; cases hq; cases hsig
  · intro scms v bo hq
    rw [hD] at hq; cases hq; cases hsig

/-- squash the state, run the script, record what it produced: the claim is made last, by the input hashes -/
theorem runRecord_truthful (hinj : Function.Injective E.H) (i : Info) (clean : Bool) (ins : List Step)
    (inH : Inputs) (iv : St → Vid) (r : Run) (h : Truthful E dev Γ r.st)
    (hstrip : strip inH = strip (resultsOf r.st ins))
    (hdisk : ∃ c, r.st.disk i.path = some c)
    (D : DirState) (hD : r.st.dirStates i.path = some D) (hsig : DSig D = some i.sig)
    (hadm : Adm dev i.sig.kind (if clean then emptyC else (r.st.disk i.path).getD emptyC)) :
    wp (runRecord E i clean r.st ins inH iv)
      (fun _ r' => Truthful E dev Γ r'.st ∧ r'.st.inputs i.path = some inH ∧ r'.st.dirStates i.path = some D)
      (fun r' => Truthful E dev Γ r'.st) r := by
  unfold runRecord
  simp only [wp_bind, wp_getSt]
  have u1 := h.delInputs i.path
  refine wp_prim_intro h fun _ _ => ?_
  have o2 := u1.forge hdisk
  refine wp_prim_intro u1.truthful fun k l => ?_
  refine wp_post ?_ (runScript_spec i clean (contentsOf r.st ins) ⟨_, r.mem, k, l⟩ o2)
  rintro _ ⟨st3, _, _, _⟩ ⟨c, hsem, hst, _⟩
  dsimp only at hst
  subst hst
  have o3 := (o2.setDisk E.junk).setDisk c
  rw [show hashOf E _ i.path = .hash (E.H c) by simp [hashOf]]
  refine wp_prim_intro o3.truthful fun _ _ => ?_
  have h4 := o3.toUnclaimed.setResult (c := c) (upd_same _ _ _)
  refine wp_prim_intro h4 fun _ _ => ?_
  refine wp_prim_intro (h4.setVid _ _) fun _ _ => ?_
  -- the recorded input hashes are those of the contents the script has read
  have hprod : ∀ cs, strip inH = hashes E cs → Produced E dev i.sig cs c := fun cs hcs =>
    ⟨i.world, _, hadm, by rw [contents_of_hashes hinj h ins cs (hstrip ▸ hcs)]; exact hsem⟩
  exact ⟨truthful_of_agree (h4.setVid _ _) (agree_setInputs _ _ _)
    (loc_recorded hD hsig (upd_same _ _ _) (upd_same _ _ _) (upd_same _ _ _) hprod), upd_same _ _ _, hD⟩

theorem resultsOf_agree {p : Path} {st st' : St} (ha : AgreeOff p st st') (ds : List Step)
    (hacyc : ∀ d ∈ ds, d.path ≠ p) : resultsOf st' ds = resultsOf st ds := by
  unfold resultsOf
  apply List.map_congr_left
  intro d hd
  exact (ha d.path (hacyc d hd)).1

theorem inputHashes_agree {p : Path} {st st' : St} (ha : AgreeOff p st st') (i : Info) (ds : List Step)
    (hacyc : ∀ d ∈ ds, d.path ≠ p) : inputHashes st' i ds = inputHashes st i ds := by
  unfold inputHashes
  rw [resultsOf_agree ha ds hacyc]

theorem ivid_agree {p : Path} {st st' : St} (ha : AgreeOff p st st') (i : Info) (ds : List Step)
    (hacyc : ∀ d ∈ ds, d.path ≠ p) : ivid st' i ds = ivid st i ds := by
  unfold ivid
  congr 1
  apply List.map_congr_left
  intro d hd
  rw [(ha d.path (hacyc d hd)).2.2.2.2]

theorem cookBuild_truthful (hfix : Consts.C01.buildPruneInvalidatesFirst = true)
    (hinj : Function.Injective E.H) (cfg : Cfg) (hdev : cfg.cleanBuild = false → dev = true)
    (i : Info) (ds : List Step) (hk : i.sig.kind = .build) (hacyc : ∀ d ∈ ds, d.path ≠ i.path)
    (r : Run) (h : Truthful E dev Γ r.st) :
    wp (cookBuild E cfg i ds)
      (fun _ r' => Truthful E dev Γ r'.st ∧ r'.st.inputs i.path = some (inputHashes r.st i ds) ∧
        r'.st.dirStates i.path = some (DirState.build (ivid r.st i ds) (i.execPath :: ds.map fun d => d.info.execPath)))
      (fun r' => Truthful E dev Γ r'.st) r := by
  unfold cookBuild
  simp only [wp_bind, wp_getSt]
  refine wp_post ?_ (constructDir_spec i.path r h)
  intro created r1 hp
  obtain ⟨c1, hc1⟩ := hp.disk
  simp only [hp.dirStates]
  -- first the directory is brought into shape: in `r2` the digest is stored
  refine wp_mono _ (fun _ r2 => Truthful E dev Γ r2.st ∧ AgreeOff i.path r.st r2.st ∧
      (∃ c, r2.st.disk i.path = some c) ∧ r2.st.dirStates i.path =
        some (DirState.build (ivid r.st i ds) (i.execPath :: ds.map fun d => d.info.execPath))) _ _ _ _
    ?_ (fun _ hx => hx) ?_
  · intro _ r2 ⟨h2, ha2, ⟨c2, hc2⟩, hD2⟩
    have hin2 : inputHashes r2.st i ds = inputHashes r.st i ds := inputHashes_agree ha2 i ds hacyc
    rw [wp_ite]
    refine ⟨fun hskip => ?_, fun _ => ?_⟩
    · simp only [Bool.and_eq_true, decide_eq_true_eq] at hskip
      have hinp := hin2 ▸ hskip.2
      cases cfg.cleanBuild with
      | true => exact (wp_whenM_false _ _ _ _).mpr ⟨h2, hinp, hD2⟩
      | false =>
        simp only [Bool.not_false, wp_whenM_true, hashOf, hc2, Option.getD_some]
        -- develop mode rehashes; the claim of a build directory state does not look at the hash
        exact wp_prim_intro h2 fun _ _ =>
          ⟨h2.setResult i.path hc2 fun _ _ _ _ _ hq => (by rw [hD2] at hq; cases hq), hinp, hD2⟩
    · refine wp_post (fun _ _ ⟨h3, hi3, hd3⟩ => ⟨h3, hin2 ▸ hi3, hd3⟩)
        (runRecord_truthful hinj i cfg.cleanBuild ds _ _ r2 h2 (strip_inputHashes _ _ _) ⟨c2, hc2⟩ _ hD2 rfl ?_)
      cases hcb : cfg.cleanBuild with
      | true => exact Or.inl rfl
      | false => exact Or.inr (Or.inr ⟨hk, hdev hcb⟩)
  rw [wp_ite]
  refine ⟨fun _ => ?_, fun hcond => ?_⟩
  · cases created with
    | true =>
      simp only [Bool.not_true, Bool.false_eq_true, if_false, wp_bind, wp_pure]
      refine wp_prim_intro hp.truthful fun _ _ => ?_
      exact ⟨(hp.truthful.reset i.path rfl).truthful, hp.agree.trans (agree_reset _ _ _), ⟨c1, hc1⟩, upd_same _ _ _⟩
    | false =>
      simp only [Bool.not_false, if_true, wp_bind, wp_pure, hfix, wp_whenM_true]
      have o1 := hp.truthful.reset i.path (d := none) rfl
      refine wp_prim_intro hp.truthful fun _ _ => ?_
      have o2 := o1.setDisk emptyC
      refine wp_prim_intro o1.truthful fun _ _ => ?_
      refine wp_prim_intro o2.truthful fun _ _ => ?_
      exact ⟨(o2.truthful.reset i.path rfl).truthful,
        ((hp.agree.trans (agree_reset _ _ _)).trans (agree_setDisk _ _ _)).trans (agree_reset _ _ _),
        ⟨emptyC, upd_same _ _ _⟩, upd_same _ _ _⟩
  · simp only [Bool.or_eq_true, decide_eq_true_eq, not_or, Classical.not_not] at hcond
    exact (wp_pure _ _ _ _).mpr ⟨hp.truthful, hp.agree, ⟨c1, hc1⟩, hp.dirStates ▸ hcond.2⟩

structure PPPost (E : Env) (dev : Bool) (Γ : Path → List (Dir × Digest)) (p : Path) (d : DirState) (st : St)
    (mem : Mem) (r' : Run) : Prop where
  truthful : Truthful E dev Γ r'.st
  mem : r'.mem = mem
  agree : AgreeOff p st r'.st
  /-- afterwards either nothing is on disk, or the stored directory state is the step's variant id -/
  shape : r'.st.disk p = none ∨ r'.st.dirStates p = some d
  dir : r'.st.disk p = none → r'.st.dirStates p = some d

theorem PPPost.dirState {p : Path} {d : DirState} {st : St} {mem : Mem} {r' : Run} (h : PPPost E dev Γ p d st mem r') :
    r'.st.dirStates p = some d :=
  h.shape.elim h.dir id

theorem preparePackage_truthful (hfix : Consts.C01.packagePruneInvalidatesFirst = true)
    (i : Info) (ds : List Step) (r : Run) (h : Truthful E dev Γ r.st) :
    wp (preparePackage i ds)
      (fun _ r' => PPPost E dev Γ i.path (DirState.pkg (.mk i.sig (vids ds))) r.st r.mem r')
      (fun r' => Truthful E dev Γ r'.st) r := by
  unfold preparePackage
  simp only [wp_bind, wp_getSt]
  -- the final `resetWorkspaceState`, when the workspace is not there or has been pruned
  have fresh : ∀ {st1 : St} {k : Nat} {l : List Op}, Truthful E dev Γ st1 → AgreeOff i.path r.st st1 →
      PPPost E dev Γ i.path (DirState.pkg (.mk i.sig (vids ds))) r.st r.mem
        { st := st1.reset i.path (some (DirState.pkg (.mk i.sig (vids ds)))), mem := r.mem, fuel := k, log := l } :=
    fun h1 a1 => ⟨(h1.reset i.path rfl).truthful, rfl, a1.trans (agree_reset _ _ _), Or.inr (upd_same _ _ _),
      fun _ => upd_same _ _ _⟩
  cases hd : r.st.disk i.path with
  | none =>
    simp only [Option.isSome_none, Bool.false_and, Bool.false_eq_true, if_false, wp_pure, Bool.not_false, wp_whenM_true]
    exact wp_prim_intro h fun _ _ => fresh h (AgreeOff.refl _ _)
  | some c =>
    simp only [Option.isSome_some, Bool.true_and]
    split
    · simp only [wp_bind, wp_pure, hfix, wp_whenM_true, Bool.not_false]
      have o1 := h.reset i.path (d := none) rfl
      refine wp_prim_intro h fun _ _ => ?_
      have o2 := o1.setDisk emptyC
      refine wp_prim_intro o1.truthful fun _ _ => ?_
      exact wp_prim_intro o2.truthful fun _ _ => fresh o2.truthful ((agree_reset _ _ _).trans (agree_setDisk _ _ _))
    · rename_i hcond
      simp only [wp_pure, Bool.not_true, wp_whenM_false]
      have hq : r.st.dirStates i.path = some (DirState.pkg (.mk i.sig (vids ds))) := by simpa using hcond
      exact { truthful := h, mem := rfl, agree := AgreeOff.refl _ _, shape := Or.inr hq, dir := fun _ => hq }

theorem cookPackage_truthful (hinj : Function.Injective E.H) (cfg : Cfg) (i : Info) (pre ds : List Step) (r : Run)
    (h : Truthful E dev Γ r.st)
    (hD : r.st.dirStates i.path = some (DirState.pkg (.mk i.sig (vids ds)))) :
    wp (cookPackage E cfg i pre ds)
      (fun _ r' => Truthful E dev Γ r'.st ∧ r'.st.inputs i.path = some (inputHashes r.st i (pre ++ ds)) ∧
        r'.st.dirStates i.path = some (DirState.pkg (.mk i.sig (vids ds))))
      (fun r' => Truthful E dev Γ r'.st) r := by
  unfold cookPackage
  simp only [wp_bind, wp_getSt]
  refine wp_post ?_ (constructDir_spec i.path r h)
  intro created r1 hp
  have hD1 : r1.st.dirStates i.path = some (DirState.pkg (.mk i.sig (vids ds))) := by rw [hp.dirStates]; exact hD
  have hin1 : inputHashes r1.st i (pre ++ ds) = inputHashes r.st i (pre ++ ds) := by
    unfold inputHashes resultsOf; rw [hp.results]
  rw [wp_ite]
  refine ⟨fun hskip => ?_, fun _ => ?_⟩
  · simp only [Bool.and_eq_true, decide_eq_true_eq] at hskip
    exact (wp_pure _ _ _ _).mpr ⟨hp.truthful, hin1 ▸ hskip.2, hD1⟩
  · exact wp_post (fun _ _ ⟨h3, hi3, hd3⟩ => ⟨h3, hin1 ▸ hi3, hd3⟩)
      (runRecord_truthful hinj i true (pre ++ ds) _ _ r1 hp.truthful (strip_inputHashes _ _ _) hp.disk _ hD1 rfl
        (Or.inl rfl))

/-- the SCM layout of a path assigns one digest per directory -/
def FunScm (l : List (Dir × Digest)) : Prop := ∀ d g g', (d, g) ∈ l → (d, g') ∈ l → g = g'

theorem lookupScm_of_mem {l : List (Dir × Digest)} (hf : FunScm l) {d : Dir} {g : Digest} (hm : (d, g) ∈ l) :
    lookupScm l d = some g := by
  induction l with
  | nil => cases hm
  | cons x rest ih =>
    obtain ⟨d', g'⟩ := x
    simp only [lookupScm]
    by_cases hd : d' = d
    · subst hd
      simp only [if_true]
      have := hf d' g' g (by simp) hm
      rw [this]
    · simp only [hd, if_false]
      apply ih
      · intro a b c h1 h2; exact hf a b c (by simp [h1]) (by simp [h2])
      · rcases List.mem_cons.mp hm with h | h
        · cases h; exact absurd rfl hd
        · exact h

/-- when every recorded SCM directory still has its digest, nothing is moved to the attic -/
theorem atticLoop_noop (cfg : Cfg) (p : Path) (new : List (Dir × Digest)) (hf : FunScm new) (ov : Option Vid)
    (ob : Option BoState) (old keep : List (Dir × Digest)) (hsub : ∀ x ∈ old, x ∈ new) :
    atticLoop E cfg p new ov ob old keep = pure keep := by
  induction old generalizing keep with
  | nil => simp [atticLoop]
  | cons x rest ih =>
    obtain ⟨d, g⟩ := x
    have hl : lookupScm new d = some g := lookupScm_of_mem hf (hsub (d, g) (by simp))
    simp only [atticLoop, hl, ne_eq, not_true_eq_false, if_false]
    exact ih keep (fun y hy => hsub y (by simp [hy]))

/-- WF conditions of a checkout step the invariant needs; `scms` and `funscm` fix its SCM layout to
`Γ` (see `Loc.scm` for what that leaves out) -/
structure CoWF (Γ : Path → List (Dir × Digest)) (i : Info) (ds : List Step) : Prop where
  scms : i.scms = Γ i.path
  funscm : FunScm (Γ i.path)
  /-- a checkout without script (SCMs only) has no dependencies -/
  noscript : i.hasScript = false → ds = []

theorem contentsOf_setDir (st : St) (p : Path) (d : DirState) (ds : List Step) :
    contentsOf (st.setDir p d) ds = contentsOf st ds :=
  rfl

/-- the run branch of `_cookCheckoutStep`, started in `st` with input hashes `inH`; `oh` is the
`oldCheckoutHash` it returns.  `claimW`, `dirFull` and `vid` are what `CoRecorded` keeps for an
indeterministic checkout. -/
structure CRPost (E : Env) (dev : Bool) (Γ : Path → List (Dir × Digest)) (i : Info) (ds : List Step) (inH : Inputs)
    (st : St) (mem : Mem) (oh : Option RH) (r' : Run) : Prop where
  truthful : Truthful E dev Γ r'.st
  mem : r'.mem = mem
  agree : AgreeOff i.path st r'.st
  disk : ∃ c, r'.st.disk i.path = some c
  dir : ∃ bo, r'.st.dirStates i.path = some (.co i.scms (some (Vid.mk i.sig (vids ds))) bo)
  inputs : r'.st.inputs i.path = some inH
  ohNotHash : ¬ isHash oh
  claim : ∀ cs, strip inH = hashes E cs → ∃ c, r'.st.disk i.path = some c ∧ Produced E dev i.sig cs c
  /-- the script ran in this invocation, i.e. with the current external world -/
  claimW : ∀ cs, strip inH = hashes E cs → ∃ c old, r'.st.disk i.path = some c ∧ E.sem i.sig i.world old cs = .ok c
  dirFull : r'.st.dirStates i.path =
    some (.co i.scms (some (Vid.mk i.sig (vids ds))) (some { loc := i.boLoc, upd := i.boUpd, ins := inH }))
  vid : r'.st.variantIds i.path = some (ivid r'.st i ds)

theorem vids_length (ds : List Step) : (vids ds).length = ds.length := by
  induction ds with
  | nil => simp [vids]
  | cons d ds ih => simp [vids, ih]

theorem checkoutRun_truthful (hinj : Function.Injective E.H) (cfg : Cfg) (i : Info) (ds : List Step)
    (hwf : CoWF Γ i ds) (hk : i.sig.kind = .checkout) (hacyc : ∀ d ∈ ds, d.path ≠ i.path) (old : OldCo)
    (oldHash : Option RH)
    (r : Run) (h : Truthful E dev Γ r.st) (hold : ∀ x ∈ old.1, x ∈ Γ i.path)
    (hdisk : ∃ c, r.st.disk i.path = some c) (hoh : oldHash = r.st.results i.path) :
    wp (checkoutRun E cfg i ds old oldHash (resultsOf r.st ds))
      (fun oh r' => CRPost E dev Γ i ds (resultsOf r.st ds) r.st r.mem oh r')
      (fun r' => Truthful E dev Γ r'.st) r := by
  unfold checkoutRun
  obtain ⟨c0, hc0⟩ := hdisk
  have hl := h i.path
  simp only [wp_bind, wp_getSt]
  rw [atticLoop_noop cfg i.path i.scms (by rw [hwf.scms]; exact hwf.funscm) old.2.1 old.2.2 old.1 old.1
    (by rw [hwf.scms]; exact hold)]
  rw [wp_pure, wp_ite]
  refine ⟨fun _ => (wp_bind _ _ _ _ _).mpr ((wp_abort _ _ _).mpr h), fun _ => ?_⟩
  · simp only [wp_bind, wp_getSt, wp_pure]
    -- the new SCM state, stored without the variant-id key, claims nothing
    have u1 : Unclaimed E dev Γ i.path (r.st.setDir i.path
        (.co i.scms none (some { loc := i.boLoc, upd := i.boUpd, ins := resultsOf r.st ds }))) := by
      refine ⟨truthful_of_agree h (agree_setDir _ _ _) (loc_noclaim ?nc ?_ hl.res hl.nofp ?_), ?nc⟩
      case nc => exact Or.inr (Or.inr ⟨i.scms, _, upd_same _ _ _⟩)
      · intro hq
        rw [show (r.st.setDir i.path _).disk i.path = some c0 from hc0] at hq
        cases hq
      · intro scms v bo hq
        rw [show (r.st.setDir i.path _).dirStates i.path = _ from upd_same _ _ _] at hq
        cases hq
        exact fun x hx => hwf.scms ▸ hx
    refine wp_prim_intro h fun k1 l1 => ?_
    -- forge or not: in `r4` the workspace is open
    refine wp_mono _ (fun oh r4 => Open E dev Γ i.path r4.st ∧ r4.mem = r.mem ∧ AgreeOff i.path r.st r4.st ∧
        r4.st.disk i.path = some c0 ∧ ¬ isHash oh) _ _ _ _ ?_ (fun _ hx => hx) ?_
    · intro oh r4 ⟨o4, hm4, ha4, hd4, hoh4⟩
      refine wp_post ?_ (runScript_spec i false _ r4 o4)
      rintro _ ⟨st5, m5, _, _⟩ ⟨c, hsem, hst5, hm5⟩
      dsimp only at hst5 hm5
      subst hst5
      simp only [Bool.false_eq_true, if_false, hd4, Option.getD_some, contentsOf_setDir] at hsem
      have o5 := (o4.setDisk E.junk).setDisk c
      have produced : ∀ cs, cs = contentsOf r.st ds → Produced E dev i.sig cs c := fun cs hcs =>
        ⟨i.world, c0, Or.inr (Or.inl hk), hcs ▸ hsem⟩
      let d6 : DirState :=
        .co i.scms (some (Vid.mk i.sig (vids ds))) (some { loc := i.boLoc, upd := i.boUpd, ins := resultsOf r.st ds })
      -- `Loc` for any state with the new directory state, the result of `r4` (no hash), content `c`:
      -- the claim of the variant-id key is guarded by the result, except for a step without inputs
      have locNew : ∀ (s : St) bo, s.dirStates i.path = some (.co i.scms (some (Vid.mk i.sig (vids ds))) bo) →
          s.disk i.path = some c → s.results i.path = r4.st.results i.path → Loc E dev Γ s i.path := by
        intro s bo6 hsd hsc hsr
        constructor
        · intro hq; rw [hsc] at hq; cases hq
        · intro hh hq; rw [hsr] at hq; exact absurd (hq ▸ trivial) o4.nohash
        · intro q; rw [hsr]; exact (o4.truthful i.path).nofp q
        · intro iv paths hs hq; rw [hsd] at hq; cases hq
        · intro v hs hq; rw [hsd] at hq; cases hq
        · intro scms v bo hs cs hq hi hcs hlen hg
          rw [hsd] at hq
          cases hq
          refine ⟨c, hsc, ?_⟩
          rcases hg with hg | rfl
          · rw [hsr] at hg; exact absurd hg o4.nohash
          · -- no inputs at all: the step has no dependencies
            have hds : ds = [] := List.length_eq_zero_iff.mp ((vids_length ds).symm.trans hlen.symm)
            exact produced [] (by rw [hds]; rfl)
        · intro scms v bo hq
          rw [hsd] at hq
          cases hq
          exact fun x hx => hwf.scms ▸ hx
      refine wp_prim_intro o5.truthful fun _ _ => ?_
      have h6 := truthful_of_agree o5.truthful (agree_setDir _ _ d6)
        (locNew _ _ (upd_same _ _ _) (upd_same _ _ _) rfl)
      refine wp_prim_intro h6 fun _ _ => ?_
      have h7 := truthful_of_agree h6 (agree_setInputs _ _ (resultsOf r.st ds))
        (locNew _ _ (upd_same _ _ _) (upd_same _ _ _) rfl)
      refine wp_prim_intro h7 fun _ _ => ?_
      exact { truthful := h7.setVid _ _, mem := hm5.trans hm4,
              agree := ((((ha4.trans (agree_setDisk _ _ _)).trans (agree_setDisk _ _ _)).trans (agree_setDir _ _ _)).trans
                (agree_setInputs _ _ _)).trans (agree_setVid _ _ _),
              disk := ⟨c, upd_same _ _ _⟩, dir := ⟨_, upd_same _ _ _⟩, inputs := upd_same _ _ _, ohNotHash := hoh4,
              claim := fun cs hcs => ⟨c, upd_same _ _ _, produced cs (contents_of_hashes hinj h ds cs hcs)⟩,
              claimW := fun cs hcs => ⟨c, c0, upd_same _ _ _, contents_of_hashes hinj h ds cs hcs ▸ hsem⟩,
              dirFull := upd_same _ _ _,
              vid := by rw [ivid_agree (agree_setVid _ _ _) i ds hacyc]; exact upd_same _ _ _ }
    · cases hres : r.st.results i.path with
      | none =>
        rw [if_neg (by simp [hres]), wp_pure]
        exact ⟨⟨u1, by simp [hres, isHash]⟩, rfl, agree_setDir _ _ _, hc0, by rw [hoh, hres]; exact id⟩
      | some rh =>
        rw [if_pos (by simp [hres]), wp_bind]
        refine wp_prim_intro u1.truthful fun _ _ => (wp_pure _ _ _ _).mpr ?_
        exact ⟨u1.forge ⟨c0, hc0⟩, rfl, (agree_setDir _ _ _).trans (agree_forge _ _), hc0, id⟩

theorem coParts_scm {st : St} {p : Path} (hl : Loc E dev Γ st p) : ∀ x ∈ (coParts (st.dirStates p)).1, x ∈ Γ p := by
  cases hd : st.dirStates p with
  | none => simp [coParts]
  | some d =>
    cases d with
    | co s v b => simpa [coParts] using hl.scm s v b hd
    | build iv ps => simp [coParts]
    | pkg v => simp [coParts]

theorem coParts_vid {d : Option DirState} {s : List (Dir × Digest)} {v : Vid}
    (h1 : (coParts d).1 = s) (h2 : (coParts d).2.1 = some v) : ∃ bo, d = some (.co s (some v) bo) := by
  cases d with
  | none => simp [coParts] at h2
  | some d =>
    cases d with
    | co s' v' b =>
      simp only [coParts] at h1 h2
      subst h1; subst h2
      exact ⟨b, rfl⟩
    | build iv ps => simp [coParts] at h2
    | pkg v => simp [coParts] at h2

/-- what `_cookCheckoutStep` leaves recorded for the input hashes `inH` it has read -/
structure CoRecorded (E : Env) (i : Info) (ds : List Step) (inH : Inputs) (st' : St) : Prop where
  dir : ∃ bo, st'.dirStates i.path = some (.co i.scms (some (Vid.mk i.sig (vids ds))) bo)
  inputs : st'.inputs i.path = some inH
  result : st'.results i.path = some (hashOf E st' i.path)
  /-- an indeterministic checkout was re-run: the complete directory state and the incremental
  variant id were written in this invocation -/
  nondet : i.det = false →
    st'.dirStates i.path = some (.co i.scms (some (Vid.mk i.sig (vids ds))) (some { loc := i.boLoc, upd := i.boUpd, ins := inH })) ∧
    st'.variantIds i.path = some (ivid st' i ds)
  /-- ... with the current external world -/
  ranNow : i.det = false → ∀ cs, strip inH = hashes E cs →
    ∃ c old, st'.disk i.path = some c ∧ E.sem i.sig i.world old cs = .ok c

/-- the end of `_cookCheckoutStep`, run or not: "we always have to rehash the directory".  The new
hash un-guards the claim of the directory state, which is `hcl`; `oh` is the stored result or, after
a run, the forged one; `hnd` is handed on to `CoRecorded` unchanged. -/
theorem rehash_truthful (cfg : Cfg) {i : Info} {ds : List Step} {inH : Inputs} {c : Content} {bo : Option BoState}
    {oh : Option RH} {r : Run} (h : Truthful E dev Γ r.st) (hc : r.st.disk i.path = some c)
    (hdir : r.st.dirStates i.path = some (.co i.scms (some (.mk i.sig (vids ds))) bo))
    (hin : r.st.inputs i.path = some inH)
    (hcl : ∀ cs, strip inH = hashes E cs → cs.length = (vids ds).length → Produced E dev i.sig cs c)
    (hoh : oh = r.st.results i.path ∨ ¬ isHash oh)
    (hnd : i.det = false → (r.st.dirStates i.path = some (.co i.scms (some (.mk i.sig (vids ds)))
        (some { loc := i.boLoc, upd := i.boUpd, ins := inH })) ∧ r.st.variantIds i.path = some (ivid r.st i ds)) ∧
      ∀ cs, strip inH = hashes E cs → ∃ c old, r.st.disk i.path = some c ∧ E.sem i.sig i.world old cs = .ok c) :
    wp (whenM (decide (some (RH.hash (E.H c)) ≠ oh) || cfg.force)
        (prim (.setResult i.path (.hash (E.H c))) (fun s => s.setResult i.path (.hash (E.H c)))))
      (fun _ r' => Truthful E dev Γ r'.st ∧ CoRecorded E i ds inH r'.st)
      (fun r' => Truthful E dev Γ r'.st) r := by
  rw [wp_whenM]
  constructor
  · intro _
    refine wp_prim_intro h fun _ _ =>
      ⟨?_, ⟨bo, hdir⟩, hin, by simp [hashOf, hc], fun hd => (hnd hd).1, fun hd => (hnd hd).2⟩
    refine h.setResult i.path hc fun scms v bo' hs cs hq hi hcs hlen => ?_
    rw [hdir] at hq; cases hq
    rw [hin] at hi; cases hi
    exact ⟨c, hc, hcl cs hcs hlen⟩
  · intro hb
    simp only [Bool.or_eq_false_iff, decide_eq_false_iff_not, ne_eq, Classical.not_not] at hb
    have hres : r.st.results i.path = some (.hash (E.H c)) := by
      rcases hoh with rfl | hn
      · exact hb.1.symm
      · exact absurd (hb.1 ▸ trivial) hn
    exact ⟨h, ⟨bo, hdir⟩, hin, by simp [hashOf, hc, hres], fun hd => (hnd hd).1, fun hd => (hnd hd).2⟩

theorem cookCheckout_truthful (hinj : Function.Injective E.H) (cfg : Cfg) (i : Info) (ds : List Step)
    (hwf : CoWF Γ i ds) (hk : i.sig.kind = .checkout) (hacyc : ∀ d ∈ ds, d.path ≠ i.path)
    (r : Run) (h : Truthful E dev Γ r.st) :
    wp (cookCheckout E cfg i ds)
      (fun _ r' => Truthful E dev Γ r'.st ∧ CoRecorded E i ds (resultsOf r.st ds) r'.st)
      (fun r' => Truthful E dev Γ r'.st) r := by
  unfold cookCheckout
  simp only [wp_bind, wp_getSt]
  refine wp_post ?_ (constructDir_spec i.path r h)
  intro created r1 hp
  obtain ⟨c1, hc1⟩ := hp.disk
  -- after a run of the checkout, started in `st0`: the forged result differs from every hash
  have finish : ∀ (oh : Option RH) (r3 : Run) (st0 : St) (mem0 : Mem),
      CRPost E dev Γ i ds (resultsOf st0 ds) st0 mem0 oh r3 → AgreeOff i.path r.st st0 →
      wp (whenM (decide (some (hashOf E r3.st i.path) ≠ oh) || cfg.force)
            (prim (.setResult i.path (hashOf E r3.st i.path)) (fun s => s.setResult i.path (hashOf E r3.st i.path))))
        (fun _ r' => Truthful E dev Γ r'.st ∧ CoRecorded E i ds (resultsOf r.st ds) r'.st)
        (fun r' => Truthful E dev Γ r'.st) r3 := by
    intro oh r3 st0 mem0 hp3 ha0
    rw [← resultsOf_agree ha0 ds hacyc]
    obtain ⟨c3, hc3⟩ := hp3.disk
    obtain ⟨bo3, hd3⟩ := hp3.dir
    simp only [hashOf, hc3, Option.getD_some]
    refine rehash_truthful cfg hp3.truthful hc3 hd3 hp3.inputs ?_ (Or.inr hp3.ohNotHash)
      fun _ => ⟨⟨hp3.dirFull, hp3.vid⟩, hp3.claimW⟩
    intro cs hcs _
    obtain ⟨c, hdc, hpc⟩ := hp3.claim cs hcs
    rw [hc3] at hdc; cases hdc
    exact hpc
  cases created with
  | true =>
    simp only [if_true, wp_whenM_true]
    refine wp_prim_intro hp.truthful fun k l => ?_
    have hreason : ∀ st inH, checkoutReason E cfg i ds true ([], none, none) st inH = true := fun _ _ => rfl
    simp only [hreason, if_true]
    exact wp_post (fun oh r3 hp3 => finish oh r3 _ _ hp3 (hp.agree.trans (agree_reset _ _ _)))
      (checkoutRun_truthful hinj cfg i ds hwf hk hacyc ([], none, none) _ ⟨_, r1.mem, k, l⟩
        (hp.truthful.reset i.path rfl).truthful nofun ⟨c1, hc1⟩ rfl)
  | false =>
    simp only [Bool.false_eq_true, if_false, wp_whenM_false]
    split
    · -- some reason to run the checkout
      exact wp_post (fun oh r3 hp3 => finish oh r3 _ _ hp3 hp.agree)
        (checkoutRun_truthful hinj cfg i ds hwf hk hacyc _ _ r1 hp.truthful (coParts_scm (hp.truthful i.path))
          ⟨c1, hc1⟩ rfl)
    · -- skipped
      rename_i hreason
      rw [← show r1.st = r.st from hp.ifExisted rfl]
      simp only [checkoutReason, Bool.false_or, Bool.not_eq_true, Bool.or_eq_false_iff, Bool.not_eq_false',
        Bool.and_eq_true, decide_eq_true_eq, decide_eq_false_iff_not, Bool.and_eq_false_imp, ne_eq,
        Classical.not_not] at hreason
      obtain ⟨⟨⟨⟨_, hdet⟩, hs1, hs2⟩, hin⟩, hscr⟩ := hreason
      obtain ⟨bo, hdir⟩ := coParts_vid hs1 hs2
      simp only [wp_pure, hashOf, hc1, Option.getD_some]
      refine rehash_truthful cfg hp.truthful hc1 hdir hin ?_ (Or.inl rfl) fun hnd => absurd hnd (by simp [hdet])
      -- what the stored state claims about the workspace, for the current inputs
      intro cs hcs hlen
      obtain ⟨c, hdc, hpc⟩ := (hp.truthful i.path).co _ _ _ _ cs hdir hin hcs hlen (by
        by_cases hscript : i.hasScript = true
        · exact Or.inl (by rw [hscr hscript]; trivial)
        · -- a checkout without script has no dependencies
          obtain rfl := hwf.noscript (by simpa using hscript)
          cases cs with
          | nil => exact Or.inr rfl
          | cons c cs => simp [resultsOf, strip, hashes] at hcs)
      rw [hc1] at hdc; cases hdc
      exact hpc

end Builder
