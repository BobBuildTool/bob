import BobModel.Proofs.C02Inj
import BobModel.Proofs.C02Scripts
/-
C07: the recipe part of a *Build-Id* (`getDigestCoro(…, platform=tag, relaxTools=True)`) is
an injective encoding of the platform tag, the script, the strongly used tools, the strong variables and the
argument ids - once it is known which tools are used weakly (their names are hashed without a delimiter).
-/
namespace Digest

/-- the name of a weakly used tool (all that `relaxTools` hashes of it) -/
def weakKey (t : Tool) : Option Str := if t.weak then some t.name else none

/-- what the Build-Id hashes of a strongly used tool -/
def strongSem (t : Tool) : Option SemTool :=
  if t.weak then none else some ⟨sliceRecipes t.prov, t.path, t.libs⟩

/-- the same tools (in name order) are used weakly on both sides -/
def ToolsFramed (d₁ d₂ : StepDesc) : Prop :=
  (sortBy toolLe d₁.tools).map weakKey = (sortBy toolLe d₂.tools).map weakKey

theorem encTool_strong (t : Tool) (h : t.weak = false) :
    encTool true t = encSemTool ⟨sliceRecipes t.prov, t.path, t.libs⟩ := by
  simp [encTool, encSemTool, h]

theorem encTool_weak (t : Tool) (h : t.weak = true) : encTool true t = utf8 t.name := by
  simp [encTool, h]

theorem weakKey_cases {a a' : Tool} (h : weakKey a = weakKey a') :
    (a.weak = true ∧ a'.weak = true ∧ a.name = a'.name) ∨ (a.weak = false ∧ a'.weak = false) := by
  unfold weakKey at h
  cases hw : a.weak <;> cases hw' : a'.weak <;> simp only [hw, hw', if_true, Bool.false_eq_true, if_false] at h
  · exact Or.inr ⟨rfl, rfl⟩
  · cases h
  · cases h
  · exact Or.inl ⟨rfl, rfl, Option.some.inj h⟩

theorem tools_relaxed_inj : ∀ (l l' : List Tool) (r r' : Bytes), l.map weakKey = l'.map weakKey →
    (∀ t ∈ l, ToolOk t) → (∀ t ∈ l', ToolOk t) →
    l.flatMap (encTool true) ++ r = l'.flatMap (encTool true) ++ r' →
    l.map strongSem = l'.map strongSem ∧ r = r' := by
  intro l
  induction l with
  | nil =>
    intro l' r r' hk _ _ h
    cases l' with
    | nil => exact ⟨rfl, by simpa using h⟩
    | cons a t => simp at hk
  | cons a t ih =>
    intro l' r r' hk ok ok' h
    cases l' with
    | nil => simp at hk
    | cons a' t' =>
      simp only [List.map_cons, List.cons.injEq] at hk
      obtain ⟨hka, hkt⟩ := hk
      simp only [List.flatMap_cons, List.append_assoc] at h
      have rest := fun h2 => ih t' r r' hkt (fun x hx => ok x (by simp [hx])) (fun x hx => ok' x (by simp [hx])) h2
      rcases weakKey_cases hka with ⟨hw, hw', hn⟩ | ⟨hw, hw'⟩
      · rw [encTool_weak a hw, encTool_weak a' hw', hn] at h
        have ⟨e, er⟩ := rest (List.append_cancel_left h)
        exact ⟨by simp only [List.map_cons, strongSem, hw, hw', if_true, e], er⟩
      · rw [encTool_strong a hw, encTool_strong a' hw'] at h
        have ⟨es, h2⟩ := encSemTool_pf _ _ _ _ (ok a (by simp)).sem (ok' a' (by simp)).sem h
        have ⟨e, er⟩ := rest h2
        exact ⟨by simp only [List.map_cons, strongSem, hw, hw', Bool.false_eq_true, if_false, es, e], er⟩

theorem nul_prefix {p p' r r' : Bytes} (h0 : (0 : UInt8) ∉ p) (h0' : (0 : UInt8) ∉ p')
    (h : p ++ (0 : UInt8) :: r = p' ++ (0 : UInt8) :: r') : p = p' ∧ r = r' := by
  have hd : ∀ (t : Bytes) (x : UInt8), ((0 : UInt8) :: t).head? = some x → ¬ x ≠ 0 :=
    fun _ _ hx => not_not_intro (Option.some.inj hx).symm
  have ⟨e1, e2⟩ := Scripts.span_unique (· ≠ (0 : UInt8)) (fun x hx e => h0 (e ▸ hx)) (fun x hx e => h0' (e ▸ hx))
    (hd r) (hd r') h
  exact ⟨e1, (List.cons.inj e2).2⟩

theorem pad_eq : pad = (0 : UInt8) :: List.replicate 19 0 := by decide

/-- the meaning of the recipe part of a Build-Id -/
structure BidSem where
  script : Str
  /-- tools in name order: `none` for a weakly used tool -/
  tools : List (Option SemTool)
  env : List (Str × Str)
  args : List Bytes
  deriving DecidableEq, Repr

def bidSem (d : StepDesc) : BidSem :=
  { script := d.script.getD [],
    tools := (sortBy toolLe d.tools).map strongSem,
    env := sortBy kvLe d.env,
    args := d.args.map sliceRecipes }

theorem encRecipeG_relaxed_inj (p₁ p₂ : Bytes) (d₁ d₂ : StepDesc) (w₁ : WF d₁) (w₂ : WF d₂)
    (hp₁ : (0 : UInt8) ∉ p₁) (hp₂ : (0 : UInt8) ∉ p₂) (hf : ToolsFramed d₁ d₂)
    (h : encRecipeG p₁ true d₁ = encRecipeG p₂ true d₂) : p₁ = p₂ ∧ bidSem d₁ = bidSem d₂ := by
  rw [encRecipeG_eq, encRecipeG_eq, pad_eq, List.cons_append, List.cons_append] at h
  have ⟨ep, h1⟩ := nul_prefix hp₁ hp₂ h
  have ⟨e1, h2⟩ := encStr_pf w₁.script w₂.script (List.append_cancel_left h1)
  have ⟨_, h3⟩ := le4_split w₁.ntools w₂.ntools h2
  have ⟨e2, h4⟩ := tools_relaxed_inj _ _ _ _ hf (fun t ht => w₁.tools t ((mem_sortBy _ _ _).mp ht))
    (fun t ht => w₂.tools t ((mem_sortBy _ _ _).mp ht)) h3
  have ⟨e3, e4⟩ := encTail_inj (semWF_of_WF w₁) (semWF_of_WF w₂) h4
  exact ⟨ep, by simp only [bidSem, e1, e2]; exact congr (congrArg _ e3) e4⟩

/-- what `relaxTools` hashes of a tool, from its weak key and its strong meaning -/
def encRelaxed : Option Str × Option SemTool → Bytes
  | (some n, _) => utf8 n
  | (none, some s) => encSemTool s
  | (none, none) => []

theorem encTools_relaxed (l : List Tool) :
    l.flatMap (encTool true) = ((l.map weakKey).zip (l.map strongSem)).flatMap encRelaxed := by
  induction l with
  | nil => rfl
  | cons a t ih =>
    rw [List.flatMap_cons, ih]
    cases hw : a.weak
    · simp only [List.map_cons, List.zip_cons_cons, List.flatMap_cons, weakKey, strongSem, hw, encTool_strong a hw,
        Bool.false_eq_true, if_false, encRelaxed]
    · simp only [List.map_cons, List.zip_cons_cons, List.flatMap_cons, weakKey, hw, encTool_weak a hw, if_true, encRelaxed]

theorem encRecipeG_of_sem (p : Bytes) (d₁ d₂ : StepDesc) (hk : ToolsFramed d₁ d₂) (hs : bidSem d₁ = bidSem d₂) :
    encRecipeG p true d₁ = encRecipeG p true d₂ := by
  have e1 := congrArg BidSem.script hs
  have e2 := congrArg BidSem.tools hs
  have e3 := congrArg BidSem.env hs
  have e4 := congrArg BidSem.args hs
  simp only [bidSem] at e1 e2 e3 e4
  have hn : d₁.tools.length = d₂.tools.length := by simpa [sortBy_length] using congrArg List.length e2
  rw [encRecipeG_eq, encRecipeG_eq, e1, hn, encTools_relaxed, encTools_relaxed, hk, e2, e3, e4]

end Digest
