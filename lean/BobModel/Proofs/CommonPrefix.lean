import BobModel.Util.Bytes
/-
Byte codes that can be read off the front of a stream.  All encoders of the models are built from `Bytes.le` (fixed width,
little endian) and from `s.flatMap String.utf8EncodeChar`, to which the models' `utf8` functions unfold by `rfl`; so the
facts below apply to them as they stand.  A code is prefix free (`_pf`) when `enc a ++ r = enc b ++ r'` gives `a = b`
and `r = r'`, which composes field by field.  The regions state the same shape of their own encoders under the suffixes
`_pf`, `_append_inj`, `_split` and `_prefix`.
-/

namespace Bytes

theorem ofNat_inj_of_lt {a b : Nat} (ha : a < 256) (hb : b < 256) (h : UInt8.ofNat a = UInt8.ofNat b) : a = b := by
  rw [← UInt8.toNat_ofNat_of_lt' ha, h, UInt8.toNat_ofNat_of_lt' hb]

theorem le_length (k n : Nat) : (le k n).length = k := by
  induction k generalizing n with
  | zero => rfl
  | succ k ih => rw [le, List.length_cons, ih]

theorem le_inj (k : Nat) {n m : Nat} (hn : n < 256 ^ k) (hm : m < 256 ^ k) (h : le k n = le k m) : n = m := by
  induction k generalizing n m with
  | zero => omega
  | succ k ih =>
    rw [Nat.pow_succ'] at hn hm
    obtain ⟨h0, ht⟩ := List.cons.inj h
    have := ofNat_inj_of_lt (Nat.mod_lt n (by decide)) (Nat.mod_lt m (by decide)) h0
    have := ih (Nat.div_lt_of_lt_mul hn) (Nat.div_lt_of_lt_mul hm) ht
    omega

theorem le_append_inj {k n m : Nat} {r r' : Bytes} (hn : n < 256 ^ k) (hm : m < 256 ^ k)
    (h : le k n ++ r = le k m ++ r') : n = m ∧ r = r' := by
  obtain ⟨h1, h2⟩ := List.append_inj h (by rw [le_length, le_length])
  exact ⟨le_inj k hn hm h1, h2⟩

theorem flatMap_pf {α σ : Type} {f : α → List σ} {P : α → Prop}
    (hf : ∀ {a b r r'}, P a → P b → f a ++ r = f b ++ r' → a = b ∧ r = r') {l1 l2 : List α}
    {r r' : List σ} (hl : l1.length = l2.length) (h1 : ∀ a ∈ l1, P a) (h2 : ∀ a ∈ l2, P a)
    (h : l1.flatMap f ++ r = l2.flatMap f ++ r') : l1 = l2 ∧ r = r' := by
  induction l1 generalizing l2 with
  | nil =>
    cases l2 with
    | nil => exact ⟨rfl, h⟩
    | cons _ _ => cases hl
  | cons a l1 ih =>
    cases l2 with
    | nil => cases hl
    | cons b l2 =>
      obtain ⟨ha, ht1⟩ := List.forall_mem_cons.1 h1
      obtain ⟨hb, ht2⟩ := List.forall_mem_cons.1 h2
      simp only [List.flatMap_cons, List.append_assoc] at h
      obtain ⟨rfl, ht⟩ := hf ha hb h
      obtain ⟨rfl, hr⟩ := ih (Nat.succ.inj hl) ht1 ht2 ht
      exact ⟨rfl, hr⟩

/-- Without a count the sequence is still uniquely decodable when no record is empty. -/
theorem flatMap_inj_of_ne_nil {α σ : Type} {f : α → List σ} {P : α → Prop}
    (hf : ∀ {a b r r'}, P a → P b → f a ++ r = f b ++ r' → a = b ∧ r = r')
    (hne : ∀ a, P a → f a ≠ []) {l1 l2 : List α} (h1 : ∀ a ∈ l1, P a) (h2 : ∀ a ∈ l2, P a)
    (h : l1.flatMap f = l2.flatMap f) : l1 = l2 := by
  induction l1 generalizing l2 with
  | nil =>
    cases l2 with
    | nil => rfl
    | cons b l2 => exact absurd (List.append_eq_nil_iff.1 h.symm).1 (hne b (h2 b List.mem_cons_self))
  | cons a l1 ih =>
    cases l2 with
    | nil => exact absurd (List.append_eq_nil_iff.1 h).1 (hne a (h1 a List.mem_cons_self))
    | cons b l2 =>
      obtain ⟨ha, ht1⟩ := List.forall_mem_cons.1 h1
      obtain ⟨hb, ht2⟩ := List.forall_mem_cons.1 h2
      simp only [List.flatMap_cons] at h
      obtain ⟨rfl, ht⟩ := hf ha hb h
      rw [ih ht1 ht2 ht]

theorem utf8Char_pf {c d : Char} {r r' : Bytes}
    (h : String.utf8EncodeChar c ++ r = String.utf8EncodeChar d ++ r') : c = d ∧ r = r' := by
  -- decoding the first character of either side of `h` gives `c` and gives `d`
  have hc : ((String.utf8EncodeChar c).toByteArray ++ List.toByteArray r).utf8DecodeChar? 0 = some c :=
    ByteArray.utf8DecodeChar?_utf8EncodeChar_append
  rw [← List.toByteArray_append, h, List.toByteArray_append, ByteArray.utf8DecodeChar?_utf8EncodeChar_append] at hc
  cases hc
  exact ⟨rfl, List.append_cancel_left h⟩

theorem utf8_pf {s s' : List Char} {r r' : Bytes} (hl : s.length = s'.length)
    (h : s.flatMap String.utf8EncodeChar ++ r = s'.flatMap String.utf8EncodeChar ++ r') : s = s' ∧ r = r' :=
  flatMap_pf (P := fun _ => True) (fun _ _ => utf8Char_pf) hl (fun _ _ => trivial) (fun _ _ => trivial) h

end Bytes
