import BobModel.Model.PrepareTail
/-
The weak/strong split of `Model/PrepareTail.lean`: what `prune` keeps, and that declarations accumulate over
the stages.
-/
namespace PrepareTail

theorem mem_prune {env : Env} {allowed : List Str} {kv : Str × Str} :
    kv ∈ prune env allowed ↔ kv ∈ env ∧ kv.1 ∈ allowed := by
  simp [prune, List.mem_filter]

theorem prune_setVal (env : Env) (allowed : List Str) (k v : Str) (hk : k ∉ allowed) :
    prune (setVal env k v) allowed = prune env allowed := by
  induction env with
  | nil => rfl
  | cons kv rest ih =>
    simp only [prune, setVal, List.map_cons] at ih ⊢
    by_cases e : kv.1 = k
    · rw [if_pos e, List.filter_cons_of_neg (by simpa using hk), List.filter_cons_of_neg (by simpa [e] using hk), ih]
    · rw [if_neg e, List.filter_cons, List.filter_cons, ih]

theorem mem_stageEnv_env {env : Env} {strong weak : List Str} {kv : Str × Str} :
    kv ∈ (stageEnv env strong weak).env ↔ kv ∈ env ∧ (kv.1 ∈ strong ∨ kv.1 ∈ weak) := by
  unfold stageEnv
  cases weak with
  | nil => simp [mem_prune]
  | cons w ws => simp only [List.isEmpty_cons, Bool.false_eq_true, if_false, mem_prune, List.mem_append]

/-- what is declared for a stage is declared for the later stages -/
def Accum (d : Decl) : Prop :=
  d.coS ⊆ d.buS ∧ d.buS ⊆ d.paS ∧ d.coW ⊆ d.buW ∧ d.buW ⊆ d.paW

theorem accum_initDecl (r : Decl) : Accum (initDecl r) :=
  ⟨List.subset_append_right _ _, List.subset_append_right _ _, List.subset_append_right _ _,
    List.subset_append_right _ _⟩

theorem append_subset_append {a b c d : List Str} (h1 : a ⊆ b) (h2 : c ⊆ d) : a ++ c ⊆ b ++ d :=
  List.append_subset.mpr ⟨List.subset_append_of_subset_left _ h1, List.subset_append_of_subset_right _ h2⟩

theorem accum_inheritDecl {a b : Decl} (ha : Accum a) (hb : Accum b) : Accum (inheritDecl a b) :=
  ⟨append_subset_append ha.1 hb.1, append_subset_append ha.2.1 hb.2.1,
    append_subset_append ha.2.2.1 hb.2.2.1, append_subset_append ha.2.2.2 hb.2.2.2⟩

theorem accum_foldl (l : List Decl) (acc : Decl) (ha : Accum acc) (hl : ∀ d ∈ l, Accum d) :
    Accum (l.foldl inheritDecl acc) := by
  induction l generalizing acc with
  | nil => exact ha
  | cons c cs ih =>
    exact ih _ (accum_inheritDecl ha (hl c (by simp))) (fun d hd => hl d (by simp [hd]))

theorem accum_resolveDecl (self : Decl) (inherit : List Decl) : Accum (resolveDecl self inherit) := by
  refine accum_foldl _ _ (accum_initDecl self) fun d hd => ?_
  obtain ⟨c, _, rfl⟩ := List.mem_map.mp (List.mem_reverse.mp hd)
  exact accum_initDecl c

end PrepareTail
