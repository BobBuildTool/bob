import BobModel.Proofs.C08Member
/-
A whole run of `__extractPackage`: the invariant `RunInv` holds initially and is kept by the
extraction of a checked content member, by writing the audit file and by every rejected member.
At the end, executable checkers for the hypotheses of the confinement theorem on a concrete
(finite) file system, so that the non-vacuity examples and the refutation witnesses can discharge
them by evaluation.
-/
namespace TarExtract

/-- the audit path is a plain, not yet existing name in an existing directory outside `dest`
(`removePath(audit)` has just run and the builder passes `normpath(<dist>/../audit.json.gz)`, the sibling
of the workspace: builder.py `_downloadPackage`) -/
structure AuditOk (dest audit : Path) (cfg : Cfg) (fs0 : FS) : Prop where
  ne : audit ≠ []
  plain : ∀ c ∈ audit, c ≠ dot ∧ c ≠ dotdot
  dirs : ∀ k, k < audit.length → IsDir fs0 (audit.take k)
  missing : fs0.look audit = none
  outside : ¬ Inside dest audit
  fuel : audit.length ≤ cfg.fuel

/-- What holds between the tree before `__extractPackage` (`fs0`) and every later state.  `audit`: once
written, the audit file is a new inode (`fs0.next ≤ i`) under that one name.  The uniqueness is there for
the induction: with it no name inside `dest` refers to the audit inode, so a member step, which leaves alone
the inodes not referenced from inside (`MStep.ino`), cannot alter the file (`RunInv.member`). -/
structure RunInv (dest audit : Path) (fs0 fs : FS) : Prop where
  names : ∀ q, ¬ Inside dest q → q ≠ audit → fs.look q = fs0.look q
  inodes : ∀ q i, ¬ Inside dest q → q ≠ audit → fs0.look q = some (.ref i) → fs.inode i = fs0.inode i
  inv : Inv dest fs
  sep : Sep dest fs
  audit : fs.look audit = none ∨
    ∃ i, fs.look audit = some (.ref i) ∧ fs0.next ≤ i ∧ symTarget fs audit = none ∧ ∀ q, fs.look q = some (.ref i) → q = audit
  next : fs0.next ≤ fs.next

section Run
variable {dest audit : Path} {cfg : Cfg} {fs0 : FS}

theorem RunInv.init (hinv : Inv dest fs0) (hsep : Sep dest fs0) (ha : AuditOk dest audit cfg fs0) :
    RunInv dest audit fs0 fs0 :=
  ⟨fun _ _ _ => rfl, fun _ _ _ _ _ => rfl, hinv, hsep, Or.inl ha.missing, Nat.le_refl _⟩

theorem RunInv.member (ha : AuditOk dest audit cfg fs0) {fs fs' : FS} (h : RunInv dest audit fs0 fs)
    (hm : MStep dest fs fs') (hinv' : Inv dest fs') : RunInv dest audit fs0 fs' := by
  have hout : ∀ q i, ¬ Inside dest q → fs.look q = some (.ref i) → fs'.inode i = fs.inode i :=
    fun q i hq hl => hm.outside_inode h.inv.fresh h.sep q i hq hl
  refine ⟨?_, ?_, hinv', hm.sep h.inv.fresh h.sep, ?_, Nat.le_trans h.next hm.next⟩
  · intro q hq hqa; rw [hm.out q hq, h.names q hq hqa]
  · intro q i hq hqa hl
    have hl' : fs.look q = some (.ref i) := by rw [h.names q hq hqa]; exact hl
    rw [hout q i hq hl', h.inodes q i hq hqa hl]
  · have hla : fs'.look audit = fs.look audit := hm.out audit ha.outside
    rcases h.audit with hn | ⟨i, hl, hi, hs, hu⟩
    · exact Or.inl (by rw [hla, hn])
    · refine Or.inr ⟨i, by rw [hla, hl], hi, ?_, ?_⟩
      · rw [symTarget_congr hla (fun j hj => by rw [hl] at hj; cases hj; exact hout audit i ha.outside hl)]
        exact hs
      · intro q hq
        by_cases hqi : Inside dest q
        · exfalso
          rcases hm.refs q i hqi hq with hn | ⟨p', hp', hl'⟩
          · have := h.inv.fresh audit i hl; omega
          · exact ha.outside (hu p' hl' ▸ hp')
        · exact hu q (by rw [← hm.out q hqi]; exact hq)

theorem RunInv.auditDirs (ha : AuditOk dest audit cfg fs0) {fs : FS} (h : RunInv dest audit fs0 fs)
    {k : Nat} (hk : k < audit.length) : IsDir fs (audit.take k) := by
  obtain ⟨m, hm⟩ := ha.dirs k hk
  refine ⟨m, ?_⟩
  rw [h.names (audit.take k) (fun hin => ha.outside (hin.trans (List.take_prefix _ _))) ?_]
  · exact hm
  · intro he
    have := congrArg List.length he
    rw [List.length_take] at this; omega

theorem walk_audit (ha : AuditOk dest audit cfg fs0) {fs : FS} (h : RunInv dest audit fs0 fs) :
    walk fs true true cfg.fuel [] audit = .ok audit := by
  refine walk_self true true ha.plain (fun k => h.auditDirs ha) ?_ ha.fuel
  rcases h.audit with hn | ⟨i, _, _, hs, _⟩
  · exact symTarget_of_look_none hn
  · exact hs

theorem RunInv.auditWrite (ha : AuditOk dest audit cfg fs0) (hfresh0 : ∀ p i, fs0.look p = some (.ref i) → i < fs0.next)
    {fs : FS} (h : RunInv dest audit fs0 fs) (data : Str) :
    RunInv dest audit fs0 (kWrite fs cfg audit data).1 := by
  unfold kWrite kres
  rw [walk_audit ha h]
  dsimp only
  rcases h.audit with hl | ⟨i, hl, hi0, _, huniq⟩ <;> rw [hl] <;> dsimp only
  · have hlook q := look_setName (fs.alloc ⟨.file data, 0o644⟩) audit q (.ref fs.next)
    have hnext := h.next
    refine ⟨?_, ?_, ?_, ?_, ?_, Nat.le_succ_of_le h.next⟩
    · intro q hq hqa; rw [hlook, if_neg hqa]; exact h.names q hq hqa
    · intro q i hq hqa hl0
      rw [inode_setName, inode_alloc, if_neg (by have := hfresh0 q i hl0; omega)]
      exact h.inodes q i hq hqa hl0
    · obtain ⟨pa, x, hpx⟩ := (eq_nil_or_snoc audit).resolve_left ha.ne
      have hpa : IsDir fs pa := by
        simpa [hpx] using h.auditDirs ha (k := pa.length) (by simp [hpx])
      rw [hpx] at hlook hl ⊢
      exact h.inv.setAt hpa hlook (fun hd => absurd hd (not_isDir_of_look_none hl)) (Nat.le_succ _)
        (fun i hi => by cases hi; exact Nat.lt_succ_self _)
    · intro p q i hp hq hlp hlq
      rw [hlook, if_neg (fun e : p = audit => ha.outside (e ▸ hp))] at hlp
      rw [hlook] at hlq
      split at hlq
      · cases hlq; exact absurd (h.inv.fresh p _ hlp) (Nat.lt_irrefl _)
      · exact h.sep p q i hp hq hlp hlq
    · refine Or.inr ⟨fs.next, by rw [hlook, if_pos rfl], h.next, ?_, fun q hq => ?_⟩
      · rw [symTarget_of_ref (by rw [hlook, if_pos rfl]), inode_setName, inode_alloc, if_pos rfl]; rfl
      · rw [hlook] at hq
        split at hq
        · assumption
        · exact absurd (h.inv.fresh q _ hq) (Nat.lt_irrefl _)
  · cases hi : fs.inode i with
    | none => exact h
    | some ino =>
      obtain ⟨ob, md⟩ := ino
      cases ob with
      | file d =>
        refine ⟨h.names, ?_, ⟨h.inv.wf, h.inv.fresh, h.inv.dirs⟩, h.sep, ?_, h.next⟩
        · intro q j hq hqa hl0
          rw [inode_setInode, if_neg (by have := hfresh0 q j hl0; omega)]
          exact h.inodes q j hq hqa hl0
        · refine Or.inr ⟨i, hl, hi0, ?_, huniq⟩
          rw [symTarget_of_ref (fs := fs.setInode i _) hl, inode_setInode, if_pos rfl]; rfl
      | _ => exact h

theorem RunInv.step (hall : cfg.Checked) (hdne : dest ≠ []) (hdp : ∀ c ∈ dest, c ≠ dot ∧ c ≠ dotdot)
    (hfuel : dest.length ≤ cfg.fuel) (ha : AuditOk dest audit cfg fs0)
    (hfresh0 : ∀ p i, fs0.look p = some (.ref i) → i < fs0.next)
    (st : St) (m : Member) (h : RunInv dest audit fs0 st.fs) :
    RunInv dest audit fs0 (stepMember cfg dest audit st m).fs := by
  unfold stepMember
  by_cases herr : st.err.isSome = true
  · rw [if_pos herr]; exact h
  · rw [if_neg herr]
    cases hd : dispatch cfg m with
    | error e => exact h
    | ok act =>
      cases act with
      | skip => exact h
      | audit =>
        dsimp only
        by_cases hty : m.type = .sym ∨ m.type = .lnk
        · rw [if_pos hty]; exact h
        rw [if_neg hty]
        by_cases hreg : m.type ≠ .reg
        · rw [if_pos hreg]; exact h
        rw [if_neg hreg]
        have hw := RunInv.auditWrite ha hfresh0 h m.data
        cases (kWrite st.fs cfg audit m.data).2 <;> exact hw
      | content m' =>
        simp only []
        cases hck : checkMember cfg st.fs dest m' with
        | error e => exact h
        | ok u =>
          cases u
          simp only []
          cases hft : tarFilter cfg st.fs dest m' with
          | error e => exact h
          | ok m'' =>
            simp only []
            have := extractMember_conf hall hdne hdp hfuel h.inv hck hft st.prev
            exact RunInv.member ha h this.1 this.2

theorem RunInv.run (hall : cfg.Checked) (hdne : dest ≠ []) (hdp : ∀ c ∈ dest, c ≠ dot ∧ c ≠ dotdot)
    (hfuel : dest.length ≤ cfg.fuel) (ha : AuditOk dest audit cfg fs0)
    (hinv : Inv dest fs0) (hsep : Sep dest fs0) (vsn : Option Str) (ms : List Member) :
    RunInv dest audit fs0 (extractPackage cfg dest audit vsn fs0 ms).fs := by
  unfold extractPackage
  split
  · exact RunInv.init hinv hsep ha
  · refine List.foldlRecOn (motive := fun st => RunInv dest audit fs0 st.fs) ms _ ?_
      (fun st h m _ => RunInv.step hall hdne hdp hfuel ha hinv.fresh st m h)
    exact RunInv.init hinv hsep ha

end Run

def isDirB (fs : FS) (p : Path) : Bool :=
  match fs.look p with
  | some (.dir _) => true
  | _ => false

theorem isDirB_iff {fs : FS} {p : Path} : isDirB fs p = true ↔ IsDir fs p := by
  unfold isDirB IsDir
  cases h : fs.look p with
  | none => simp
  | some e => cases e <;> simp

def wfCheck (fs : FS) : Bool := fs.names.all (fun kv => kv.1 = [] || isDirB fs kv.1.dropLast)

theorem wf_of_check {fs : FS} (h : wfCheck fs = true) : WF fs := by
  intro p c e hl
  have hm := aget_mem hl
  unfold wfCheck at h
  rw [List.all_eq_true] at h
  have := h _ hm
  simp only [List.dropLast_concat, Bool.or_eq_true, decide_eq_true_eq] at this
  rcases this with h1 | h2
  · simp at h1
  · exact isDirB_iff.mp h2

def freshCheck (fs : FS) : Bool :=
  fs.names.all (fun kv => match kv.2 with | .ref i => decide (i < fs.next) | _ => true)

theorem fresh_of_check {fs : FS} (h : freshCheck fs = true) : ∀ p i, fs.look p = some (.ref i) → i < fs.next := by
  intro p i hl
  have hm := aget_mem hl
  unfold freshCheck at h
  rw [List.all_eq_true] at h
  simpa using h _ hm

def dirsCheck (dest : Path) (fs : FS) : Bool := (List.range (dest.length + 1)).all (fun k => isDirB fs (dest.take k))

theorem dirs_of_check {dest : Path} {fs : FS} (h : dirsCheck dest fs = true) :
    ∀ k, k ≤ dest.length → IsDir fs (dest.take k) := by
  intro k hk
  unfold dirsCheck at h
  rw [List.all_eq_true] at h
  exact isDirB_iff.mp (h k (by simp; omega))

theorem inv_of_check {dest : Path} {fs : FS} (h : (wfCheck fs && freshCheck fs && dirsCheck dest fs) = true) : Inv dest fs := by
  simp only [Bool.and_eq_true] at h
  exact ⟨wf_of_check h.1.1, fresh_of_check h.1.2, dirs_of_check h.2⟩

def sepCheck (dest : Path) (fs : FS) : Bool :=
  fs.names.all (fun kv => fs.names.all (fun kw =>
    !(dest.isPrefixOf kv.1) || dest.isPrefixOf kw.1 ||
      (match kv.2, kw.2 with | .ref i, .ref j => decide (i ≠ j) | _, _ => true)))

theorem sep_of_check {dest : Path} {fs : FS} (h : sepCheck dest fs = true) : Sep dest fs := by
  intro p q i hp hq hlp hlq
  have hmp := aget_mem hlp
  have hmq := aget_mem hlq
  unfold sepCheck at h
  rw [List.all_eq_true] at h
  have h1 := h _ hmp
  rw [List.all_eq_true] at h1
  have h2 := h1 _ hmq
  have hp' : dest.isPrefixOf p = true := List.isPrefixOf_iff_prefix.mpr hp
  have hq' : dest.isPrefixOf q = false := by
    cases hb : dest.isPrefixOf q with
    | false => rfl
    | true => exact absurd (List.isPrefixOf_iff_prefix.mp hb) hq
  simp [hp', hq'] at h2

def auditCheck (dest audit : Path) (cfg : Cfg) (fs : FS) : Bool :=
  decide (audit ≠ []) && audit.all (fun c => decide (c ≠ dot ∧ c ≠ dotdot)) &&
  (List.range audit.length).all (fun k => isDirB fs (audit.take k)) &&
  (fs.look audit).isNone && !(dest.isPrefixOf audit) && decide (audit.length ≤ cfg.fuel)

theorem auditOk_of_check {dest audit : Path} {cfg : Cfg} {fs : FS} (h : auditCheck dest audit cfg fs = true) :
    AuditOk dest audit cfg fs := by
  unfold auditCheck at h
  simp only [Bool.and_eq_true, decide_eq_true_eq, List.all_eq_true, Bool.not_eq_true', Option.isNone_iff_eq_none] at h
  obtain ⟨⟨⟨⟨⟨h1, h2⟩, h3⟩, h4⟩, h5⟩, h6⟩ := h
  refine ⟨h1, h2, ?_, h4, ?_, h6⟩
  · intro k hk; exact isDirB_iff.mp (h3 k (by simpa using hk))
  · intro hin
    have := List.isPrefixOf_iff_prefix.mpr hin
    rw [h5] at this; cases this

end TarExtract
