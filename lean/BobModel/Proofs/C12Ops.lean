import BobModel.Proofs.C12Git
/-
The executable command instance `modelOps` (the one the harness compares with git 2.39)
satisfies `GitContract`, provided the upstream repositories only offer upstream commits.
-/
namespace GitSwitch

/-- every ref offered by an upstream repository names an upstream commit -/
def UnivUp (U : Commit → Prop) (univ : List (String × Upstream)) : Prop :=
  ∀ u up, (u, up) ∈ univ → (∀ n c, (n, c) ∈ up.branches → ¬ U c) ∧ (∀ n c, (n, c) ∈ up.tags → ¬ U c)

variable {D : Dag} {U : Commit → Prop}

/-- the model commands check a condition and fail if it does not hold -/
theorem ok_of_ite {c : Prop} [Decidable c] {x : Except Unit Repo} {b : Repo}
    (h : (if c then x else .error ()) = .ok b) : c ∧ x = .ok b := by
  by_cases hc : c
  · rw [if_pos hc] at h; exact ⟨hc, h⟩
  · rw [if_neg hc] at h; cases h

/-- a successful fetch sets the remote-tracking branches to those of the upstream repository and adds
tags of it; objects aside, nothing else changes -/
theorem mFetch_shape {univ : List (String × Upstream)} {t : Option Name} {r r' : Repo}
    (h : mFetch D univ t r = .ok r') :
    ∃ u up objs tags, (u, up) ∈ univ ∧ r' = { r with objs := objs, remotes := up.branches, tags := tags } ∧
      ∀ x, x ∈ tags → x ∈ r.tags ∨ x ∈ up.tags := by
  unfold mFetch at h
  cases hu : r.url with
  | none => rw [hu] at h; cases h
  | some u =>
    rw [hu] at h
    dsimp only at h
    cases hup : assoc univ u with
    | none => rw [hup] at h; cases h
    | some up =>
      rw [hup] at h
      dsimp only at h
      have hfollow : ∀ (f : Name × Commit → Bool) x, x ∈ r.tags ++ up.tags.filter f → x ∈ r.tags ∨ x ∈ up.tags :=
        fun f x hx => (List.mem_append.mp hx).imp_right fun hf => (List.mem_filter.mp hf).1
      cases t with
      | none => cases h; exact ⟨u, up, _, _, assoc_mem _ _ _ hup, rfl, hfollow _⟩
      | some tg =>
        dsimp only at h
        cases htu : assoc up.tags tg with
        | none => rw [htu] at h; cases h
        | some c =>
          rw [htu] at h
          cases htl : assoc r.tags tg with
          | some c' =>
            rw [htl] at h
            cases (ok_of_ite h).2
            exact ⟨u, up, _, _, assoc_mem _ _ _ hup, rfl, hfollow _⟩
          | none =>
            rw [htl] at h
            cases h
            refine ⟨u, up, _, _, assoc_mem _ _ _ hup, rfl, fun x hx => ?_⟩
            split at hx
            · exact hfollow _ x hx
            · rcases List.mem_append.mp hx with hx | hx
              · exact hfollow _ x hx
              · exact Or.inr (List.mem_singleton.mp hx ▸ assoc_mem _ _ _ htu)

/-- the refs `branch --contains` lists: the current ones whose tip reaches `h` -/
theorem tips_reaching {l : List (Name × Commit)} {h : Commit} {e : Name × Commit}
    (he : e ∈ l.filter (fun (n, t) => assoc l n == some t && reachB D D.fuel t h)) :
    assoc l e.1 = some e.2 ∧ Reach D e.2 h := by
  have := (List.mem_filter.mp he).2
  simp only [Bool.and_eq_true, beq_iff_eq] at this
  exact ⟨this.1, reachB_sound D _ _ _ this.2⟩

theorem modelOps_contract (univ : List (String × Upstream)) (hu : UnivUp U univ) :
    GitContract D U (modelOps D univ) where
  fetch_local := by
    intro t r r' h
    obtain ⟨_, _, _, _, _, rfl, _⟩ := mFetch_shape h
    exact ⟨rfl, rfl, ⟨rfl, rfl⟩, rfl⟩
  fetch_upstream := by
    intro t r r' h hr
    obtain ⟨u, up, _, _, hm, rfl, htags⟩ := mFetch_shape h
    exact ⟨(hu u up hm).1, fun n c hc => (htags (n, c) hc).elim (hr.2 n c) ((hu u up hm).2 n c)⟩
  detach := by
    intro c r r' h
    cases (ok_of_ite (show (if _ then _ else _) = _ from h)).2
    exact ⟨rfl, rfl, ⟨rfl, rfl⟩, rfl, rfl⟩
  branch := by
    intro n r r' h
    have h : mCheckoutBranch D n r = .ok r' := h
    unfold mCheckoutBranch at h
    cases hn : assoc r.heads n with
    | none => rw [hn] at h; cases h
    | some c =>
      rw [hn] at h
      cases (ok_of_ite h).2
      exact ⟨rfl, rfl, ⟨rfl, rfl⟩, rfl, rfl⟩
  new := by
    intro n c r r' h
    obtain ⟨hcond, h⟩ := ok_of_ite (show (if _ then _ else _) = _ from h)
    cases h
    have hnone : assoc r.heads n = none := by
      simp only [Bool.and_eq_true, Option.isNone_iff_eq_none] at hcond
      exact hcond.1.1
    exact ⟨hnone, fun m hm => assoc_append_none _ _ _ _ hm, assoc_append_new _ _ _ hnone, rfl, ⟨rfl, rfl⟩, rfl, rfl⟩
  mergeFF := by
    intro n r r' h
    have h : mMergeFF D n r = .ok r' := h
    unfold mMergeFF at h
    cases hrem : assoc r.remotes n with
    | none => rw [hrem] at h; cases h
    | some t' =>
      cases hhc : r.headCommit with
      | none => rw [hrem, hhc] at h; cases h
      | some hcm =>
        rw [hrem, hhc] at h
        dsimp only at h
        by_cases hup : reachB D D.fuel hcm t' = true
        · -- already up to date
          rw [if_pos hup] at h
          cases h
          exact ⟨rfl, ⟨rfl, rfl⟩, rfl, rfl, Or.inl rfl⟩
        · rw [if_neg hup] at h
          obtain ⟨hcond, h⟩ := ok_of_ite h
          cases hhead : r.head with
          | detached d => rw [hhead] at h; cases h
          | branch b =>
            rw [hhead] at h
            cases h
            refine ⟨rfl, ⟨rfl, rfl⟩, rfl, rfl, Or.inr ⟨b, hcm, t', rfl, ?_,
              reachB_sound D _ t' hcm ((Bool.and_eq_true _ _).mp hcond).1, assoc_setAssoc_same _ _ _,
              fun m hm => assoc_setAssoc_other _ _ _ _ hm⟩⟩
            rw [Repo.headCommit, hhead] at hhc
            exact hhc
  reset := by
    intro c r r' h
    obtain ⟨_, h⟩ := ok_of_ite (show (if _ then _ else _) = _ from h)
    cases hhead : r.head with
    | detached d =>
      rw [hhead] at h
      cases h
      exact ⟨⟨rfl, rfl⟩, rfl, rfl, Or.inr ⟨d, rfl, rfl, rfl⟩⟩
    | branch b =>
      rw [hhead] at h
      cases (ok_of_ite h).2
      exact ⟨⟨rfl, rfl⟩, rfl, rfl, Or.inl ⟨b, rfl, rfl, assoc_setAssoc_same _ _ _,
        fun m hm => assoc_setAssoc_other _ _ _ _ hm⟩⟩
  contains_sound := by
    intro r x h hx hh
    simp only [modelOps, mContains, hh] at hx
    rcases List.mem_append.mp hx with hx | hx
    · obtain ⟨e, hm, rfl⟩ := List.mem_map.mp hx
      exact Or.inl ⟨e.2, tips_reaching hm⟩
    · obtain ⟨e, hm, _⟩ := List.mem_map.mp hx
      exact Or.inr ⟨e.1, e.2, tips_reaching hm⟩
  ancestor_sound := fun a c h => reachB_sound D _ a c h

end GitSwitch
