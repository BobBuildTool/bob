import BobModel.Model.StateFS
import BobModel.Proofs.CommonPrefix
/-
The Adler-32 trailer of the state file: what `__save` writes verifies; short files and zero-filled files do not; for a
single-byte change the arithmetic core (`adler_change`, `trailer_inj`) of `C10.adler_single_byte`.
-/
namespace StateFS

@[simp] theorem trailer_length (p : Bytes) : (trailer p).length = 4 := Bytes.le_length 4 _

theorem verify_short (d : Bytes) (h : d.length < 4) : verify d = false := by
  unfold verify
  have h0 : d.length - 4 = 0 := by omega
  rw [h0]
  simp only [List.take_zero, List.drop_zero, decide_eq_false_iff_not]
  intro heq
  have := congrArg List.length heq
  simp at this
  omega

/-- the `a` component of Adler-32 is `1 + Σ bytes (mod 65521)` -/
def bsum : Bytes → Nat
  | [] => 0
  | x :: xs => x.toNat + bsum xs

theorem go_fst_eq (xs : Bytes) (a b : Nat) (ha : a < 65521) : (Adler32.go xs a b).1 = (a + bsum xs) % 65521 := by
  induction xs generalizing a b with
  | nil => exact (Nat.mod_eq_of_lt ha).symm
  | cons x xs ih =>
    simp only [Adler32.go, bsum]
    rw [ih _ _ (Nat.mod_lt _ (by decide)), Nat.mod_add_mod, Nat.add_assoc]

theorem go_lt (xs : Bytes) (a b : Nat) (ha : a < 65521) (hb : b < 65521) :
    (Adler32.go xs a b).1 < 65521 ∧ (Adler32.go xs a b).2 < 65521 := by
  induction xs generalizing a b with
  | nil => simp [Adler32.go, ha, hb]
  | cons x xs ih =>
    simp only [Adler32.go]
    apply ih <;> omega

theorem adler_mod (p : Bytes) : Adler32.adler32 p % 65536 = (1 + bsum p) % 65521 := by
  have h2 := (go_lt p 1 0 (by decide) (by decide)).1
  rw [← go_fst_eq p 1 0 (by decide)]
  show ((Adler32.go p 1 0).2 * 65536 + (Adler32.go p 1 0).1) % 65536 = _
  rw [Nat.mul_comm, Nat.mul_add_mod]
  exact Nat.mod_eq_of_lt (Nat.lt_trans h2 (by decide))

theorem adler_lt (p : Bytes) : Adler32.adler32 p < 4294967296 := by
  unfold Adler32.adler32
  have h := go_lt p 1 0 (by omega) (by omega)
  generalize Adler32.go p 1 0 = r at h
  obtain ⟨a, b⟩ := r
  simp only at h ⊢
  omega

theorem trailer_inj {p q : Bytes} (h : trailer p = trailer q) : Adler32.adler32 p = Adler32.adler32 q :=
  Bytes.le_inj 4 (adler_lt p) (adler_lt q) h

theorem bsum_append (a b : Bytes) : bsum (a ++ b) = bsum a + bsum b := by
  induction a with
  | nil => simp [bsum]
  | cons x xs ih => simp [bsum, ih]; omega

/-- replacing one byte changes the Adler-32 value: already the byte sum mod 65521 differs -/
theorem adler_change (pre suf : Bytes) (x y : UInt8) (h : x ≠ y) :
    Adler32.adler32 (pre ++ x :: suf) ≠ Adler32.adler32 (pre ++ y :: suf) := by
  intro heq
  have hx := adler_mod (pre ++ x :: suf)
  rw [heq, adler_mod, bsum_append, bsum_append] at hx
  simp only [bsum] at hx
  have hx' := x.toNat_lt
  have hy' := y.toNat_lt
  exact h (UInt8.toNat_inj.mp (by omega))

theorem verify_append4 (q t : Bytes) (ht : t.length = 4) : verify (q ++ t) = decide (trailer q = t) := by
  unfold verify
  have h : (q ++ t).length - 4 = q.length := by simp [ht]
  rw [h]
  simp

theorem verify_enc (p : Bytes) : verify (enc p) = true := by
  rw [enc, verify_append4 _ _ (trailer_length p)]
  exact decide_eq_true rfl

theorem bsum_zeros (k : Nat) : bsum (List.replicate k (0 : UInt8)) = 0 := by
  induction k with
  | zero => rfl
  | succ k ih => simp [List.replicate_succ, bsum, ih]

/-- a file of zero bytes (what delayed allocation leaves) never verifies -/
theorem verify_zeros (n : Nat) : verify (List.replicate n (0 : UInt8)) = false := by
  by_cases hn : n < 4
  · exact verify_short _ (by simpa using hn)
  · have hsplit : List.replicate n (0 : UInt8) = List.replicate (n - 4) 0 ++ List.replicate 4 0 := by
      rw [List.replicate_append_replicate]; congr 1; omega
    rw [hsplit, verify_append4 _ _ (by simp)]
    simp only [decide_eq_false_iff_not]
    intro ht
    have hm := adler_mod (List.replicate (n - 4) (0 : UInt8))
    rw [bsum_zeros] at hm
    simp only [trailer, Bytes.le, List.replicate, List.cons.injEq] at ht
    have h0 := congrArg UInt8.toNat ht.1
    simp at h0
    omega

end StateFS
