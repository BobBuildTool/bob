import BobModel.Proofs.C11Hash
import BobModel.Proofs.C11Cache
/-
C11: concrete instances used by the non-vacuity examples of Props/C11.lean.
-/
namespace DirHash.Ex
open DirHash

/-- a toy hash with 20 byte values: injective on strings shorter than 20 bytes -/
def exH (b : Bytes) : Bytes := (b ++ 1 :: List.replicate 20 0).take 20

theorem exH_len (b : Bytes) : (exH b).length = 20 := by simp [exH]

/-- `a` (0644, content 01) -/
def exA : Forest := .cons [97] (.file 0o644 [1]) .nil

/-- `a` (0755, content 01) and an ignored `.git/x`: a chmod neighbour of `exA` -/
def exB : Forest :=
  .cons [97] (.file 0o755 [1]) (.cons [46, 103, 105, 116] (.dir 0o755 (.cons [120] (.file 0o644 []) .nil)) .nil)

theorem exA_inputs : hashInputs exH exA =
    [[164, 129, 0, 0, 1, 1, 0, 0, 0, 0, 0, 0, 0, 0, 0, 0, 0, 0, 0, 0, 0, 0, 0, 0, 97], [1]] := by rfl

theorem exB_inputs : hashInputs exH exB =
    [[237, 129, 0, 0, 1, 1, 0, 0, 0, 0, 0, 0, 0, 0, 0, 0, 0, 0, 0, 0, 0, 0, 0, 0, 97], [1]] := by rfl

/-- listing order `b`, `a`: a symlink and a regular file -/
def exTree : Forest := .cons [98] (.link 0o777 [2]) (.cons [97] (.file 0o644 [1]) .nil)

def exStat (p : Bytes) : Stat := ⟨100, 200, 1, (if p = [97] then 10 else 11), 0, 1⟩

/-- an old index that is out of order, with a stale record for `a` (older mtime, garbage digest),
a correct record for `b` and a foreign record -/
def exIx : Option (List Rec) := some [
  ⟨[98], statFor exStat [98] (.link 0o777 [2]), exH [2]⟩,
  ⟨[97], ⟨100, 199, 1, 10, 0o100644, 1⟩, [9, 9, 9]⟩,
  ⟨[122], ⟨0, 0, 0, 0, 0, 0⟩, []⟩]

theorem exTree_visited : visited exTree = [([97], .file 0o644 [1]), ([98], .link 0o777 [2])] := by rfl

/-- two states of a history: `a` is rewritten (same size), its mtime changes -/
def exS1 : FsState := ⟨.cons [97] (.file 0o644 [1]) .nil, fun _ => ⟨100, 200, 1, 10, 0, 1⟩⟩

def exS2 : FsState := ⟨.cons [97] (.file 0o644 [2]) .nil, fun _ => ⟨101, 201, 1, 10, 0, 1⟩⟩

def exD (_ : Bytes) (st : Stat) : Bytes := if st.mtime = 200 then exH [1] else exH [2]

/-- the sort-order trap: directory `a` (with `x`) and file `a.b` -/
def exO : Forest := .cons [97] (.dir 0o755 (.cons [120] (.file 0o644 []) .nil)) (.cons [97, 46, 98] (.file 0o644 []) .nil)

end DirHash.Ex
