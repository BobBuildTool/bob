import BobModel.Proofs.C05Emit
import BobModel.Proofs.C01Done
/-
C05, "no false up-to-date": composition of `cut_in_script_unclaimed` / `unclaimed_step_is_rerun`
through the depth-first driver.  From a state in which nothing is claimed about workspace `p`
(`NoClaim`), every successful invocation (without `--no-deps`; with `--checkout-only` only if the
step at `p` is a checkout step) of a project that reaches a step at `p` starts the script of `p`.

Invariant of the driver (`RInv`): either nothing is claimed about `p` and the step at `p` has not
been cooked in this invocation (`wasRun p = none`), or the script of `p` has been started.  It is
kept by every cook function: a cook function of another path does not write the components of `p`
(`FrameAt`), the cook function of `p` itself starts the script when nothing is claimed
(`cookBuild_emits`, `cookCheckout_emits`, `preparePackage_unclaimed` + `cookPackage_emits`; between
`_preparePackageStep` and `_cookPackageStep` the dependencies do not touch `p`: `hac`).  A
successful invocation marks its target as run, and with it every step of `reach T` (`RInv.closed`,
which handles steps shared by workspace path), hence the first alternative is excluded at the end.
No hypothesis on the environment, the scripts or the state (`Truthful` is not needed); of the project:
workspace paths identify steps (`hinj`) and no step shares its workspace with one below it (`hac`).
-/
namespace Builder

variable {E : Env}

def Emitted (p : Path) (r : Run) : Prop := Op.scriptBegin p ∈ r.log

/-- `pend` is the point (see the head of the file); `mem` and `closed` are `MemOK` -/
structure RInv (T : Step) (p : Path) (r : Run) : Prop where
  /-- cached entries are valid (`_wasAlreadyRun` never drops one) -/
  mem : ∀ u ∈ subtrees T, ∀ x, r.mem.wasRun u.path = some x → x.1 = vid u
  /-- a step is marked only after everything below it -/
  closed : ∀ u ∈ subtrees T, Ran r u.path → ∀ v ∈ reach u, Ran r v.path
  pend : (NoClaim r.st p ∧ r.mem.wasRun p = none) ∨ Emitted p r

/-- result of cooking (at least) the steps `S`; the inputs recorded for `p` are touched only if `p ∈ P` -/
structure RPost (T : Step) (p : Path) (r : Run) (P : List Path) (S : List Step) (r' : Run) : Prop where
  inv : RInv T p r'
  mono : ∀ q, Ran r q → Ran r' q
  ran : ∀ u ∈ S, Ran r' u.path
  keep : p ∉ P → r'.st.inputs p = r.st.inputs p
  emitted : Emitted p r → Emitted p r'

theorem Emitted.mono {p : Path} {r r' : Run} (hl : ∃ l, r'.log = r.log ++ l) (h : Emitted p r) : Emitted p r' := by
  obtain ⟨l, e⟩ := hl
  unfold Emitted
  rw [e]
  exact List.mem_append_left l h

theorem RInv.memOK {T : Step} {p : Path} {r : Run} (hi : RInv T p r) : MemOK T r := ⟨hi.mem, hi.closed⟩

/-- a cook function of path `q` keeps the invariant if, when `q = p` and nothing is claimed about `p`,
it establishes some `X` that leaves `p` unclaimed or has its script started -/
theorem leaf_inv {T : Step} {p q : Path} {m : M Unit} {X : Run → Prop} (hc : Confined q m) (r : Run) (hi : RInv T p r)
    (hX : ∀ r', X r' → NoClaim r'.st p ∨ Emitted p r')
    (hx : q = p → NoClaim r.st p → wp m (fun _ r' => X r') (fun _ => True) r) :
    wp m (fun _ r' => RInv T p r' ∧ (Emitted p r → Emitted p r') ∧ (q = p → NoClaim r.st p → X r'))
      (fun _ => True) r := by
  have hx' : wp m (fun _ r' => q = p → NoClaim r.st p → X r') (fun _ => True) r := by
    by_cases h : q = p ∧ NoClaim r.st p
    · exact wp_post (fun _ _ h' _ _ => h') (hx h.1 h.2)
    · exact wp_post (fun _ _ _ h1 h2 => absurd ⟨h1, h2⟩ h) (hc.steps r)
  refine wp_post ?_ (wp_frame (hc.steps r) hx')
  intro _ r' ⟨⟨hs, hmem⟩, hnc⟩
  have hem : Emitted p r → Emitted p r' := Emitted.mono hs.log
  have hn' : r.mem.wasRun p = none → r'.mem.wasRun p = none := by
    rw [hmem]
    exact id
  refine ⟨⟨?_, ?_, ?_⟩, hem, hnc⟩
  · intro u hu x hx
    rw [hmem] at hx
    exact hi.mem u hu x hx
  · intro u hu hr v hv
    exact (ran_of_mem_eq hmem).mpr (hi.closed u hu ((ran_of_mem_eq hmem).mp hr) v hv)
  · rcases hi.pend with ⟨nc, hn⟩ | he
    · by_cases hq : q = p
      · exact (hX r' (hnc hq nc)).imp (fun h => ⟨h, hn' hn⟩) id
      · obtain ⟨_, e2, e3, _, _⟩ := hs.st p fun h => hq (List.mem_singleton.mp h).symm
        exact Or.inl ⟨noclaim_congr e2 e3 nc, hn' hn⟩
    · exact Or.inr (hem he)

/-- a cook function of path `q` that starts the script of `q` when nothing is claimed about `q` -/
theorem leaf_cook {T : Step} {p q : Path} {m : M Unit} (hc : Confined q m) (r : Run) (hi : RInv T p r)
    (hx : q = p → NoClaim r.st p → wp m (fun _ r' => Emitted p r') (fun _ => True) r) :
    wp m (fun _ r' => RInv T p r' ∧ (q = p → Emitted p r')) (fun _ => True) r :=
  wp_post (fun _ _ ⟨hi', he, hx'⟩ => ⟨hi', fun hq => hi.pend.elim (fun nc => hx' hq nc.1) he⟩)
    (leaf_inv hc r hi (fun _ => Or.inr) hx)

/-- in checkout-only mode the workspace `p` must belong to a checkout step (build and package steps
are not executed then) -/
def CoOK (T : Step) (p : Path) (co : Bool) : Prop :=
  co = true → ∀ u ∈ subtrees T, u.path = p → u.kind = .checkout

/-- the step at `p` is not marked as run before its script has been started: a cook function of
another path does not write the components of `p`, the one of `p` starts the script when nothing is
claimed -/
theorem rerun_spec {cfg : Cfg} {T : Step} {p : Path}
    (hinj : ∀ u ∈ subtrees T, ∀ v ∈ subtrees T, u.path = v.path → u = v)
    (hac : ∀ u ∈ subtrees T, u.path ∉ pathsL u.deps) (hnd : cfg.noDeps = false) :
    DriverSpec E cfg (fun t => ∀ u ∈ subtrees t, u ∈ subtrees T) (CoOK T p) (RInv T p) (fun _ => True)
      (fun r r' => ∀ q, Ran r q → Ran r' q) (fun t r => Ran r t.path) (fun t r => t.path = p → Emitted p r)
      (fun _ _ => True) where
  sub w _ hd u hu := w u (subtrees_of_dep hd hu)
  okFalse h := nomatch h
  ofMem e _ hp := (ran_of_mem_eq e).mpr hp
  trans h1 h2 q hq := h2 q (h1 q hq)
  gMono g q := q _ g
  nLocal _ _ _ := trivial
  skip h := by rw [hnd] at h; cases h
  was := @fun t co r w _ hi => wp_wasAlreadyRun_ok (w t (self_mem_subtrees t)) co _ _ r hi.memOK
    (fun hran => ⟨hi, fun _ h => h, fun _ => hran, fun h => nomatch h⟩)
    (fun _ => ⟨hi, fun _ h => h, (fun h => nomatch h), fun _ => trivial⟩)
  mark := @fun t c s r w _ hi gp gd => by
    unfold setAlreadyRun
    simp only [wp_bind, wp_getMem, wp_setMem]
    obtain ⟨hok, hmono, hran⟩ := hi.memOK.mark hinj (w t (self_mem_subtrees t)) (c := c) (hi.memOK.below w gd)
      (m := ⟨upd r.mem.wasRun t.path (some (vid t, c)), upd r.mem.wasSkipped t.path s⟩) rfl
    refine ⟨⟨hok.valid, hok.closed, ?_⟩, hmono, hran⟩
    rcases hi.pend with ⟨nc, hn⟩ | he
    · by_cases hq : t.path = p
      · exact Or.inr (gp hq)
      · exact Or.inl ⟨nc, (upd_other _ _ _ _ fun h => hq h.symm).trans hn⟩
    · exact Or.inr he
  -- in checkout-only mode a build / package step is not at `p`
  skipMark := @fun t _ w hck hk _ hq => absurd (hck rfl t (w t (self_mem_subtrees t)) hq) hk
  checkout := @fun i pre ds r _ _ hi _ _ =>
    leaf_cook (confined_cookCheckout cfg i ds) r hi fun hq nc => by subst hq; exact cookCheckout_emits cfg i ds r nc
  build := @fun i pre ds r _ _ hi _ _ =>
    leaf_cook (confined_cookBuild cfg i ds) r hi fun hq nc => by subst hq; exact cookBuild_emits cfg i ds r nc
  package := @fun i pre ds r w _ hi _ => by
    have hnot : i.path ∉ pathsL ds := hac _ (w _ (self_mem_subtrees _))
    -- `_preparePackageStep` deletes the input hashes of an unclaimed workspace; the dependencies do
    -- not touch them (`hac`)
    refine wp_post ?_ (leaf_inv (X := fun r' => r'.st.inputs p = none) (confined_preparePackage i ds) r hi
      (fun _ h => Or.inl (Or.inl h)) fun hq nc => by subst hq; exact preparePackage_unclaimed i ds r nc)
    intro _ r1 ⟨hi1, he1, hin1⟩
    refine ⟨hi1, fun r3 hi3 ht3 hl3 _ _ => leaf_cook (confined_cookPackage cfg i pre ds) r3 hi3 fun hq _ => ?_⟩
    rcases hi.pend with ⟨nc, _⟩ | he
    · subst hq
      exact cookPackage_emits cfg i pre ds r3 ((ht3 i.path hnot).2.1.trans (hin1 rfl nc))
    · exact stays_in_log (confined_cookPackage cfg i pre ds (logmono_own _)) (Emitted.mono hl3 (he1 he))

theorem cook_rerun {cfg : Cfg} {T : Step} {p : Path}
    (hinj : ∀ u ∈ subtrees T, ∀ v ∈ subtrees T, u.path = v.path → u = v)
    (hac : ∀ u ∈ subtrees T, u.path ∉ pathsL u.deps) (hnd : cfg.noDeps = false) {co : Bool}
    (hck : CoOK T p co) (r : Run) (hi : RInv T p r) :
    wp (cookStep E cfg co T) (fun _ r' => RPost T p r (paths T) (reach T) r') (fun _ => True) r := by
  refine wp_post ?_ (((rerun_spec hinj hac hnd).cook T fun _ hu => hu).1 co hck r hi)
  intro _ r' ⟨hi', hr, hs, hg⟩
  exact ⟨hi', hr, hi'.closed T (self_mem_subtrees T) hg, fun hn => (hs.st p hn).2.1, Emitted.mono hs.log⟩

/-- **an unclaimed workspace is cooked again**: from any state that claims nothing about `p`, a
successful invocation (all dependencies; with `--checkout-only` if the step at `p` is a checkout
step) of a project that reaches a step at `p` starts the script of `p`. -/
theorem rerun_of_unclaimed {cfg : Cfg} {T : Step} {p : Path}
    (hinj : ∀ u ∈ subtrees T, ∀ v ∈ subtrees T, u.path = v.path → u = v)
    (hac : ∀ u ∈ subtrees T, u.path ∉ pathsL u.deps) (hnd : cfg.noDeps = false)
    (st : St) (hnc : NoClaim st p) (fuel : Nat) (r' : Run)
    (h : invoke E cfg T fuel st = .ok () r') (u : Step) (hu : u ∈ reach T) (hp : u.path = p)
    (hco : cfg.checkoutOnly = true → u.kind = .checkout) :
    Op.scriptBegin p ∈ r'.log := by
  have hi0 : RInv T p { st := st, mem := Mem.init, fuel := fuel, log := [] } := by
    refine ⟨?_, ?_, Or.inl ⟨hnc, rfl⟩⟩
    · intro u _ x hx; simp [Mem.init] at hx
    · intro u _ hr; simp [Ran, Mem.init] at hr
  have hck : CoOK T p cfg.checkoutOnly := by
    intro hc u' hu' hpu'
    have : u' = u := hinj u' hu' u (reach_sub_subtrees T u hu) (hpu'.trans hp.symm)
    rw [this]
    exact hco hc
  unfold invoke cook at h
  have hk := wp_ok (cook_rerun (E := E) hinj hac hnd hck _ hi0) h
  have hr := hk.ran u hu
  rcases hk.inv.pend with ⟨_, hn⟩ | he
  · unfold Ran at hr
    rw [hp, hn] at hr
    cases hr
  · exact he

end Builder
