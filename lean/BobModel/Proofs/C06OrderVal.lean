import BobModel.Proofs.C06OrderDeps
/-
The dataflow invariant.  Given **once** (`OnceInv`), the state form of **deps_first** (`DepsAtEnd`: when a script is
about to end, the scripts of all valid dependencies of its step have ended successfully) and `ReadsDeps`, every
successfully ended script has left `value` in its workspace, and it stays there; `value` is any solution of the
equation of the sequential dataflow that agrees on steps which share a workspace.
-/
namespace Sched
open JobSem

/-- what a script reads is cooked before it: `bidDeps` (valid arguments and tools) are valid dependencies -/
def ReadsDeps (P : Project) : Prop := ∀ s d, d ∈ (P.info s).bidDeps → d ∈ (P.info s).deps ∧ (P.info d).valid = true

/-- state form of deps_first: a task suspended in the script of `s` has all valid dependencies of `s` finished -/
def DepsAtEnd (P : Project) (st : St) : Prop :=
  ∀ t s r rest, (st.task t).ops = .runWait s r :: rest → depsDone P st s

def ValInv (P : Project) (value : Nat → Nat) (st : St) : Prop :=
  ∀ t s, Ev.fin t s true ∈ st.trace → st.diskAt (P.info s).path = value s

theorem finishedOk_witness {P : Project} {tr : List Ev} {p : Nat} (h : finishedOk P tr p = true) :
    ∃ t x, Ev.fin t x true ∈ tr ∧ (P.info x).path = p := by
  unfold finishedOk at h
  rw [List.any_eq_true] at h
  obtain ⟨e, he, hp⟩ := h
  cases e with
  | fin t x ok =>
    cases ok <;> simp at hp
    exact ⟨t, x, he, hp⟩
  | _ => simp at hp

theorem status_of_finished (P : Project) (p : Nat) : ∀ (tr : List Ev) (s0 : WsStatus), legalFrom P p s0 tr = true →
    (s0 = .ok ∨ finishedOk P tr p = true) → statusOf P p s0 tr = .ok
  | [], s0, _, h => by
    rcases h with h | h
    · simpa [statusOf] using h
    · simp [finishedOk] at h
  | e :: r, s0, hl, h => by
    cases e
    case start t x =>
      simp only [legalFrom, statusOf] at hl ⊢
      split at hl
      · rename_i hp
        simp only [hp, ↓reduceIte]
        simp only [Bool.and_eq_true, Bool.or_eq_true, beq_iff_eq] at hl
        refine status_of_finished P p r _ hl.2 (Or.inr ?_)
        rcases h with h | h
        · subst h; rcases hl.1 with e | e <;> cases e
        · simpa [finishedOk] using h
      · rename_i hp
        simp only [hp, Bool.false_eq_true, ↓reduceIte]
        refine status_of_finished P p r _ hl ?_
        rcases h with h | h
        · exact Or.inl h
        · exact Or.inr (by simpa [finishedOk] using h)
    case fin t x ok =>
      simp only [legalFrom, statusOf] at hl ⊢
      split at hl
      · rename_i hp
        simp only [hp, ↓reduceIte]
        simp only [Bool.and_eq_true, beq_iff_eq] at hl
        refine status_of_finished P p r _ hl.2 ?_
        rcases h with h | h
        · subst h; cases hl.1
        · cases ok
          · right; simpa [finishedOk] using h
          · left; rfl
      · rename_i hp
        simp only [hp, Bool.false_eq_true, ↓reduceIte]
        refine status_of_finished P p r _ hl ?_
        rcases h with h | h
        · exact Or.inl h
        · right
          simp only [finishedOk, List.any_cons, Bool.or_eq_true] at h
          rcases h with h | h
          · cases ok <;> simp [hp] at h
          · exact h
    all_goals exact status_of_finished P p r s0 hl h

theorem diskAt_insert_self (st : St) (p v : Nat) : ({ st with disk := insert p v st.disk } : St).diskAt p = v := by
  simp [St.diskAt, lookup_insert_self]

theorem diskAt_insert_ne (st : St) (p q v : Nat) (h : q ≠ p) :
    ({ st with disk := insert p v st.disk } : St).diskAt q = st.diskAt q := by
  simp [St.diskAt, lookup_insert_ne _ _ _ _ h]

theorem ValInv.step {P : Project} {cfg : Cfg} {st st' : St} {c : Choice} {value : Nat → Nat}
    (hval : ∀ s, value s = P.run s ((P.info s).bidDeps.map value))
    (hpath : ∀ s s', (P.info s).path = (P.info s').path → value s = value s') (hrd : ReadsDeps P)
    (ho : OnceInv P st) (hd : DepsAtEnd P st) (hi : ValInv P value st)
    (h : Sched.step P cfg st c = some st') : ValInv P value st' := by
  have same : st'.trace = st.trace → st'.disk = st.disk → ValInv P value st' := by
    intro h1 h2 t s hm
    rw [h1] at hm
    have := hi t s hm
    simpa [St.diskAt, h2] using this
  have task : ∀ {t : Nat} {op : Op} {rest : List Op}, (st.task t).ops = op :: rest → Step P cfg st t op rest st' →
      ValInv P value st' := by
    intro t op rest hops hs
    by_cases hrw : ∃ s r, op = .runWait s r
    · obtain ⟨s, r, e⟩ := hrw
      subst e
      have hdeps := hd t s r rest hops
      have hrun := ho.rwRunning t s r rest hops
      -- the inputs are the values of the dependencies
      have hin : inputs P st s = (P.info s).bidDeps.map value := by
        unfold inputs
        apply List.map_congr_left
        intro d hdm
        obtain ⟨h1, h2⟩ := hrd s d hdm
        obtain ⟨t', x, hm, hp⟩ := finishedOk_witness (hdeps d h1 h2)
        rw [← hp, hi t' x hm]
        exact hpath x d hp
      -- a successful end in another workspace, or an earlier one
      have old : ∀ {ok : Bool} {t' s' : Nat}, Ev.fin t' s' true ∈ st.trace ++ [Ev.fin t s ok] →
          (P.info s').path ≠ (P.info s).path → Ev.fin t' s' true ∈ st.trace := fun hm hp => by
        rcases List.mem_append.mp hm with hm | hm
        · exact hm
        · cases List.mem_singleton.mp hm; exact absurd rfl hp
      cases hs with
      | rule hr =>
        cases hr with
        | finish => exact same rfl rfl
        | finOk =>
          intro t' s' hm
          simp only [setTask_trace, emit_trace] at hm
          show St.diskAt ({ st with disk := insert (P.info s).path (P.run s (inputs P st s)) st.disk } : St) _ = _
          by_cases hp : (P.info s').path = (P.info s).path
          · rw [hp, diskAt_insert_self, hin, ← hval]
            exact hpath s s' hp.symm
          · rw [diskAt_insert_ne _ _ _ _ hp]
            exact hi t' s' (old hm hp)
      | raise hr =>
        cases hr with
        | finFail =>
          intro t' s' hm
          simp only [setTask_trace, emit_trace] at hm
          show St.diskAt ({ st with disk := insert (P.info s).path (P.junk s) st.disk } : St) _ = _
          by_cases hp : (P.info s').path = (P.info s).path
          · exfalso
            -- a workspace with a successful end is never started again
            have hm' : Ev.fin t' s' true ∈ st.trace := by
              rcases List.mem_append.mp hm with hm | hm
              · exact hm
              · cases List.mem_singleton.mp hm
            have h1 := status_of_finished P (P.info s).path st.trace .idle (ho.legal _)
              (Or.inr (by rw [← hp]; exact finishedOk_of_mem hm'))
            rw [hrun] at h1
            cases h1
          · rw [diskAt_insert_ne _ _ _ _ hp]
            exact hi t' s' (old hm hp)
      | tok hr => cases hr with
        | got he | blocked he | woken he => cases he
        | released hl => cases hl
      | relFailed hl => cases hl
      | lock hr => cases hr
      | unlockFailed e | endOk e | endCancel e | endBuild e | endInternal e => cases e
    · have hne : ∀ s r, op ≠ .runWait s r := fun s r e => hrw ⟨s, r, e⟩
      have hdisk := hs.disk hne
      obtain ⟨evs, he, hn⟩ := hs.emits hops
      intro t' s' hm
      have hm' : Ev.fin t' s' true ∈ st.trace := by
        rw [he] at hm
        rcases List.mem_append.mp hm with hm | hm
        · exact hm
        · exfalso
          cases hn with
          | quiet _ hq => have := hq _ hm; simp [Ev.quiet, Ev.isFin] at this
          | start s r ho' => simp at hm
          | fin s ok r ho' => rw [hops] at ho'; cases ho'; exact hne _ _ rfl
          | setRun s sk r ho' => simp at hm
      have := hi t' s' hm'
      simpa [St.diskAt, hdisk] using this
  cases step_move h with
  | env => exact same rfl rfl
  | task hops hs | finish hops hs => exact task hops hs

end Sched
