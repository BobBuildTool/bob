import BobModel.Proofs.C06OrderOnce
/-
**deps_first**, definitions and the general form of a step.

`gchk` walks along a continuation and checks that every need of an operation holds already or is covered by an
operation in front of it.  It is instantiated for "the scripts of all valid dependencies of `s` have ended
successfully" (`Full.chk`: needed by every operation that leads to a script start of `s` — `lock s _ false`,
`lockWait`, `underLock`, `run`, `runWait` —, covered by the `_cook` of the dependencies, the spawn of their cook tasks,
`yieldRel` / `gather` on these tasks and, in the sequential scheduler, `spawnSeq` / `results`) and for "task `k` is
done" (`Full.chkD`: needed by `spawnSeq .cook _ false made` for the tasks in `made`, covered by `waitOnly` /
`yieldRel _ false`).  `Full.DepsInv` adds what the coverage rests on: a cook task that ended without an exception
has left a successful end of a script of its workspace (`liveOK`), `wasRun` says "run" only for such workspaces,
`cookTasks` maps a key to a cook task of that workspace (`Track`).
-/
namespace Sched
open JobSem

theorem finishedOk_append {P : Project} (tr evs : List Ev) (p : Nat) (h : finishedOk P tr p = true) :
    finishedOk P (tr ++ evs) p = true := by
  simp only [finishedOk, List.any_append, Bool.or_eq_true] at *
  exact Or.inl h

theorem finishedOk_of_mem {P : Project} {tr : List Ev} {t x : Nat} (h : Ev.fin t x true ∈ tr) :
    finishedOk P tr (P.info x).path = true := by
  unfold finishedOk
  rw [List.any_eq_true]
  exact ⟨_, h, by simp⟩

theorem finishedOk_fin {P : Project} (tr : List Ev) (t s : Nat) :
    finishedOk P (tr ++ [Ev.fin t s true]) (P.info s).path = true :=
  finishedOk_of_mem (List.mem_append_right _ (List.mem_singleton.mpr rfl))

theorem depsFirstFrom_append {P : Project} (pre a b : List Ev) :
    depsFirstFrom P pre (a ++ b) = (depsFirstFrom P pre a && depsFirstFrom P (pre ++ a) b) := by
  induction a generalizing pre with
  | nil => simp [depsFirstFrom]
  | cons e r ih =>
    simp only [List.cons_append, depsFirstFrom, ih, List.append_assoc, List.nil_append, Bool.and_assoc]

theorem depsFirstFrom_quiet {P : Project} (pre evs : List Ev) (h : ∀ e ∈ evs, e.isStart = false) :
    depsFirstFrom P pre evs = true := by
  induction evs generalizing pre with
  | nil => rfl
  | cons e r ih =>
    have he := h e (by simp)
    simp only [depsFirstFrom, Bool.and_eq_true]
    refine ⟨?_, ih _ (fun e' he' => h e' (by simp [he']))⟩
    cases e with
    | start => cases he
    | _ => rfl

def depsDone (P : Project) (st : St) (s : Nat) : Prop :=
  ∀ d ∈ (P.info s).deps, (P.info d).valid = true → finishedOk P st.trace (P.info d).path = true

/-- task `k` is the cook task (not checkout-only) of a valid step in the workspace of `d` -/
def cooks (P : Project) (st : St) (k d : Nat) : Prop :=
  ∃ d', (st.task k).kind = .cook d' false ∧ (P.info d').valid = true ∧ (P.info d').path = (P.info d).path

def needs (P : Project) (o : Op) (s' : Nat) : Prop :=
  match o with
  | .lock s co dl => dl = false ∧ s' = s ∧ willRun P s co
  | .lockWait s co dl => dl = false ∧ s' = s ∧ willRun P s co
  | .underLock s co => s' = s ∧ willRun P s co
  | .run s => s' = s
  | .runWait s _ => s' = s
  | _ => False

/-- every valid dependency of `s` is finished, or listed in `l`, or cooked by one of the tasks `ks` -/
def covered (P : Project) (st : St) (s : Nat) (l ks : List Nat) : Prop :=
  ∀ d ∈ (P.info s).deps, (P.info d).valid = true →
    finishedOk P st.trace (P.info d).path = true ∨ d ∈ l ∨ ∃ k ∈ ks, cooks P st k d

/-- walk along a continuation: every need of an operation holds already or is covered by an operation in front of it -/
def gchk (nd cv : Op → Nat → Prop) : (Nat → Prop) → List Op → Prop
  | _, [] => True
  | C, o :: r => (∀ s, nd o s → C s) ∧ gchk nd cv (fun s => C s ∨ cv o s) r

theorem gchk_mono {nd cv cv' : Op → Nat → Prop} (hcov : ∀ o s, cv o s → cv' o s) :
    ∀ (l : List Op) (C C' : Nat → Prop), (∀ s, C s → C' s) → gchk nd cv C l → gchk nd cv' C' l
  | [], _, _, _, _ => trivial
  | o :: r, C, C', hC, h => by
    refine ⟨fun s hs => hC s (h.1 s hs), gchk_mono hcov r _ _ ?_ h.2⟩
    intro s hs
    rcases hs with hs | hs
    · exact Or.inl (hC s hs)
    · exact Or.inr (hcov o s hs)

theorem gchk_noneed {nd cv : Op → Nat → Prop} : ∀ (l : List Op) (C : Nat → Prop), (∀ o ∈ l, ∀ s, ¬ nd o s) → gchk nd cv C l
  | [], _, _ => trivial
  | o :: r, C, h => ⟨fun s hs => absurd hs (h o (by simp) s), gchk_noneed r _ (fun o' ho' => h o' (by simp [ho']))⟩

theorem gchk_append {nd cv : Op → Nat → Prop} : ∀ (a b : List Op) (C : Nat → Prop), gchk nd cv C a →
    gchk nd cv (fun s => C s ∨ ∃ o ∈ a, cv o s) b → gchk nd cv C (a ++ b)
  | [], b, C, _, hb => by
    refine gchk_mono (fun _ _ h => h) b _ _ ?_ hb
    intro s hs
    rcases hs with hs | ⟨o, ho, _⟩
    · exact hs
    · cases ho
  | o :: a, b, C, ha, hb => by
    refine ⟨ha.1, gchk_append a b _ ha.2 (gchk_mono (fun _ _ h => h) b _ _ ?_ hb)⟩
    intro s hs
    rcases hs with hs | ⟨o', ho', hc⟩
    · exact Or.inl (Or.inl hs)
    · rcases List.mem_cons.mp ho' with e | e
      · subst e; exact Or.inl (Or.inr hc)
      · exact Or.inr ⟨o', e, hc⟩

theorem gchk_replace {nd cv cv' : Op → Nat → Prop} {H H' : Nat → Prop} {op : Op} {rest body : List Op}
    (hD : ∀ s, H s → H' s) (hcov : ∀ o s, cv o s → cv' o s)
    (h : gchk nd cv H (op :: rest)) (hbody : gchk nd cv' H' body)
    (htrans : ∀ s, cv op s → H' s ∨ ∃ o ∈ body, cv' o s) : gchk nd cv' H' (body ++ rest) := by
  refine gchk_append body rest _ hbody (gchk_mono hcov rest _ _ ?_ h.2)
  intro s hs
  rcases hs with hs | hs
  · exact Or.inl (hD s hs)
  · exact htrans s hs

theorem gchk_cons_noneed {nd cv : Op → Nat → Prop} {o : Op} {r : List Op} {C : Nat → Prop} (hn : ∀ s, ¬ nd o s)
    (h : gchk nd cv C r) : gchk nd cv C (o :: r) :=
  ⟨fun s hs => absurd hs (hn s), gchk_mono (fun _ _ h => h) r _ _ (fun _ hs => Or.inl hs) h⟩

/-- every tracked cook task is the cook task of a valid step of the workspace of its key -/
def Track (P : Project) (st : St) : Prop :=
  ∀ key k, (key, k) ∈ st.cookT → ∃ d, (st.task k).kind = .cook d key.2.2 ∧ (P.info d).valid = true ∧ (P.info d).path = key.1

/-- what `__createCookTask` returns for a valid step: a cook task of its workspace -/
theorem createTask_cook {P : Project} {st : St} (hT : Track P st) (s : Nat) (co : Bool) (hv : (P.info s).valid = true) :
    Track P (createTask P st .cook s co).1 ∧
    ∃ d, ((createTask P st .cook s co).1.task (createTask P st .cook s co).2).kind = .cook d co ∧
      (P.info d).valid = true ∧ (P.info d).path = (P.info s).path := by
  unfold createTask
  simp only
  split
  · rename_i k hk
    refine ⟨hT, ?_⟩
    have := hT _ _ (klookup_mem hk)
    simpa [keyOf] using this
  · refine ⟨?_, ?_⟩
    · intro key k hm
      simp only [St.emit, St.setTracker, St.tracker, List.mem_append, List.mem_singleton, Prod.mk.injEq] at hm
      rcases hm with hm | ⟨e1, e2⟩
      · obtain ⟨d, h1, h2, h3⟩ := hT key k hm
        refine ⟨d, ?_, h2, h3⟩
        rw [← h1]
        exact congrArg Task.kind (task_append_left (st := st) rfl (kind_lt h1))
      · subst e1; subst e2
        refine ⟨s, ?_, hv, rfl⟩
        simp [St.task, St.emit, St.setTracker, List.getD, keyOf, mkKind]
    · refine ⟨s, ?_, hv, rfl⟩
      simp [St.task, St.emit, St.setTracker, List.getD, mkKind]

theorem Track.grow {P : Project} {st g : St} {new : List Task} (hT : Track P st) (hg : g.tasks = st.tasks ++ new)
    (hc : ∀ e ∈ g.cookT, e ∈ st.cookT) : Track P g := by
  intro key k hm
  obtain ⟨d, h1, h2, h3⟩ := hT key k (hc _ hm)
  exact ⟨d, by rw [task_append_left hg (kind_lt h1)]; exact h1, h2, h3⟩

theorem Track.same {P : Project} {st g : St} (hT : Track P st) (h1 : g.tasks = st.tasks) (h2 : g.cookT = st.cookT) :
    Track P g :=
  hT.grow (new := []) (by simp [h1]) (by rw [h2]; exact fun e he => he)

theorem cooks_grow {P : Project} {st g : St} {new : List Task} (hg : g.tasks = st.tasks ++ new) {k d : Nat}
    (h : cooks P st k d) : cooks P g k d := by
  obtain ⟨d', h1, h2, h3⟩ := h
  exact ⟨d', by rw [task_append_left hg (kind_lt h1)]; exact h1, h2, h3⟩

/-- `createTasks` for valid steps: every step gets a cook task of its workspace -/
theorem createTasks_cook {P : Project} (co : Bool) : ∀ (steps : List Nat) (st : St), Track P st →
    (∀ d ∈ steps, (P.info d).valid = true) →
    Track P (createTasks P .cook co steps st).1 ∧
    ∀ d ∈ steps, ∃ k ∈ (createTasks P .cook co steps st).2, ∃ d',
      ((createTasks P .cook co steps st).1.task k).kind = .cook d' co ∧ (P.info d').valid = true ∧
      (P.info d').path = (P.info d).path
  | [], st, hT, _ => ⟨hT, by simp⟩
  | s :: r, st, hT, hv => by
    obtain ⟨hT1, d1, k1, k2, k3⟩ := createTask_cook hT s co (hv s (by simp))
    obtain ⟨hT2, h2⟩ := createTasks_cook co r (createTask P st .cook s co).1 hT1 (fun d hd => hv d (by simp [hd]))
    obtain ⟨new, hg⟩ := createTasks_spawn P .cook co r (createTask P st .cook s co).1
    refine ⟨by simpa [createTasks] using hT2, ?_⟩
    intro d hd
    simp only [createTasks]
    rcases List.mem_cons.mp hd with e | e
    · subst e
      exact ⟨_, List.mem_cons.mpr (Or.inl rfl), d1, by rw [task_append_left hg.tasks (kind_lt k1)]; exact k1, k2, k3⟩
    · obtain ⟨k, hk, hc⟩ := h2 d e
      exact ⟨k, by simp [hk], hc⟩

/-- operations of the cook task of `s` (not checkout-only) that still lead to the script of `s` -/
def liveFor (s : Nat) : Op → Bool
  | .start | .startWait => true
  | .cookBody s' co => s' == s && !co
  | .lock s' co dl => s' == s && !co && !dl
  | .lockWait s' co dl => s' == s && !co && !dl
  | .underLock s' co => s' == s && !co
  | .run s' => s' == s
  | .runWait s' _ => s' == s
  | _ => false

/-- cook tasks are only spawned for valid steps -/
def SVop (P : Project) : Op → Prop
  | .spawn .cook todo _ => ∀ d ∈ todo, (P.info d).valid = true
  | .spawnSeq .cook todo _ _ => ∀ d ∈ todo, (P.info d).valid = true
  | _ => True

/-- what keeps `ranFin` true when the run is recorded -/
def setFinOK (P : Project) (tr : List Ev) (ops : List Op) : Prop :=
  ∀ s, Op.setRun s false ∈ ops → finishedOk P tr (P.info s).path = true ∨ Op.run s ∈ ops ∨ ∃ r, Op.runWait s r ∈ ops

def liveOK (P : Project) (tr : List Ev) (x : Task) : Prop :=
  ∀ s, x.kind = .cook s false → (P.info s).valid = true →
    x.err.isSome = true ∨ finishedOk P tr (P.info s).path = true ∨ ∃ o ∈ x.ops, liveFor s o = true

theorem depsDone_mono {P : Project} {st g : St} (h : ∃ evs, g.trace = st.trace ++ evs) (s : Nat)
    (hd : depsDone P st s) : depsDone P g s := by
  obtain ⟨evs, he⟩ := h
  intro d hd1 hd2
  rw [he]; exact finishedOk_append _ _ _ (hd d hd1 hd2)

theorem covered_mono {P : Project} {st g : St} (h : ∃ evs, g.trace = st.trace ++ evs)
    (hk : ∀ k d, cooks P st k d → cooks P g k d) {s : Nat} {l ks : List Nat} (hc : covered P st s l ks) :
    covered P g s l ks := by
  obtain ⟨evs, he⟩ := h
  intro d hd1 hd2
  rcases hc d hd1 hd2 with h | h | ⟨k, hk1, hk2⟩
  · left; rw [he]; exact finishedOk_append _ _ _ h
  · exact Or.inr (Or.inl h)
  · exact Or.inr (Or.inr ⟨k, hk1, hk k d hk2⟩)

theorem cooks_setTask {P : Project} (g : St) (t : Nat) (x' : Task) (hk : x'.kind = (g.task t).kind) (k d : Nat)
    (h : cooks P g k d) : cooks P (g.setTask t x') k d := by
  obtain ⟨d', h1, h2, h3⟩ := h
  exact ⟨d', by rw [task_kind_setTask g t x' hk]; exact h1, h2, h3⟩

theorem Initial.noneed {P : Project} {y : Task} (h : Initial y) : ∀ o ∈ y.ops, ∀ s, ¬ needs P o s := by
  intro o ho s hn
  rcases h.ops_mem o ho with e | e | ⟨a, e⟩ <;> subst e <;> simp [needs] at hn

/-- the check of every continuation after a step of task `t`: the continuations of the other tasks are checked
in `st`, the new one in `g`, and both carry over to `g.setTask t x'`; new tasks need nothing -/
theorem gchk_update {nd cv cvg cv' : Op → Nat → Prop} {H Hg H' : Nat → Prop} {st g : St} {new : List Task} {t : Nat}
    (x' : Task) (hg : GrowT st g new) (ht : t < st.tasks.length)
    (hold : ∀ i, gchk nd cv H (st.task i).ops) (hnew : gchk nd cvg Hg x'.ops)
    (h1 : ∀ o s, cv o s → cv' o s) (h2 : ∀ o s, cvg o s → cv' o s) (hH1 : ∀ s, H s → H' s) (hH2 : ∀ s, Hg s → H' s)
    (hinit : ∀ y, Initial y → ∀ o ∈ y.ops, ∀ s, ¬ nd o s) (i : Nat) :
    gchk nd cv' H' ((g.setTask t x').task i).ops := by
  rcases task_cases x' hg ht i with h | h | h | h
  · rw [h.2]; exact gchk_mono h2 _ _ _ hH2 hnew
  · rw [h.2.2]; exact gchk_mono h1 _ _ _ hH1 (hold i)
  · exact gchk_noneed _ _ (hinit _ h.2.2)
  · rw [h.2.2]; trivial

/-- the obligations about single tasks and the tracker after a step of task `t` -/
theorem tasks_update {P : Project} {st g : St} {new : List Task} {t : Nat} (x' : Task) (hg : GrowT st g new)
    (ht : t < st.tasks.length) (hk : x'.kind = (st.task t).kind) (htr : ∃ evs, g.trace = st.trace ++ evs)
    (hset0 : ∀ i, setFinOK P st.trace (st.task i).ops) (hlive0 : ∀ i, liveOK P st.trace (st.task i))
    (hsv0 : ∀ i, ∀ o ∈ (st.task i).ops, SVop P o)
    (hset : setFinOK P g.trace x'.ops) (hlive : liveOK P g.trace x') (hT : Track P g) (hsv : ∀ o ∈ x'.ops, SVop P o) :
    (∀ i, setFinOK P g.trace ((g.setTask t x').task i).ops) ∧ (∀ i, liveOK P g.trace ((g.setTask t x').task i)) ∧
      Track P (g.setTask t x') ∧ ∀ i, ∀ o ∈ ((g.setTask t x').task i).ops, SVop P o := by
  have hk' : x'.kind = (g.task t).kind := by rw [task_append_left hg.tasks ht]; exact hk
  obtain ⟨evs, he⟩ := htr
  refine ⟨fun i => ?_, fun i => ?_, ?_, fun i o ho => ?_⟩
  · rcases task_cases x' hg ht i with h | h | h | h
    · rw [h.2]; exact hset
    · rw [h.2.2]
      intro s hs
      rcases hset0 i s hs with h1 | h1
      · left; rw [he]; exact finishedOk_append _ _ _ h1
      · exact Or.inr h1
    · intro s hs
      rcases h.2.2.ops_mem _ hs with e | e | ⟨a, e⟩ <;> cases e
    · rw [h.2.2]; intro s hs; cases hs
  · rcases task_cases x' hg ht i with h | h | h | h
    · rw [h.2]; exact hlive
    · rw [h.2.2]
      intro s h1 h2
      rcases hlive0 i s h1 h2 with h3 | h3 | h3
      · exact Or.inl h3
      · right; left; rw [he]; exact finishedOk_append _ _ _ h3
      · exact Or.inr (Or.inr h3)
    · -- a new task starts with `start`
      intro s _ _
      right; right
      rcases h.2.2.2 with e | ⟨a, e⟩ <;> rw [e] <;> exact ⟨.start, by simp, rfl⟩
    · rw [h.2.2]; intro s h1; cases h1
  · intro key k hm
    obtain ⟨d, h1, h2, h3⟩ := hT key k hm
    exact ⟨d, by rw [task_kind_setTask g t x' hk']; exact h1, h2, h3⟩
  · rcases task_cases x' hg ht i with h | h | h | h
    · rw [h.2] at ho; exact hsv o ho
    · rw [h.2.2] at ho; exact hsv0 i o ho
    · rcases h.2.2.ops_mem _ ho with e | e | ⟨a, e⟩ <;> subst e <;> trivial
    · rw [h.2.2] at ho; cases ho

theorem WasOk_false_RanAt {P : Project} {wr : WasRun} {d : Nat} (h : WasOk P wr d false) : RanAt wr (P.info d).path := by
  obtain ⟨sk, h1, h2⟩ := h
  rcases h2 with h2 | h2
  · cases h2
  · subst h2; exact ⟨_, h1⟩

theorem first_start {P : Project} {tr : List Ev} (t s : Nat) (h1 : depsFirstFrom P [] tr = true)
    (h2 : ∀ d ∈ (P.info s).deps, (P.info d).valid = true → finishedOk P tr (P.info d).path = true) :
    depsFirstFrom P [] (tr ++ [Ev.start t s]) = true := by
  rw [depsFirstFrom_append, h1]
  simp only [List.nil_append, depsFirstFrom, Bool.and_true, Bool.true_and]
  rw [List.all_eq_true]
  intro d hd
  cases hv : (P.info d).valid
  · simp
  · simp [h2 d hd hv]

/-- events that start nothing, in the form the steps below take them -/
theorem quiet_isStart {st g : St} (h : ∃ evs, g.trace = st.trace ++ evs ∧ ∀ e ∈ evs, e.quiet = true) :
    ∃ evs, g.trace = st.trace ++ evs ∧ ∀ e ∈ evs, e.isStart = false := by
  obtain ⟨evs, he, hq⟩ := h
  refine ⟨evs, he, fun e hm => ?_⟩
  have := hq e hm
  cases e with
  | start => cases this
  | _ => rfl

namespace Full

/-- every valid dependency of `s` is finished or cooked by one of the tasks `ks`, which is done -/
def coveredDone (P : Project) (st : St) (s : Nat) (ks : List Nat) : Prop :=
  ∀ d ∈ (P.info s).deps, (P.info d).valid = true →
    finishedOk P st.trace (P.info d).path = true ∨ ∃ k ∈ ks, cooks P st k d ∧ (st.task k).ops = []

def covers (P : Project) (st : St) (o : Op) (s : Nat) : Prop :=
  match o with
  | .cook steps co => co = false ∧ covered P st s steps []
  | .spawn trk todo co => trk = .cook ∧ co = false ∧ covered P st s todo []
  | .yieldRel ks rs => rs = true ∧ covered P st s [] ks
  | .gather ks => covered P st s [] ks
  | .spawnSeq trk todo co made => trk = .cook ∧ co = false ∧ covered P st s todo made
  | .results made => coveredDone P st s made
  | _ => False

abbrev chk (P : Project) (st : St) : (Nat → Prop) → List Op → Prop := gchk (needs P) (covers P st)

/-- the sequential spawn loop of cook tasks needs the tasks it has collected to be done -/
def needsD (o : Op) (k : Nat) : Prop :=
  match o with
  | .spawnSeq trk _ co made => trk = .cook ∧ co = false ∧ k ∈ made
  | _ => False

def coversD (st : St) (o : Op) (k : Nat) : Prop :=
  match o with
  | .waitOnly ks => k ∈ ks ∧ k < st.tasks.length
  | .yieldRel ks rs => rs = false ∧ k ∈ ks ∧ k < st.tasks.length
  | _ => False

/-- `k` is bound by the length of the task list (here and in `coversD`) because `St.task` of a number beyond it is the
default task, whose continuation is empty: it would count as done until a task with that number is created -/
def doneAt (st : St) (k : Nat) : Prop := (st.task k).ops = [] ∧ k < st.tasks.length

abbrev chkD (st : St) : (Nat → Prop) → List Op → Prop := gchk needsD (coversD st)

/-- clean-up operations lead to no script and collect no tasks -/
theorem isFin_noneed {P : Project} {o : Op} (h : o.isFin = true) : (∀ s, ¬ needs P o s) ∧ ∀ k, ¬ needsD o k := by
  cases o with
  | release | reacq | reacqWait | unlock | wrapEnd => exact ⟨fun _ => id, fun _ => id⟩
  | _ => cases h

theorem coversD_mono {st g : St} (h : st.tasks.length ≤ g.tasks.length) {o : Op} {k : Nat} (hc : coversD st o k) :
    coversD g o k := by
  cases o <;> simp only [coversD] at hc ⊢
  case waitOnly ks => exact ⟨hc.1, by omega⟩
  case yieldRel ks rs => exact ⟨hc.1, hc.2.1, by omega⟩

theorem covers_mono {P : Project} {st g : St} (h : ∃ evs, g.trace = st.trace ++ evs)
    (hk : ∀ k d, cooks P st k d → cooks P g k d)
    (hdn : ∀ k, k < st.tasks.length → (st.task k).ops = [] → (g.task k).ops = [])
    (o : Op) (s : Nat) (hc : covers P st o s) : covers P g o s := by
  cases o <;> simp only [covers] at hc ⊢
  case cook steps co => exact ⟨hc.1, covered_mono h hk hc.2⟩
  case spawn trk todo co => exact ⟨hc.1, hc.2.1, covered_mono h hk hc.2.2⟩
  case yieldRel ks rs => exact ⟨hc.1, covered_mono h hk hc.2⟩
  case gather ks => exact covered_mono h hk hc
  case spawnSeq trk todo co made => exact ⟨hc.1, hc.2.1, covered_mono h hk hc.2.2⟩
  case results made =>
    obtain ⟨evs, he⟩ := h
    intro d hd hv
    rcases hc d hd hv with h1 | ⟨k, hk1, hk2, hk3⟩
    · left; rw [he]; exact finishedOk_append _ _ _ h1
    · have hlt : k < st.tasks.length := by
        obtain ⟨d', c1, _, _⟩ := hk2
        exact kind_lt c1
      exact Or.inr ⟨k, hk1, hk k d hk2, hdn k hlt hk3⟩

structure DepsInv (P : Project) (st : St) : Prop where
  ranFin : ∀ p, RanAt st.wasRun p → finishedOk P st.trace p = true
  setFin : ∀ i, setFinOK P st.trace (st.task i).ops
  live : ∀ i, liveOK P st.trace (st.task i)
  track : Track P st
  sv : ∀ i, ∀ o ∈ (st.task i).ops, SVop P o
  ord : ∀ i, chk P st (depsDone P st) (st.task i).ops
  first : depsFirstFrom P [] st.trace = true
  ordD : ∀ i, chkD st (doneAt st) (st.task i).ops

theorem DepsInv.update {P : Project} {st g : St} {new : List Task} {t : Nat} (hi : DepsInv P st)
    (hg : GrowT st g new) (ht : t < st.tasks.length) (hne : (st.task t).ops ≠ []) (x' : Task)
    (hk : x'.kind = (st.task t).kind)
    (htr : ∃ evs, g.trace = st.trace ++ evs)
    (hran : ∀ p, RanAt g.wasRun p → finishedOk P g.trace p = true)
    (hset : setFinOK P g.trace x'.ops)
    (hlive : liveOK P g.trace x')
    (hT : Track P g)
    (hsv : ∀ o ∈ x'.ops, SVop P o)
    (hord : chk P g (depsDone P g) x'.ops)
    (hordD : chkD g (doneAt g) x'.ops)
    (hfirst : depsFirstFrom P [] g.trace = true) : DepsInv P (g.setTask t x') := by
  have hgt : g.task t = st.task t := task_append_left hg.tasks ht
  have hk' : x'.kind = (g.task t).kind := by rw [hgt]; exact hk
  have hlen : ∀ k, k < g.tasks.length → k < (g.setTask t x').tasks.length := fun k h => by simpa using h
  -- a task that is done is not `t`, so it is still done
  have hdn2 : ∀ k, doneAt g k → doneAt (g.setTask t x') k := by
    intro k ⟨h1, h2⟩
    have hkt : k ≠ t := by intro e; subst e; rw [hgt] at h1; exact hne h1
    have : (g.setTask t x').task k = g.task k := by simp [St.task, St.setTask, List.getD, Ne.symm hkt]
    exact ⟨by rw [this]; exact h1, hlen k h2⟩
  have hdn1 : ∀ k, doneAt st k → doneAt (g.setTask t x') k := fun k ⟨h1, h2⟩ =>
    hdn2 k ⟨by rw [task_append_left hg.tasks h2]; exact h1, by rw [hg.tasks, List.length_append]; omega⟩
  have hlen1 : st.tasks.length ≤ (g.setTask t x').tasks.length := by
    simp only [setTask_tasks, List.length_set, hg.tasks, List.length_append]; omega
  obtain ⟨a, b, c, d⟩ := tasks_update x' hg ht hk htr hi.setFin hi.live hi.sv hset hlive hT hsv
  refine ⟨hran, a, b, c, d, ?_, hfirst, ?_⟩
  · exact gchk_update x' hg ht hi.ord hord
      (covers_mono (g := g.setTask t x') htr (fun k d h => cooks_setTask g t x' hk' k d (cooks_grow hg.tasks h))
        fun k h1 h2 => (hdn1 k ⟨h2, h1⟩).1)
      (covers_mono (g := g.setTask t x') ⟨[], by simp⟩ (cooks_setTask g t x' hk') fun k h1 h2 => (hdn2 k ⟨h2, h1⟩).1)
      (depsDone_mono (g := g.setTask t x') htr) (fun s hs => hs) (fun _ hy => hy.noneed)
  · exact gchk_update x' hg ht hi.ordD hordD (fun o k hc => coversD_mono hlen1 hc)
      (fun o k hc => coversD_mono (Nat.le_of_eq (by simp)) hc) hdn1 hdn2
      (fun y hy o ho k hn => by rcases hy.ops_mem o ho with e | e | ⟨a, e⟩ <;> subst e <;> exact hn)

/-- What **deps_first** asks of a step of task `t` that replaces the operation `op` at the head of its continuation by
`body` and leaves the shared data as `g`: the operations pushed are justified (`bodyChk`, `setRunHasRun`, `spawnValid`,
`bodyChkD`), and `body` takes over what `op` stood for (`coverKept`, `scriptKept`, `liveKept`, `waitKept`).  The default
of a field is its proof where the obligation is vacuous, so that a step names only the obligations that are not. -/
structure Body (P : Project) (st g : St) (t : Nat) (op : Op) (body : List Op) (e : Option Err) : Prop where
  err : (st.task t).err.isSome = true → e.isSome = true := by exact id
  bodyChk : chk P g (depsDone P g) body := by exact trivial
  coverKept : ∀ s, covers P st op s → depsDone P g s ∨ ∃ o ∈ body, covers P g o s := by exact fun _ h => h.elim
  setRunHasRun : ∀ s, Op.setRun s false ∈ body → finishedOk P g.trace (P.info s).path = true ∨ Op.run s ∈ body := by simp
  scriptKept : ∀ s, (op = .run s ∨ ∃ r, op = .runWait s r) →
    finishedOk P g.trace (P.info s).path = true ∨ Op.run s ∈ body ∨ ∃ r, Op.runWait s r ∈ body := by simp
  liveKept : ∀ s, liveFor s op = true → (st.task t).kind = .cook s false → (P.info s).valid = true →
    finishedOk P g.trace (P.info s).path = true ∨ ∃ o ∈ body, liveFor s o = true := by exact nofun
  spawnValid : ∀ o ∈ body, SVop P o := by exact fun _ h => (List.not_mem_nil h).elim
  bodyChkD : chkD g (doneAt g) body := by exact trivial
  waitKept : ∀ k, coversD st op k → doneAt g k ∨ ∃ o ∈ body, coversD g o k := by exact fun _ h => h.elim

theorem DepsInv.bodyStep {P : Project} {st g : St} {new : List Task} {t : Nat} {op : Op} {rest body : List Op}
    {e : Option Err} (hi : DepsInv P st) (hops : (st.task t).ops = op :: rest) (hg : GrowT st g new)
    (hran : ∀ p, RanAt g.wasRun p → finishedOk P g.trace p = true) (htr' : ∃ evs, g.trace = st.trace ++ evs)
    (hfirst : depsFirstFrom P [] g.trace = true) (hT : Track P g) (h : Body P st g t op body e) :
    DepsInv P (g.setTask t { kind := (st.task t).kind, ops := body ++ rest, err := e }) := by
  obtain ⟨he, bodyChk, coverKept, setRunHasRun, scriptKept, liveKept, spawnValid, bodyChkD, waitKept⟩ := h
  have ht := task_lt hops
  have hne : (st.task t).ops ≠ [] := by rw [hops]; simp
  have hlen : st.tasks.length ≤ g.tasks.length := by rw [hg.tasks, List.length_append]; omega
  have hdn : ∀ k, (st.task k).ops = [] ∧ k < st.tasks.length → (g.task k).ops = [] ∧ k < g.tasks.length := by
    intro k ⟨h1, h2⟩
    exact ⟨by rw [task_append_left hg.tasks h2]; exact h1, by omega⟩
  obtain ⟨evs, hev⟩ := htr'
  have htr' : ∃ evs, g.trace = st.trace ++ evs := ⟨evs, hev⟩
  have hcooks : ∀ k d, cooks P st k d → cooks P g k d := fun k d h => cooks_grow hg.tasks h
  refine hi.update hg ht hne _ rfl htr' hran ?_ ?_ hT ?_ ?_ ?_ hfirst
  rotate_left 4
  · have hordD := hi.ordD t
    rw [hops] at hordD
    exact gchk_replace hdn (fun o k hc => coversD_mono hlen hc) hordD bodyChkD waitKept
  · intro s hs
    simp only [List.mem_append] at hs ⊢
    rcases hs with hs | hs
    · rcases setRunHasRun s hs with h | h
      · exact Or.inl h
      · exact Or.inr (Or.inl (Or.inl h))
    · have hold := hi.setFin t s (by rw [hops]; exact List.mem_cons_of_mem _ hs)
      rw [hops] at hold
      rcases hold with h | h | ⟨r, h⟩
      · left; rw [hev]; exact finishedOk_append _ _ _ h
      · rcases List.mem_cons.mp h with e1 | e1
        · rcases scriptKept s (Or.inl e1.symm) with h' | h' | ⟨r, h'⟩
          · exact Or.inl h'
          · exact Or.inr (Or.inl (Or.inl h'))
          · exact Or.inr (Or.inr ⟨r, Or.inl h'⟩)
        · exact Or.inr (Or.inl (Or.inr e1))
      · rcases List.mem_cons.mp h with e1 | e1
        · rcases scriptKept s (Or.inr ⟨r, e1.symm⟩) with h' | h' | ⟨r', h'⟩
          · exact Or.inl h'
          · exact Or.inr (Or.inl (Or.inl h'))
          · exact Or.inr (Or.inr ⟨r', Or.inl h'⟩)
        · exact Or.inr (Or.inr ⟨r, Or.inr e1⟩)
  · intro s h1 h2
    rcases hi.live t s h1 h2 with h3 | h3 | ⟨o, ho, hl⟩
    · exact Or.inl (he h3)
    · right; left; rw [hev]; exact finishedOk_append _ _ _ h3
    · rw [hops] at ho
      rcases List.mem_cons.mp ho with e1 | e1
      · subst e1
        rcases liveKept s hl h1 h2 with h' | ⟨o', ho', hl'⟩
        · exact Or.inr (Or.inl h')
        · exact Or.inr (Or.inr ⟨o', by simp [ho'], hl'⟩)
      · exact Or.inr (Or.inr ⟨o, by simp [e1], hl⟩)
  · intro o ho
    simp only [List.mem_append] at ho
    rcases ho with ho | ho
    · exact spawnValid o ho
    · exact hi.sv t o (by rw [hops]; exact List.mem_cons_of_mem _ ho)
  · have hord := hi.ord t
    rw [hops] at hord
    exact gchk_replace (fun s hs => depsDone_mono htr' s hs)
      (fun o s h => covers_mono htr' hcooks (fun k h1 h2 => (hdn k ⟨h2, h1⟩).1) o s h) hord bodyChk coverKept

/-- the `wasRun` table is kept and no script starts -/
theorem DepsInv.quiet {P : Project} {st g : St} (hi : DepsInv P st) (hwr : g.wasRun = st.wasRun)
    (htr : ∃ evs, g.trace = st.trace ++ evs ∧ ∀ e ∈ evs, e.isStart = false) :
    (∀ p, RanAt g.wasRun p → finishedOk P g.trace p = true) ∧ (∃ evs, g.trace = st.trace ++ evs) ∧
    depsFirstFrom P [] g.trace = true := by
  obtain ⟨evs, hev, hq⟩ := htr
  refine ⟨?_, ⟨evs, hev⟩, ?_⟩
  · intro p hp
    rw [hwr] at hp
    rw [hev]; exact finishedOk_append _ _ _ (hi.ranFin p hp)
  · rw [hev, depsFirstFrom_append, hi.first, depsFirstFrom_quiet _ _ hq]; rfl

/-- an exception starts to propagate -/
theorem DepsInv.raiseStep {P : Project} {st g : St} {t : Nat} {op : Op} {rest : List Op} (e : Err)
    (hi : DepsInv P st) (hops : (st.task t).ops = op :: rest) (hg : g.tasks = st.tasks) (hc : g.cookT = st.cookT)
    (hwr : g.wasRun = st.wasRun) (htr : ∃ evs, g.trace = st.trace ++ evs ∧ ∀ e ∈ evs, e.isStart = false) :
    DepsInv P (g.setTask t (raise (st.task t) e rest)) := by
  have ht := task_lt hops
  obtain ⟨evs, hev, hq⟩ := htr
  refine hi.update (GrowT.same hg) ht (by rw [hops]; simp) _ rfl ⟨evs, hev⟩ ?_ ?_ ?_ ?_ ?_ (gchk_noneed _ _ fun o ho => (isFin_noneed (List.mem_filter.mp ho).2).1)
    (gchk_noneed _ _ fun o ho => (isFin_noneed (P := P) (List.mem_filter.mp ho).2).2) ?_
  · intro p hp
    rw [hwr] at hp
    rw [hev]; exact finishedOk_append _ _ _ (hi.ranFin p hp)
  · intro s hs
    have := (List.mem_filter.mp hs).2
    simp [Op.isFin] at this
  · intro s _ _
    exact Or.inl rfl
  · exact hi.track.same hg hc
  · intro o ho
    have := (List.mem_filter.mp ho).2
    cases o <;> simp [Op.isFin] at this <;> trivial
  · rw [hev, depsFirstFrom_append, hi.first, depsFirstFrom_quiet _ _ hq]; rfl

end Full

/-! The check with the arms of the parallel scheduler only (`chk`, `covers` without `spawnSeq` / `results`, and no
"task `k` is done" instance) and its invariant `DepsInv`.  Nothing else rests on it: the theorems are those of `Full`. -/

def covers (P : Project) (st : St) (o : Op) (s : Nat) : Prop :=
  match o with
  | .cook steps co => co = false ∧ covered P st s steps []
  | .spawn trk todo co => trk = .cook ∧ co = false ∧ covered P st s todo []
  | .yieldRel ks rs => rs = true ∧ covered P st s [] ks
  | .gather ks => covered P st s [] ks
  | _ => False

def chk (P : Project) (st : St) : (Nat → Prop) → List Op → Prop
  | _, [] => True
  | C, o :: r => (∀ s, needs P o s → C s) ∧ chk P st (fun s => C s ∨ covers P st o s) r

theorem chk_iff_gchk {P : Project} {st : St} : ∀ (l : List Op) (C : Nat → Prop),
    chk P st C l ↔ gchk (needs P) (covers P st) C l
  | [], _ => Iff.rfl
  | _ :: r, _ => and_congr Iff.rfl (chk_iff_gchk r _)

structure DepsInv (P : Project) (st : St) : Prop where
  ranFin : ∀ p, RanAt st.wasRun p → finishedOk P st.trace p = true
  setFin : ∀ i, setFinOK P st.trace (st.task i).ops
  live : ∀ i, liveOK P st.trace (st.task i)
  track : Track P st
  sv : ∀ i, ∀ o ∈ (st.task i).ops, SVop P o
  ord : ∀ i, chk P st (depsDone P st) (st.task i).ops
  first : depsFirstFrom P [] st.trace = true

theorem covers_mono {P : Project} {st g : St} (h : ∃ evs, g.trace = st.trace ++ evs)
    (hk : ∀ k d, cooks P st k d → cooks P g k d) (o : Op) (s : Nat) (hc : covers P st o s) : covers P g o s := by
  cases o <;> simp only [covers] at hc ⊢
  case cook steps co => exact ⟨hc.1, covered_mono h hk hc.2⟩
  case spawn trk todo co => exact ⟨hc.1, hc.2.1, covered_mono h hk hc.2.2⟩
  case yieldRel ks rs => exact ⟨hc.1, covered_mono h hk hc.2⟩
  case gather ks => exact covered_mono h hk hc

theorem DepsInv.update {P : Project} {st g : St} {new : List Task} {t : Nat} (hi : DepsInv P st)
    (hg : GrowT st g new) (ht : t < st.tasks.length) (x' : Task) (hk : x'.kind = (st.task t).kind)
    (htr : ∃ evs, g.trace = st.trace ++ evs)
    (hran : ∀ p, RanAt g.wasRun p → finishedOk P g.trace p = true)
    (hset : setFinOK P g.trace x'.ops)
    (hlive : liveOK P g.trace x')
    (hT : Track P g)
    (hsv : ∀ o ∈ x'.ops, SVop P o)
    (hord : chk P g (depsDone P g) x'.ops)
    (hfirst : depsFirstFrom P [] g.trace = true) : DepsInv P (g.setTask t x') := by
  have hk' : x'.kind = (g.task t).kind := by rw [task_append_left hg.tasks ht]; exact hk
  obtain ⟨a, b, c, d⟩ := tasks_update x' hg ht hk htr hi.setFin hi.live hi.sv hset hlive hT hsv
  refine ⟨hran, a, b, c, d, fun i => (chk_iff_gchk _ _).mpr ?_, hfirst⟩
  exact gchk_update x' hg ht (fun i => (chk_iff_gchk _ _).mp (hi.ord i)) ((chk_iff_gchk _ _).mp hord)
    (covers_mono (g := g.setTask t x') htr fun k d h => cooks_setTask g t x' hk' k d (cooks_grow hg.tasks h))
    (covers_mono (g := g.setTask t x') ⟨[], by simp⟩ (cooks_setTask g t x' hk'))
    (depsDone_mono (g := g.setTask t x') htr) (fun s hs => hs) (fun _ hy => hy.noneed) i

end Sched
