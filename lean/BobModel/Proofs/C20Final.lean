import BobModel.Proofs.C20Loop
import BobModel.Proofs.C20Dfs
import BobModel.Proofs.C20Names
/-
C20: putting the phases together -- the state after `sanitize` satisfies the invariant on every DAG.
`WF`, the hypothesis on graph and roots of the property theorems about the result of `sanitize` / `genJobs` (the merge
theorems take `Inv`), is defined here.
-/
namespace Jenkins

/-- the inputs the theorems quantify over: any finite DAG of package steps (given by a rank function),
ids below `n`, valid dependencies among the dependencies -/
structure WF (g : Graph) (n : Nat) (roots : List Nat) : Prop where
  dag : ∃ rank : Nat → Nat, (∀ v, ∀ d ∈ g.deps v, rank d < rank v) ∧ ∀ v, rank v ≤ n
  depsLt : ∀ v, ∀ d ∈ g.deps v, d < n
  rootsLt : ∀ r ∈ roots, r < n
  vdeps : ∀ v, ∀ d ∈ g.vdeps v, d ∈ g.deps v

/-- a chain `v -> v + 1` below `n` is a DAG: rank `n - v` -/
theorem WF.of_chain {g : Graph} {n : Nat} {roots : List Nat}
    (hd : ∀ v, ∀ d ∈ g.deps v, d = v + 1 ∧ d < n) (hr : ∀ r ∈ roots, r < n)
    (hv : ∀ v, ∀ d ∈ g.vdeps v, d ∈ g.deps v) : WF g n roots :=
  { dag := ⟨fun v => n - v, fun v d h => by have := hd v d h; show n - d < n - v; omega, fun v => Nat.sub_le n v⟩
    depsLt := fun v d h => (hd v d h).2
    rootsLt := hr
    vdeps := hv }

theorem dfsInv_init (g : Graph) (n : Nat) (A : Nat → Prop) : DfsInv g n A St.init :=
  { id := fun _ _ h => nomatch h
    node := fun _ h => nomatch h
    names := ⟨List.nodup_nil, List.nodup_nil, fun _ => ⟨fun h => (nomatch h), fun h => (nomatch h)⟩⟩
    done := fun _ h => nomatch h }

theorem addRoots_spec {g : Graph} {iso : Str → Bool} {rank : Nat → Nat} {n : Nat}
    (hr : ∀ v, ∀ d ∈ g.deps v, rank d < rank v) (hwf : ∀ v, ∀ d ∈ g.deps v, d < n) (hrk : ∀ v, rank v ≤ n) :
    ∀ (roots : List Nat) (s : St), (∀ r ∈ roots, r < n) → DfsInv g n (fun _ => False) s →
      DfsInv g n (fun _ => False) (addRoots g iso (n + 1) roots s) ∧
      Stab s (addRoots g iso (n + 1) roots s) ∧ ∀ r ∈ roots, (addRoots g iso (n + 1) roots s).v2j r = some r := by
  intro roots
  induction roots with
  | nil => intro s _ h; exact ⟨h, Stab.refl s, fun r hr => nomatch hr⟩
  | cons r roots ih =>
    intro s hlt h
    simp only [addRoots, List.foldl_cons]
    have p := addStep_spec (iso := iso) hr hwf (n + 1) r [] s _ (Nat.lt_succ_of_le (hrk r)) (fun _ a => a.elim)
      (hlt r List.mem_cons_self) h (fun p hp => nomatch hp)
    obtain ⟨q1, q3, q4⟩ := ih _ (fun x hx => hlt x (List.mem_cons_of_mem _ hx)) p.inv
    refine ⟨q1, p.stab.trans q3, fun x hx => ?_⟩
    rcases List.mem_cons.mp hx with rfl | hx
    · exact (q3 x p.done.1).1
    · exact q4 x hx

/-- after spanning the graph, all nodes done: the invariant of the merge phase holds (singleton jobs) -/
theorem dfs_inv {g : Graph} {rank : Nat → Nat} {n : Nat} {s : St} (hr : ∀ v, ∀ d ∈ g.deps v, rank d < rank v)
    (h : DfsInv g n (fun _ => False) s) : Inv g n s := by
  have live : ∀ v k, s.v2j v = some k → s.v2j v = some v := fun v k hv => by rw [hv, h.id v k hv]
  have done : ∀ v, s.v2j v = some v → Done g s v := fun v hv => h.done v hv id
  have known : ∀ v, s.v2j v ≠ none → s.v2j v = some v := fun v hv => by
    obtain ⟨k, hk⟩ := Option.ne_none_iff_exists'.mp hv; exact live v k hk
  have same : ∀ a b, SameJobV s.v2j a b → a = b := by
    rintro a b ⟨k, ha', hb'⟩; rw [← h.id a k ha', ← h.id b k hb']
  have closed : ∀ v, s.v2j v ≠ none → ∀ d ∈ g.deps v, s.v2j d ≠ none := fun v hv d hd => by
    simp [((done v (known v hv)).2.2 d hd).1]
  -- jobs are single package steps: the quotient graph is the graph of dependencies
  have q2d : ∀ a b, QReachV g s.v2j a b → DReach g a b := by
    intro a b r
    induction r with
    | refl => exact Reach.refl _
    | tail _ e ih =>
      rcases e with e | ⟨_, e⟩
      · exact same _ _ e ▸ ih
      · exact Reach.tail ih e
  have d2q : ∀ a b, s.v2j a ≠ none → DReach g a b → QReachV g s.v2j a b := by
    intro a b ha' r
    induction r with
    | refl => exact Reach.refl _
    | tail _ e ih => exact Reach.tail ih (Or.inr ⟨known_of_reach closed ih ha', e⟩)
  exact {
    lt := fun v k hv => (h.node v (live v k hv)).lt
    rep := fun v k hv => h.id v k hv ▸ hv
    closed := closed
    pkgs := fun k hk w => by
      rw [(h.node k hk).pkgs, List.mem_singleton]
      exact ⟨fun e => e ▸ hk, fun hw => (h.id w k hw).symm⟩
    parents := fun k hk p => by
      constructor
      · intro hp
        obtain ⟨a, b⟩ := (h.node k hk).parents p hp
        exact ⟨by simp [a], k, hk, b⟩
      · rintro ⟨hp, w, hw, hd⟩
        obtain rfl : k = w := h.id w k hw
        exact ((done p (known p hp)).2.2 k hd).2
    childs := fun k hk w =>
      ⟨fun hw => d2q k w (by simp [hk]) ((h.node k hk).childs w hw), fun r => (done k hk).2.1 w (q2d k w r)⟩
    acyclic := fun v w r1 r2 hv => by
      rcases (q2d v w r1).rank_lt hr with rfl | e
      · exact ⟨w, known w hv, known w hv⟩
      · rcases (q2d w v r2).rank_lt hr with rfl | e'
        · exact ⟨v, known v hv, known v hv⟩
        · omega }

theorem sanitize_final {g : Graph} {n : Nat} {roots : List Nat} (iso : Str → Bool) (wf : WF g n roots) :
    Inv g n (sanitizeSt g n iso roots) ∧ NamesOk (sanitizeSt g n iso roots).names (sanitizeSt g n iso roots) ∧
      ∀ r ∈ roots, (sanitizeSt g n iso roots).v2j r ≠ none := by
  obtain ⟨rank, hr, hrk⟩ := wf.dag
  obtain ⟨a1, _, a4⟩ := addRoots_spec (iso := iso) hr wf.depsLt hrk roots St.init wf.rootsLt (dfsInv_init g n _)
  have hinv := dfs_inv hr a1
  obtain ⟨b1, b2⟩ := mergeAll_spec (isort strLe ((addRoots g iso (n + 1) roots St.init).names.map (·.1)))
    hinv a1.names
  exact ⟨b1, b2, fun r hr' => mergeAll_known _ _ r (by simp [a4 r hr'])⟩

end Jenkins
