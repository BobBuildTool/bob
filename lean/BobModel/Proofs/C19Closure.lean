import BobModel.Proofs.C19Spec
/-
C19: the work-list closure of `doArchiveClean` terminates within its fuel and computes exactly the build ids
reachable from the directly retained ones.
-/
namespace Retention

theorem mem_refsOf {refs : List (Bid × Bid)} {a b : Bid} : b ∈ refsOf refs a ↔ (a, b) ∈ refs := by
  simp only [refsOf, List.mem_map, List.mem_filter, beq_iff_eq]
  constructor
  · rintro ⟨⟨_, _⟩, ⟨hp, rfl⟩, rfl⟩
    exact hp
  · exact fun h => ⟨(a, b), ⟨h, rfl⟩, rfl⟩

/-- references whose owner is not retained yet: each of them can still be pushed once -/
def pending (refs : List (Bid × Bid)) (ret : List Bid) : List (Bid × Bid) :=
  refs.filter fun p => !ret.contains p.1

theorem pending_cons {refs : List (Bid × Bid)} {ret : List Bid} {t : Bid} (ht : ret.contains t = false) :
    (pending refs (t :: ret)).length + (refsOf refs t).length = (pending refs ret).length := by
  induction refs with
  | nil => rfl
  | cons p rest ih =>
    simp only [pending, refsOf, List.filter_cons, List.contains_cons] at ih ⊢
    by_cases hp : p.1 = t
    · -- an edge out of `t` leaves the pending edges and is pushed
      simp only [hp, ht, beq_self_eq_true, Bool.true_or, Bool.not_true, Bool.false_eq_true, if_false, Bool.not_false,
        if_true, List.map_cons, List.length_cons]
      omega
    · simp only [beq_false_of_ne hp, Bool.false_or, Bool.false_eq_true, if_false]
      split
      · simp only [List.length_cons]; omega
      · exact ih

/-- what the loop maintains -/
structure CInv (refs : List (Bid × Bid)) (D ret todo : List Bid) : Prop where
  soundRet : ∀ x ∈ ret, Reach refs D x
  soundTodo : ∀ x ∈ todo, Reach refs D x
  base : ∀ x ∈ D, x ∈ ret
  closed : ∀ a ∈ ret, ∀ b, (a, b) ∈ refs → b ∈ ret ∨ b ∈ todo

theorem closureAux_spec (refs : List (Bid × Bid)) (D : List Bid) (n : Nat) (ret todo : List Bid)
    (hf : todo.length + (pending refs ret).length ≤ n) (h : CInv refs D ret todo) :
    CInv refs D (closureAux refs n ret todo) [] := by
  fun_induction closureAux refs n ret todo with
  | case1 ret todo =>
    cases todo with
    | nil => exact h
    | cons _ _ => simp at hf
  | case2 n ret => exact h
  | case3 n ret t todo hc ih =>
    -- `t` is retained already
    refine ih (by simp only [List.length_cons] at hf; omega)
      ⟨h.soundRet, fun x hx => h.soundTodo x (List.mem_cons_of_mem _ hx), h.base, fun a ha b hab => ?_⟩
    rcases h.closed a ha b hab with h' | h'
    · exact Or.inl h'
    · exact (List.mem_cons.mp h').elim (fun e => Or.inl (e ▸ List.contains_iff_mem.mp hc)) Or.inr
  | case4 n ret t todo hc ih =>
    have ht : Reach refs D t := h.soundTodo t List.mem_cons_self
    -- `t` is new: its references leave the pending edges and are pushed
    have hp := pending_cons (refs := refs) (Bool.eq_false_iff.mpr hc)
    refine ih (by simp only [List.length_cons, List.length_append] at hf ⊢; omega) ⟨?_, ?_, ?_, ?_⟩
    · exact fun x hx => (List.mem_cons.mp hx).elim (· ▸ ht) (h.soundRet x)
    · exact fun x hx => (List.mem_append.mp hx).elim (fun hx => Reach.step ht (mem_refsOf.mp hx))
        fun hx => h.soundTodo x (List.mem_cons_of_mem _ hx)
    · exact fun x hx => List.mem_cons_of_mem _ (h.base x hx)
    · intro a ha b hab
      rw [List.mem_cons, List.mem_append, mem_refsOf]
      rcases List.mem_cons.mp ha with rfl | ha
      · exact Or.inr (Or.inl hab)
      · rcases h.closed a ha b hab with h' | h'
        · exact Or.inl (Or.inr h')
        · exact (List.mem_cons.mp h').elim (fun e => Or.inl (Or.inl e)) fun h' => Or.inr (Or.inr h')

theorem closure_cinv (refs : List (Bid × Bid)) (D : List Bid) : CInv refs D (closure refs D) [] := by
  unfold closure
  apply closureAux_spec
  · have := List.length_filter_le (fun p : Bid × Bid => !D.contains p.1) refs
    simp only [pending]
    omega
  · refine ⟨fun x hx => Reach.base hx, ?_, fun x hx => hx, ?_⟩
    · intro x hx
      obtain ⟨a, ha, hxa⟩ := List.mem_flatMap.mp hx
      exact Reach.step (Reach.base ha) (mem_refsOf.mp hxa)
    · intro a ha b hab
      exact Or.inr (List.mem_flatMap.mpr ⟨a, ha, mem_refsOf.mpr hab⟩)

theorem mem_closure {refs : List (Bid × Bid)} {D : List Bid} {x : Bid} : x ∈ closure refs D ↔ Reach refs D x := by
  have h := closure_cinv refs D
  constructor
  · exact h.soundRet x
  · intro hr
    induction hr with
    | base hb => exact h.base _ hb
    | step _ hab ih =>
      rcases h.closed _ ih _ hab with h' | h'
      · exact h'
      · simp at h'

theorem reach_mono {r1 r2 : List (Bid × Bid)} (h : ∀ p ∈ r1, p ∈ r2) {D1 D2 : List Bid} (hD : ∀ b ∈ D1, b ∈ D2) {x : Bid}
    (hr : Reach r1 D1 x) : Reach r2 D2 x := by
  induction hr with
  | base hb => exact Reach.base (hD _ hb)
  | step _ hab ih => exact Reach.step ih (h _ hab)

theorem reach_congr {r1 r2 : List (Bid × Bid)} (h : ∀ p, p ∈ r1 ↔ p ∈ r2) {D1 D2 : List Bid} (hD : ∀ b, b ∈ D1 ↔ b ∈ D2)
    {x : Bid} : Reach r1 D1 x ↔ Reach r2 D2 x :=
  ⟨reach_mono (fun p => (h p).mp) fun b => (hD b).mp, reach_mono (fun p => (h p).mpr) fun b => (hD b).mpr⟩

end Retention
