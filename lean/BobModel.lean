-- Root of the `BobModel` library: imports every model, proof and property file.
import BobModel.Util.Bytes
import BobModel.Util.Sha1
import BobModel.Util.Proto
import BobModel.Proofs.CommonPrefix
import BobModel.Proofs.CommonSort
import BobModel.Props.C02
import BobModel.Props.C03
import BobModel.Props.C10
import BobModel.Props.C11
import BobModel.Props.C14
import BobModel.Props.C17
import BobModel.Props.C20
import BobModel.Props.C08
import BobModel.Props.C16
import BobModel.Props.C19
import BobModel.Props.C06
import BobModel.Props.C07
import BobModel.Props.C04
import BobModel.Props.C18
import BobModel.Props.C01
import BobModel.Props.C05
import BobModel.Props.C15
import BobModel.Props.C09
import BobModel.Props.C13
import BobModel.Props.C12
